/-
Normal forms of the burst path of the world model, in an arbitrary world: the window of a draw,
what `send_msg` emits, `handleDataMsg` as its suppression decision (`dropDecision`) followed by the
NOPE branch (`suppressOut`) or the completion branch (`passOn`), what `handleDataMsg`, `forwardMsg`
and `clckTick` can do to the world (`BurstFrame`: drop counters go down, the randomness stream
advances, nothing else moves), and when a call returns normally.
-/
import OsmoVerif.Lemmas.World
import OsmoVerif.Lemmas.WorldCodec
import OsmoVerif.Model.WorldSched

namespace OsmoVerif.World
open OsmoVerif

/-! ### randomness -/

theorem draw_window (seed k : Nat) (lo hi v : Int) (h : draw seed k lo hi = .ok v) :
    lo ≤ v ∧ v ≤ hi := by
  unfold draw at h
  split at h
  · cases h
  · rename_i hlt
    injection h with h
    have hpos : (0 : Int) < hi - lo + 1 := by omega
    have h1 := Int.emod_nonneg ((seed + 7919 * k : Nat) : Int) (Int.ne_of_gt hpos)
    have h2 := Int.emod_lt_of_pos ((seed + 7919 * k : Nat) : Int) hpos
    omega

theorem draw_ok_iff (seed k : Nat) (lo hi : Int) : (∃ v, draw seed k lo hi = .ok v) ↔ lo ≤ hi := by
  unfold draw
  constructor
  · rintro ⟨v, h⟩
    split at h
    · cases h
    · omega
  · intro h
    rw [if_neg (by omega)]
    exact ⟨_, rfl⟩

theorem randint_ok {w w' : World} {lo hi v : Int} (h : w.randint lo hi = .ok (v, w')) :
    lo ≤ v ∧ v ≤ hi ∧ w' = { w with drawK := w.drawK + 1 } := by
  unfold World.randint at h
  split at h
  · cases h
  · rename_i v' hd
    cases h
    exact ⟨(draw_window _ _ _ _ _ hd).1, (draw_window _ _ _ _ _ hd).2, rfl⟩

theorem randint_total (w : World) {lo hi : Int} (h : lo ≤ hi) :
    ∃ v, w.randint lo hi = .ok (v, { w with drawK := w.drawK + 1 }) := by
  obtain ⟨v, hv⟩ := (draw_ok_iff w.seed w.drawK lo hi).2 h
  exact ⟨v, by simp only [World.randint, hv]⟩

/-- `w'` is `w` after some more draws from the randomness stream -/
def Drew (w w' : World) : Prop := ∃ n, w' = { w with drawK := w.drawK + n }

theorem Drew.refl (w : World) : Drew w w := ⟨0, rfl⟩

theorem Drew.trans {a b c : World} (h1 : Drew a b) (h2 : Drew b c) : Drew a c := by
  obtain ⟨n, rfl⟩ := h1
  obtain ⟨m, rfl⟩ := h2
  exact ⟨n + m, by simp only [Nat.add_assoc]⟩

theorem Drew.trxs {a b : World} (h : Drew a b) : b.trxs = a.trxs := by
  obtain ⟨n, rfl⟩ := h; rfl

/-- a world that differs from `w` at most in the position of the randomness stream -/
def DrawOnly (w w' : World) : Prop := ∃ n, w' = { w with drawK := n }

theorem Drew.drawOnly {a b : World} (h : Drew a b) : DrawOnly a b := by
  obtain ⟨n, rfl⟩ := h; exact ⟨_, rfl⟩

theorem DrawOnly.seed {a b : World} (h : DrawOnly a b) : b.seed = a.seed := by
  obtain ⟨n, rfl⟩ := h; rfl

theorem randAround_ok {w w' : World} {base thr v : Int} (h : randAround w base thr = .ok (v, w')) :
    base - thr ≤ v ∧ v ≤ base + thr ∧ Drew w w' := by
  unfold randAround at h
  split at h
  · rename_i h0
    cases h
    exact ⟨by omega, by omega, Drew.refl _⟩
  · obtain ⟨a, b, c⟩ := randint_ok h
    exact ⟨a, b, 1, c⟩

theorem randAround_total (w : World) (base : Int) {thr : Int} (h : 0 ≤ thr) :
    ∃ v w', randAround w base thr = .ok (v, w') := by
  unfold randAround
  split
  · exact ⟨_, _, rfl⟩
  · obtain ⟨v, hv⟩ := randint_total w (show base - thr ≤ base + thr by omega)
    exact ⟨v, _, hv⟩

/-! ### DATA socket -/

/-- the datagram a transceiver's DATA socket emits for a payload -/
def dataDgram (t : Trx) (payload : List Nat) : Dgram := ⟨t.dataPort, t.addr, t.dataRemote, payload⟩

/-- shape of the output of one `handleDataMsg` call: nothing, or one datagram to the own DATA peer -/
def OneToPeer (self : Trx) (ds : List Dgram) : Prop := ds = [] ∨ ∃ b, ds = [dataDgram self b]

/-- `DATAInterface.send_msg`: one datagram with the generated octets; nothing when `gen_msg`
raised ValueError; any other exception propagates -/
theorem sendMsg_eq (t : Trx) (m : Trxd.RxMsg) (l : Bool) :
    sendMsg t m l =
      match m.genMsg l with
      | .ok b => .ok [dataDgram t b]
      | .error .valueError => .ok []
      | .error e => .error (ofTrxdExc e) := by
  unfold sendMsg Trxd.sendMsg
  cases h : m.genMsg l with
  | ok b => rfl
  | error e => cases e <;> rfl

theorem sendMsg_ok {t : Trx} {m : Trxd.RxMsg} {l : Bool} {ds : List Dgram}
    (h : sendMsg t m l = .ok ds) :
    (∃ b, m.genMsg l = .ok b ∧ ds = [dataDgram t b]) ∨
    (m.genMsg l = .error .valueError ∧ ds = []) := by
  rw [sendMsg_eq] at h
  split at h
  · rename_i b hb
    cases h
    exact .inl ⟨b, hb, rfl⟩
  · rename_i hb
    cases h
    exact .inr ⟨hb, rfl⟩
  · cases h

theorem sendMsg_shape {t : Trx} {m : Trxd.RxMsg} {l : Bool} {ds : List Dgram}
    (h : sendMsg t m l = .ok ds) : OneToPeer t ds := by
  rcases sendMsg_ok h with ⟨b, _, h⟩ | ⟨_, h⟩
  · exact .inr ⟨b, h⟩
  · exact .inl h

/-- `DATAInterface.send_msg` never raises: `gen_msg` can only fail with the ValueError it catches -/
theorem sendMsg_total (t : Trx) (m : Trxd.RxMsg) (l : Bool) : ∃ ds, sendMsg t m l = .ok ds := by
  rw [sendMsg_eq]
  rcases Trxd.RxMsg.genMsg_safe m l with ⟨b, hb⟩ | he
  · rw [hb]; exact ⟨_, rfl⟩
  · rw [he]; exact ⟨_, rfl⟩

/-! ### decomposition of `handleDataMsg` -/

/-- one simulated burst loss: `burst_drop_amount -= 1` of transceiver `k` -/
def decDrop (w : World) (k : Nat) : World :=
  setTrx w k (fun t => { t with dropAmount := t.dropAmount - 1 })

theorem decDrop_getElem? (w : World) (k i : Nat) :
    (decDrop w k).trxs[i]? =
      if k = i then (w.trxs[i]?).map (fun t => { t with dropAmount := t.dropAmount - 1 })
      else w.trxs[i]? := setTrx_getElem? w k _ i

/-- the suppression decision of `handle_data_msg` (`rf_muted`, incoming NOPE, `sim_burst_drop`) -/
def dropDecision (w : World) (k : Nat) (self : Trx) (msg : Trxd.RxMsg) : Except Exc (Bool × World) :=
  if self.rfMuted then .ok (true, w)
  else if ¬ msg.nopeInd then
    if self.dropAmount = 0 then .ok (false, w)
    else match msg.fn with
      | none => .error .typeError
      | some fn =>
        if self.dropPeriod = 0 then .error .zeroDivisionError
        else if Int.fmod fn self.dropPeriod = 0 then
          .ok (true, decDrop w k)
        else .ok (false, w)
  else .ok (true, w)

/-- RSSI of a forwarded burst -/
def rssiOf (w : World) (self src : Trx) (srcMsg : Trxd.TxMsg) : Except Exc (Int × World) :=
  if ¬ self.fakeRssi then
    match srcMsg.pwr with
    | some pwr => .ok (src.txPower - pwr - Gen.World.pathLoss, w)
    | none => .error .typeError
  else randAround w self.rssiBase self.rssiThr

/-- `(tsc, tsc_set)` of `_handle_data_msg_v1` -/
def tscOf (mod : Option Trxd.Modulation) (bits : List Nat) : Int × Int :=
  if mod = some Trxd.Modulation.gmsk then
    match trainSeqPick bits with
    | some (t, s) => ((t : Int), (s : Int))
    | none => (0, 0)
  else (0, 0)

/-- `_handle_data_msg_v1` (when `msg.ver >= 1`) -/
def v1Fields (w : World) (self : Trx) (srcMsg : Trxd.TxMsg) (ver : Int) (m : Trxd.RxMsg) :
    Except Exc (Trxd.RxMsg × World) :=
  if ver ≥ 1 then
    match randAround w self.ciBase self.ciThr with
    | .error e => .error e
    | .ok (ci, w) =>
      match srcMsg.burst with
      | none => .error .typeError
      | some bits =>
        let mod := Trxd.Modulation.pickByBl bits.length
        .ok ({ m with ci := some ci, modType := mod, tsc := some (tscOf mod bits).1,
                      tscSet := some (tscOf mod bits).2 }, w)
  else .ok (m, w)

def applyTa (src : Trx) (toa : Int) (m : Trxd.RxMsg) : Trxd.RxMsg :=
  if src.ta ≠ 0 then { m with toa256 := some (toa - src.ta * 256) } else m

/-- the completion branch of `handle_data_msg` -/
def passOn (w : World) (self src : Trx) (srcMsg : Trxd.TxMsg) (msg : Trxd.RxMsg) :
    Except Exc (World × List Dgram) :=
  match randAround w self.toaBase self.toaThr with
  | .error e => .error e
  | .ok (toa, w) =>
    match rssiOf w self src srcMsg with
    | .error e => .error e
    | .ok (rssi, w) =>
      match v1Fields w self srcMsg msg.ver
          { msg with nopeInd := false, toa256 := some toa, rssi := some rssi } with
      | .error e => .error e
      | .ok (m, w) =>
        match sendMsg self (applyTa src toa m) true with
        | .error e => .error e
        | .ok ds => .ok (w, ds)

/-- the completion branch in the do-notation of `handleDataMsg`, in two pieces (after ToA and RSSI
are known; before): verbatim copies, only used to split `handleDataMsg` -/
def passOnDoTail (self src : Trx) (srcMsg : Trxd.TxMsg) (msg : Trxd.RxMsg) (toa rssi : Int) (w : World) :
    Except Exc (World × List Dgram) := do
  let m : Trxd.RxMsg := { msg with nopeInd := false, toa256 := some toa, rssi := some rssi }
  let (m, w) ←
    if msg.ver ≥ 1 then do
      let (ci, w) ← randAround w self.ciBase self.ciThr
      match srcMsg.burst with
      | none => throw .typeError
      | some bits =>
        let mod := Trxd.Modulation.pickByBl bits.length
        let (tsc, set) : Int × Int :=
          if mod = some Trxd.Modulation.gmsk then
            match trainSeqPick bits with
            | some (t, s) => ((t : Int), (s : Int))
            | none => (0, 0)
          else (0, 0)
        pure ({ m with ci := some ci, modType := mod, tsc := some tsc, tscSet := some set }, w)
    else pure (m, w)
  let m := if src.ta ≠ 0 then { m with toa256 := some (toa - src.ta * 256) } else m
  let ds ← sendMsg self m true
  pure (w, ds)

def passOnDo (w : World) (self src : Trx) (srcMsg : Trxd.TxMsg) (msg : Trxd.RxMsg) :
    Except Exc (World × List Dgram) := do
  let (toa, w) ← randAround w self.toaBase self.toaThr
  let (rssi, w) ←
    if ¬ self.fakeRssi then
      match srcMsg.pwr with
      | some pwr => pure (src.txPower - pwr - Gen.World.pathLoss, w)
      | none => throw .typeError
    else randAround w self.rssiBase self.rssiThr
  passOnDoTail self src srcMsg msg toa rssi w

theorem passOnDoTail_eq (self src : Trx) (s : Trxd.TxMsg) (m : Trxd.RxMsg) (toa rssi : Int) (w : World) :
    passOnDoTail self src s m toa rssi w =
      match v1Fields w self s m.ver { m with nopeInd := false, toa256 := some toa, rssi := some rssi } with
      | .error e => .error e
      | .ok (m, w) =>
        match sendMsg self (applyTa src toa m) true with
        | .error e => .error e
        | .ok ds => .ok (w, ds) := by
  simp only [passOnDoTail, v1Fields]
  by_cases hv : m.ver ≥ 1
  · simp only [hv, if_true, bind, Except.bind]
    cases randAround w self.ciBase self.ciThr with
    | error e => rfl
    | ok p =>
      cases s.burst with
      | none => rfl
      | some bits =>
        simp only [pure, Except.pure, applyTa, tscOf]
        generalize sendMsg self _ true = r
        cases r <;> rfl
  · simp only [hv, if_false, bind, Except.bind, pure, Except.pure, applyTa]
    generalize sendMsg self _ true = r
    cases r <;> rfl

theorem passOnDo_eq (w : World) (self src : Trx) (s : Trxd.TxMsg) (m : Trxd.RxMsg) :
    passOnDo w self src s m = passOn w self src s m := by
  unfold passOnDo passOn
  cases randAround w self.toaBase self.toaThr with
  | error e => rfl
  | ok p =>
    obtain ⟨toa, w2⟩ := p
    simp only [rssiOf, ← passOnDoTail_eq, bind, Except.bind, pure, Except.pure, throw, throwThe,
      MonadExceptOf.throw]
    cases self.fakeRssi
    · cases s.pwr <;> rfl
    · cases randAround w2 self.rssiBase self.rssiThr <;> rfl

/-- what is sent instead of a suppressed burst: nothing before TRXDv1, a NOPE.ind since -/
def suppressOut (self : Trx) (msg : Trxd.RxMsg) : Except Exc (List Dgram) :=
  if msg.ver < 1 then .ok [] else sendMsg self (nopeMsg msg) false

theorem handleDataMsg_eq (w : World) (k j : Nat) (s : Trxd.TxMsg) (m : Trxd.RxMsg) :
    handleDataMsg w k j s m =
      match w.trxs[k]?, w.trxs[j]? with
      | some self, some src =>
        match dropDecision w k self m with
        | .error e => .error e
        | .ok (nope, w) =>
          if nope then
            match suppressOut self m with
            | .ok ds => .ok (w, ds)
            | .error e => .error e
          else passOn w self src s m
      | _, _ => .error .indexError := by
  have h0 : handleDataMsg w k j s m =
      match w.trxs[k]?, w.trxs[j]? with
      | some self, some src =>
        match dropDecision w k self m with
        | .error e => .error e
        | .ok (nope, w) =>
          if nope then
            if m.ver < 1 then .ok (w, [])
            else
              match sendMsg self (nopeMsg m) false with
              | .ok ds => .ok (w, ds)
              | .error e => .error e
          else passOnDo w self src s m
      | _, _ => .error .indexError := rfl
  rw [h0]
  cases w.trxs[k]? <;> cases w.trxs[j]? <;> try rfl
  rename_i self src
  simp only [passOnDo_eq, suppressOut]
  cases dropDecision w k self m with
  | error e => rfl
  | ok p =>
    obtain ⟨nope, w1⟩ := p
    cases nope
    · rfl
    · simp only [if_true]
      split <;> rfl

/-! ### the completion branch -/

/-- what the completion branch guarantees about the message `cm` it hands to the DATA socket
(`r` receives, `src` transmitted `s`, `m` is `s.trans(ver)`): RSSI = sender's power − attenuation
of the burst − path loss (110 dB) or a draw from the FAKE_RSSI window, ToA256 a draw from its window
less 256 × the sender's timing advance, on version 1 C/I from its window and the MTS fields -/
structure Completed (r src : Trx) (s : Trxd.TxMsg) (m cm : Trxd.RxMsg) : Prop where
  fn_eq : cm.fn = m.fn
  tn_eq : cm.tn = m.tn
  ver_eq : cm.ver = m.ver
  burst_eq : cm.burst = m.burst
  nope_eq : cm.nopeInd = false
  rssi_ok : ∃ v, cm.rssi = some v ∧
    (r.fakeRssi = false → ∃ a, s.pwr = some a ∧ v = src.txPowerBase - src.txAttBase - a - 110) ∧
    (r.fakeRssi = true → r.rssiBase - r.rssiThr ≤ v ∧ v ≤ r.rssiBase + r.rssiThr)
  toa_ok : ∃ d, cm.toa256 = some (d - 256 * src.ta) ∧
    r.toaBase - r.toaThr ≤ d ∧ d ≤ r.toaBase + r.toaThr
  ci_ok : 1 ≤ m.ver → ∃ c, cm.ci = some c ∧ r.ciBase - r.ciThr ≤ c ∧ c ≤ r.ciBase + r.ciThr
  v1_ok : 1 ≤ m.ver → ∃ bits, s.burst = some bits ∧
    cm.modType = Trxd.Modulation.pickByBl bits.length ∧
    cm.tsc = some (tscOf (Trxd.Modulation.pickByBl bits.length) bits).1 ∧
    cm.tscSet = some (tscOf (Trxd.Modulation.pickByBl bits.length) bits).2

theorem rssiOf_ok {w w' : World} {self src : Trx} {s : Trxd.TxMsg} {v : Int}
    (h : rssiOf w self src s = .ok (v, w')) :
    (self.fakeRssi = false → ∃ a, s.pwr = some a ∧ v = src.txPowerBase - src.txAttBase - a - 110) ∧
    (self.fakeRssi = true → self.rssiBase - self.rssiThr ≤ v ∧ v ≤ self.rssiBase + self.rssiThr) ∧
    Drew w w' := by
  unfold rssiOf at h
  cases hf : self.fakeRssi
  · simp only [hf, Bool.false_eq_true, not_false_eq_true, if_true] at h
    split at h
    · rename_i a ha
      cases h
      exact ⟨fun _ => ⟨a, ha, rfl⟩, fun h => Bool.noConfusion h, Drew.refl _⟩
    · cases h
  · simp only [hf, not_true, if_false] at h
    obtain ⟨a, b, d⟩ := randAround_ok h
    exact ⟨fun h => Bool.noConfusion h, fun _ => ⟨a, b⟩, d⟩

theorem applyTa_eq (src : Trx) {toa : Int} {m : Trxd.RxMsg} (h : m.toa256 = some toa) :
    applyTa src toa m = { m with toa256 := some (toa - 256 * src.ta) } := by
  unfold applyTa
  split
  · rw [Int.mul_comm]
  · rename_i h0
    have : src.ta = 0 := by simpa using h0
    rw [this, Int.mul_zero, Int.sub_zero, ← h]

theorem v1Fields_ok {w w' : World} {self : Trx} {s : Trxd.TxMsg} {ver : Int} {m1 m2 : Trxd.RxMsg}
    (h : v1Fields w self s ver m1 = .ok (m2, w')) :
    Drew w w' ∧ ((¬ 1 ≤ ver ∧ m2 = m1) ∨ (1 ≤ ver ∧ ∃ ci bits, s.burst = some bits ∧
      self.ciBase - self.ciThr ≤ ci ∧ ci ≤ self.ciBase + self.ciThr ∧
      m2 = { m1 with ci := some ci, modType := Trxd.Modulation.pickByBl bits.length,
                     tsc := some (tscOf (Trxd.Modulation.pickByBl bits.length) bits).1,
                     tscSet := some (tscOf (Trxd.Modulation.pickByBl bits.length) bits).2 })) := by
  unfold v1Fields at h
  split at h
  · rename_i hv
    split at h
    · cases h
    · rename_i ci w1 h1
      split at h
      · cases h
      · rename_i bits hb
        cases h
        obtain ⟨c1, c2, c3⟩ := randAround_ok h1
        exact ⟨c3, .inr ⟨hv, ci, bits, hb, c1, c2, rfl⟩⟩
  · rename_i hv
    cases h
    exact ⟨Drew.refl _, .inl ⟨hv, rfl⟩⟩

theorem passOn_ok {w w' : World} {self src : Trx} {s : Trxd.TxMsg} {m : Trxd.RxMsg}
    {ds : List Dgram} (h : passOn w self src s m = .ok (w', ds)) :
    ∃ cm, sendMsg self cm true = .ok ds ∧ Drew w w' ∧ Completed self src s m cm := by
  unfold passOn at h
  split at h
  · cases h
  · rename_i toa w1 h1
    split at h
    · cases h
    · rename_i rssi w2 h2
      split at h
      · cases h
      · rename_i m2 w3 h3
        split at h
        · cases h
        · rename_i ds' h4
          cases h
          obtain ⟨t1, t2, t3⟩ := randAround_ok h1
          obtain ⟨r1, r2, r3⟩ := rssiOf_ok h2
          obtain ⟨v0, hv⟩ := v1Fields_ok h3
          refine ⟨_, h4, (t3.trans r3).trans v0, ?_⟩
          rcases hv with ⟨hlt, rfl⟩ | ⟨hge, ci, bits, hb, c1, c2, rfl⟩
          · rw [applyTa_eq src rfl]
            exact ⟨rfl, rfl, rfl, rfl, rfl, ⟨rssi, rfl, r1, r2⟩, ⟨toa, rfl, t1, t2⟩,
              fun h => absurd h hlt, fun h => absurd h hlt⟩
          · rw [applyTa_eq src rfl]
            exact ⟨rfl, rfl, rfl, rfl, rfl, ⟨rssi, rfl, r1, r2⟩, ⟨toa, rfl, t1, t2⟩,
              fun _ => ⟨ci, rfl, c1, c2⟩, fun _ => ⟨bits, hb, rfl, rfl, rfl⟩⟩

/-- the completion branch returns normally when the thresholds it draws around are non-negative
and the sender's message carries what it reads (attenuation for the real RSSI, burst octets on a
version-1 link) -/
theorem passOn_total (w : World) {self : Trx} (src : Trx) {s : Trxd.TxMsg} (m : Trxd.RxMsg)
    (ht : 0 ≤ self.toaThr) (hr : self.fakeRssi = true → 0 ≤ self.rssiThr)
    (hp : self.fakeRssi = false → s.pwr.isSome = true)
    (hc : m.ver ≥ 1 → 0 ≤ self.ciThr ∧ s.burst.isSome = true) :
    ∃ w' ds, passOn w self src s m = .ok (w', ds) := by
  unfold passOn
  obtain ⟨toa, w1, h1⟩ := randAround_total w self.toaBase ht
  rw [h1]
  dsimp only
  obtain ⟨rssi, w2, h2⟩ : ∃ v w2, rssiOf w1 self src s = .ok (v, w2) := by
    unfold rssiOf
    cases hf : self.fakeRssi
    · obtain ⟨a, ha⟩ := Option.isSome_iff_exists.1 (hp hf)
      rw [ha]; exact ⟨_, _, rfl⟩
    · exact randAround_total _ _ (hr hf)
  rw [h2]
  dsimp only
  obtain ⟨m2, w3, h3⟩ : ∃ m2 w3, v1Fields w2 self s m.ver
      { m with nopeInd := false, toa256 := some toa, rssi := some rssi } = .ok (m2, w3) := by
    unfold v1Fields
    split
    · rename_i hv
      obtain ⟨ci, w3, h3⟩ := randAround_total w2 self.ciBase (hc hv).1
      obtain ⟨bits, hb⟩ := Option.isSome_iff_exists.1 (hc hv).2
      rw [h3, hb]
      exact ⟨_, _, rfl⟩
    · exact ⟨_, _, rfl⟩
  rw [h3]
  dsimp only
  obtain ⟨ds, h4⟩ := sendMsg_total self (applyTa src toa m2) true
  rw [h4]
  exact ⟨_, _, rfl⟩

/-! ### the suppression decision and the NOPE branch -/

theorem dropDecision_muted (w : World) (k : Nat) (self : Trx) (m : Trxd.RxMsg)
    (h : self.rfMuted = true ∨ m.nopeInd = true) : dropDecision w k self m = .ok (true, w) := by
  unfold dropDecision
  rcases h with h | h
  · rw [if_pos h]
  · rw [if_neg (c := ¬ m.nopeInd = true) (fun hn => hn h), ite_self]

theorem dropDecision_ok {w w1 : World} {k : Nat} {self : Trx} {m : Trxd.RxMsg} {nope : Bool}
    (hd : dropDecision w k self m = .ok (nope, w1)) :
    (nope = false → w1 = w) ∧ (w1 = w ∨ (self.dropAmount ≠ 0 ∧ w1 = decDrop w k)) := by
  unfold dropDecision at hd
  by_cases hm : self.rfMuted = true
  · rw [if_pos hm] at hd; cases hd; exact ⟨fun _ => rfl, .inl rfl⟩
  rw [if_neg hm] at hd
  by_cases hn : m.nopeInd = true
  · rw [if_neg (fun h => h hn)] at hd; cases hd; exact ⟨fun _ => rfl, .inl rfl⟩
  rw [if_pos hn] at hd
  by_cases h0 : self.dropAmount = 0
  · rw [if_pos h0] at hd; cases hd; exact ⟨fun _ => rfl, .inl rfl⟩
  rw [if_neg h0] at hd
  cases hfn : m.fn with
  | none => rw [hfn] at hd; cases hd
  | some fn =>
    rw [hfn] at hd
    dsimp only at hd
    by_cases hp : self.dropPeriod = 0
    · rw [if_pos hp] at hd; cases hd
    rw [if_neg hp] at hd
    by_cases hf : Int.fmod fn self.dropPeriod = 0
    · rw [if_pos hf] at hd; cases hd; exact ⟨fun h => Bool.noConfusion h, .inr ⟨h0, rfl⟩⟩
    · rw [if_neg hf] at hd; cases hd; exact ⟨fun _ => rfl, .inl rfl⟩

theorem dropDecision_total (w : World) (k : Nat) {self : Trx} {m : Trxd.RxMsg}
    (h : self.rfMuted = false → m.nopeInd = false → self.dropAmount ≠ 0 →
      self.dropPeriod ≠ 0 ∧ m.fn.isSome = true) :
    ∃ nope w1, dropDecision w k self m = .ok (nope, w1) := by
  unfold dropDecision
  by_cases hm : self.rfMuted = true
  · rw [if_pos hm]; exact ⟨_, _, rfl⟩
  rw [if_neg hm]
  by_cases hn : m.nopeInd = true
  · rw [if_neg (fun h => h hn)]; exact ⟨_, _, rfl⟩
  rw [if_pos hn]
  by_cases h0 : self.dropAmount = 0
  · rw [if_pos h0]; exact ⟨_, _, rfl⟩
  obtain ⟨hp, hfn⟩ := h (by simpa using hm) (by simpa using hn) h0
  obtain ⟨fn, hfn⟩ := Option.isSome_iff_exists.1 hfn
  rw [if_neg h0, hfn]
  dsimp only
  rw [if_neg hp]
  by_cases hf : Int.fmod fn self.dropPeriod = 0
  · rw [if_pos hf]; exact ⟨_, _, rfl⟩
  · rw [if_neg hf]; exact ⟨_, _, rfl⟩

theorem handleDataMsg_muted (w : World) (k j : Nat) (s : Trxd.TxMsg) (m : Trxd.RxMsg)
    (self src : Trx) (hk : w.trxs[k]? = some self) (hj : w.trxs[j]? = some src)
    (h : self.rfMuted = true ∨ m.nopeInd = true) :
    handleDataMsg w k j s m =
      match suppressOut self m with
      | .ok ds => .ok (w, ds)
      | .error e => .error e := by
  rw [handleDataMsg_eq, hk, hj]
  simp only [dropDecision_muted w k self m h, if_true]

theorem handleDataMsg_muted_ok {w w' : World} {k j : Nat} {s : Trxd.TxMsg} {m : Trxd.RxMsg}
    {ds : List Dgram} {self : Trx} (h : handleDataMsg w k j s m = .ok (w', ds))
    (hk : w.trxs[k]? = some self) (hm : self.rfMuted = true ∨ m.nopeInd = true) :
    w' = w ∧ suppressOut self m = .ok ds := by
  cases hj : w.trxs[j]? with
  | none => rw [handleDataMsg_eq, hk, hj] at h; cases h
  | some src =>
    rw [handleDataMsg_muted w k j s m self src hk hj hm] at h
    split at h
    · cases h; exact ⟨rfl, ‹_›⟩
    · cases h

theorem suppressOut_shape {self : Trx} {m : Trxd.RxMsg} {ds : List Dgram}
    (h : suppressOut self m = .ok ds) : OneToPeer self ds := by
  unfold suppressOut at h
  split at h
  · cases h; exact .inl rfl
  · exact sendMsg_shape h

theorem suppressOut_total (t : Trx) (m : Trxd.RxMsg) : ∃ ds, suppressOut t m = .ok ds := by
  unfold suppressOut
  split
  · exact ⟨_, rfl⟩
  · exact sendMsg_total _ _ _

/-! ### what the burst path can do to the world -/

/-- same transceivers up to the drop counters, same seed -/
def Static (w0 w : World) : Prop :=
  w.seed = w0.seed ∧ w.trxs.length = w0.trxs.length ∧
  ∀ (i : Nat) (t : Trx), w0.trxs[i]? = some t → ∃ d, w.trxs[i]? = some { t with dropAmount := d }

theorem Static.refl (w : World) : Static w w :=
  ⟨rfl, rfl, fun _ t h => ⟨t.dropAmount, h⟩⟩

theorem Static.trans {a b c : World} (h1 : Static a b) (h2 : Static b c) : Static a c := by
  refine ⟨h2.1.trans h1.1, h2.2.1.trans h1.2.1, fun i t h => ?_⟩
  obtain ⟨d, hd⟩ := h1.2.2 i t h
  obtain ⟨d', hd'⟩ := h2.2.2 i _ hd
  exact ⟨d', hd'⟩

theorem Static.none {w0 w : World} (h : Static w0 w) (i : Nat) (hn : w0.trxs[i]? = none) :
    w.trxs[i]? = none := by
  rw [List.getElem?_eq_none_iff] at hn ⊢
  have := h.2.1; omega

/-- whatever does not read the drop counter sees the same transceiver -/
theorem Static.congr {w0 w : World} (h : Static w0 w) {α : Type} (F : Option Trx → α)
    (hF : ∀ t d, F (some { t with dropAmount := d }) = F (some t)) (i : Nat) :
    F w.trxs[i]? = F w0.trxs[i]? := by
  cases h0 : w0.trxs[i]? with
  | none => rw [h.none i h0]
  | some t => obtain ⟨d, hd⟩ := h.2.2 i t h0; rw [hd, hF]

theorem Static.map {w0 w : World} (h : Static w0 w) {α : Type} (f : Trx → α)
    (hf : ∀ t d, f { t with dropAmount := d } = f t) : w.trxs.map f = w0.trxs.map f := by
  apply List.ext_getElem?
  intro i
  rw [List.getElem?_map, List.getElem?_map]
  exact h.congr (Option.map f) (fun t d => congrArg some (hf t d)) i

/-- what the burst path can do to a world: drop counters go down (not below 0 if they were not),
the randomness stream advances; transceivers are otherwise the same, and so are the clock
generator and the seed -/
structure BurstFrame (w w' : World) : Prop where
  static : Static w w'
  dropAmount : ∀ (i : Nat) (t t' : Trx), w.trxs[i]? = some t → w'.trxs[i]? = some t' →
    t'.dropAmount ≤ t.dropAmount ∧ (0 ≤ t.dropAmount → 0 ≤ t'.dropAmount)
  clkLinks : w'.clkLinks = w.clkLinks
  clkRunning : w'.clkRunning = w.clkRunning
  clkSrc : w'.clkSrc = w.clkSrc
  drawK : w.drawK ≤ w'.drawK

theorem BurstFrame.of_drew {w w' : World} (h : Drew w w') : BurstFrame w w' := by
  obtain ⟨n, rfl⟩ := h
  exact ⟨⟨rfl, rfl, fun _ t h => ⟨t.dropAmount, h⟩⟩,
    fun _ t t' h h' => by rw [show _ = some t from h] at h'; cases h'; exact ⟨Int.le_refl _, id⟩,
    rfl, rfl, rfl, Nat.le_add_right _ _⟩

theorem BurstFrame.refl (w : World) : BurstFrame w w := .of_drew (Drew.refl w)

theorem BurstFrame.trans {a b c : World} (h1 : BurstFrame a b) (h2 : BurstFrame b c) :
    BurstFrame a c := by
  refine ⟨h1.static.trans h2.static, fun i t t'' h h'' => ?_, h2.clkLinks.trans h1.clkLinks,
    h2.clkRunning.trans h1.clkRunning, h2.clkSrc.trans h1.clkSrc, Nat.le_trans h1.drawK h2.drawK⟩
  obtain ⟨d, hd⟩ := h1.static.2.2 i t h
  have x := h1.dropAmount i t _ h hd
  have y := h2.dropAmount i _ t'' hd h''
  exact ⟨Int.le_trans y.1 x.1, fun h0 => y.2 (x.2 h0)⟩

theorem BurstFrame.decDrop {w : World} {k : Nat} {self : Trx} (hk : w.trxs[k]? = some self)
    (h0 : self.dropAmount ≠ 0) : BurstFrame w (decDrop w k) := by
  refine ⟨⟨rfl, setTrx_length _ _ _, fun i t h => ?_⟩, fun i t t' h h' => ?_, rfl, rfl, rfl,
    Nat.le_refl _⟩
  · rw [decDrop_getElem?]
    split
    · exact ⟨t.dropAmount - 1, by rw [h]; rfl⟩
    · exact ⟨t.dropAmount, h⟩
  · rw [decDrop_getElem?] at h'
    split at h'
    · rename_i e
      subst e
      have h0' : t.dropAmount ≠ 0 := by rw [hk] at h; cases h; exact h0
      rw [h] at h'
      cases h'
      dsimp only
      omega
    · rw [h] at h'; cases h'; exact ⟨Int.le_refl _, id⟩

theorem BurstFrame.length {w w' : World} (h : BurstFrame w w') : w'.trxs.length = w.trxs.length :=
  h.static.2.1

theorem BurstFrame.seed {w w' : World} (h : BurstFrame w w') : w'.seed = w.seed := h.static.1

theorem handleDataMsg_ok {w w' : World} {k j : Nat} {s : Trxd.TxMsg} {m : Trxd.RxMsg}
    {ds : List Dgram} (h : handleDataMsg w k j s m = .ok (w', ds)) :
    ∃ self src, w.trxs[k]? = some self ∧ w.trxs[j]? = some src ∧ OneToPeer self ds ∧
      ((self.dropAmount ≠ 0 ∧ w' = decDrop w k) ∨ Drew w w') := by
  rw [handleDataMsg_eq] at h
  split at h
  · rename_i self src hk hj
    refine ⟨self, src, hk, hj, ?_⟩
    split at h
    · cases h
    · rename_i nope w1 hd
      obtain ⟨hw0, hw1⟩ := dropDecision_ok hd
      split at h
      · split at h
        · rename_i ds' hs
          cases h
          refine ⟨suppressOut_shape hs, ?_⟩
          rcases hw1 with h | h
          · exact .inr (h ▸ Drew.refl _)
          · exact .inl h
        · cases h
      · rename_i hnope
        cases hw0 (by simpa using hnope)
        obtain ⟨cm, hsend, hdo, _⟩ := passOn_ok h
        exact ⟨sendMsg_shape hsend, .inr hdo⟩
  · cases h

theorem handleDataMsg_frame {w w' : World} {k j : Nat} {s : Trxd.TxMsg} {m : Trxd.RxMsg}
    {ds : List Dgram} (h : handleDataMsg w k j s m = .ok (w', ds)) : BurstFrame w w' := by
  obtain ⟨self, _, hk, _, _, ⟨h0, rfl⟩ | h⟩ := handleDataMsg_ok h
  · exact BurstFrame.decDrop hk h0
  · exact BurstFrame.of_drew h

theorem handleDataMsg_others {w w' : World} {k j : Nat} {s : Trxd.TxMsg} {m : Trxd.RxMsg}
    {ds : List Dgram} (h : handleDataMsg w k j s m = .ok (w', ds)) (i : Nat) (hi : i ≠ k) :
    w'.trxs[i]? = w.trxs[i]? := by
  obtain ⟨_, _, _, _, _, ⟨_, rfl⟩ | h⟩ := handleDataMsg_ok h
  · rw [decDrop_getElem?, if_neg (fun e => hi e.symm)]
  · rw [h.trxs]

/-- one call returns normally when both transceivers exist, a receiver with drops pending has a
non-zero period and is handed a frame number, and the completion branch finds what it reads
(`passOn_total`) -/
theorem handleDataMsg_total {w : World} {k j : Nat} {s : Trxd.TxMsg} {m : Trxd.RxMsg} {self src : Trx}
    (hk : w.trxs[k]? = some self) (hj : w.trxs[j]? = some src)
    (hd : self.rfMuted = false → m.nopeInd = false → self.dropAmount ≠ 0 →
      self.dropPeriod ≠ 0 ∧ m.fn.isSome = true)
    (hpass : self.rfMuted = false → m.nopeInd = false →
      0 ≤ self.toaThr ∧ (self.fakeRssi = true → 0 ≤ self.rssiThr) ∧
      (self.fakeRssi = false → s.pwr.isSome = true) ∧
      (m.ver ≥ 1 → 0 ≤ self.ciThr ∧ s.burst.isSome = true)) :
    ∃ w' ds, handleDataMsg w k j s m = .ok (w', ds) := by
  rw [handleDataMsg_eq, hk, hj]
  dsimp only
  by_cases hs : self.rfMuted = true ∨ m.nopeInd = true
  · obtain ⟨ds, hds⟩ := suppressOut_total self m
    simp only [dropDecision_muted w k self m hs, if_true, hds]
    exact ⟨_, _, rfl⟩
  · have hm : self.rfMuted = false := by cases h : self.rfMuted <;> simp [h] at hs ⊢
    have hn : m.nopeInd = false := by cases h : m.nopeInd <;> simp [h] at hs ⊢
    obtain ⟨nope, w1, h1⟩ := dropDecision_total w k (hd)
    rw [h1]
    dsimp only
    cases nope
    · obtain ⟨a, b, c, d⟩ := hpass hm hn
      simp only [Bool.false_eq_true, if_false]
      exact passOn_total w1 src m a b c d
    · obtain ⟨ds, hds⟩ := suppressOut_total self m
      simp only [if_true, hds]
      exact ⟨_, _, rfl⟩

/-! ### `forwardMsg` and `clckTick`: loops of `handleDataMsg` calls -/

/-- one round of the loop of `forward_msg`: the reads (`Sched.fwdRead`: skip, or the translated
message), then `handle_data_msg` -/
theorem forwardMsg_go_cons (j fn : Nat) (txf : Option Int) (s : Trxd.TxMsg) (w : World)
    (acc : List Dgram) (k : Nat) (ks : List Nat) :
    forwardMsg.go j fn txf s w acc (k :: ks) =
      match Sched.fwdRead w j s fn txf k with
      | .error e => .error e
      | .ok none => forwardMsg.go j fn txf s w acc ks
      | .ok (some rx) =>
        match handleDataMsg w k j s rx with
        | .error e => .error e
        | .ok (w', ds) => forwardMsg.go j fn txf s w' (acc ++ ds) ks := by
  rw [forwardMsg.go]
  unfold Sched.fwdRead
  by_cases hkj : k = j
  · rw [if_pos hkj, if_pos hkj]
  rw [if_neg hkj, if_neg hkj]
  cases w.trxs[k]? with
  | none => rfl
  | some trx =>
    dsimp only
    by_cases hr : ¬ trx.running = true
    · rw [if_pos hr, if_pos hr]
    rw [if_neg hr, if_neg hr]
    cases trx.getRxFreq fn with
    | error e => rfl
    | ok f =>
      dsimp only
      by_cases hf : f ≠ txf
      · rw [if_pos hf, if_pos hf]
      rw [if_neg hf, if_neg hf]
      cases s.trans (some trx.hdrVer) <;> rfl

theorem fwdRead_ok {w : World} {j k fn : Nat} {s : Trxd.TxMsg} (txf : Option Int) {t : Trx}
    (ht : w.trxs[k]? = some t) (hf : ∃ f, t.getRxFreq fn = .ok f) (hwt : s.WellTyped) :
    ∃ v, Sched.fwdRead w j s fn txf k = .ok v ∧ ∀ rx, v = some rx → s.trans (some t.hdrVer) = .ok rx := by
  obtain ⟨f, hf⟩ := hf
  obtain ⟨rx, hrx, _⟩ := Trxd.TxMsg.trans_ok s (some t.hdrVer) hwt
  simp only [Sched.fwdRead, ht, hf, hrx]
  split
  · exact ⟨_, rfl, fun _ h => nomatch h⟩
  · split
    · exact ⟨_, rfl, fun _ h => nomatch h⟩
    · split
      · exact ⟨_, rfl, fun _ h => nomatch h⟩
      · exact ⟨_, rfl, fun _ h => by cases h; rfl⟩

/-- the forwarding loop only ever calls `handleDataMsg`: a relation `R` between the world and
the output so far that survives every such call holds at the end if it held at the start -/
theorem forwardMsg_go_induct (R : World → List Dgram → Prop) (j fn : Nat) (txf : Option Int)
    (s : Trxd.TxMsg)
    (step : ∀ w1 acc k rx w2 ds, R w1 acc → handleDataMsg w1 k j s rx = .ok (w2, ds) →
      R w2 (acc ++ ds))
    {w' : World} {out : List Dgram} :
    ∀ (ks : List Nat) (w : World) (acc : List Dgram), R w acc →
      forwardMsg.go j fn txf s w acc ks = .ok (w', out) → R w' out := by
  intro ks
  induction ks with
  | nil => intro w acc h0 h; simp only [forwardMsg.go] at h; cases h; exact h0
  | cons k ks ih =>
    intro w acc h0 h
    rw [forwardMsg_go_cons] at h
    split at h
    · cases h
    · exact ih w acc h0 h
    · split at h
      · cases h
      · rename_i hh
        exact ih _ _ (step _ _ _ _ _ _ h0 hh) h

theorem forwardMsg_ok {w w' : World} {j : Nat} {m : Trxd.TxMsg} {ds : List Dgram} (h : forwardMsg w j m = .ok (w', ds)) :
    ∃ src fnI txf, w.trxs[j]? = some src ∧ m.fn = some fnI ∧ src.getTxFreq fnI.toNat = .ok txf ∧
      forwardMsg.go j fnI.toNat txf (if src.rfMuted then { m with burst := none } else m) w []
        (List.range w.trxs.length) = .ok (w', ds) := by
  unfold forwardMsg at h
  split at h
  · cases h
  next src hsrc =>
  split at h
  · cases h
  next fnI hfnI =>
  simp only [] at h
  split at h
  · cases h
  next txf htx => exact ⟨src, fnI, txf, hsrc, hfnI, htx, h⟩

theorem forwardMsg_induct (R : World → List Dgram → Prop) {w w' : World} {j : Nat}
    {msg : Trxd.TxMsg} {out : List Dgram} (h0 : R w [])
    (step : ∀ w1 acc k s rx w2 ds, R w1 acc → handleDataMsg w1 k j s rx = .ok (w2, ds) →
      R w2 (acc ++ ds))
    (h : forwardMsg w j msg = .ok (w', out)) : R w' out := by
  obtain ⟨_, _, _, -, -, -, hgo⟩ := forwardMsg_ok h
  exact forwardMsg_go_induct R j _ _ _ (fun w1 acc k => step w1 acc k _) _ w [] h0 hgo

/-- every datagram of `out` comes from the DATA socket of a transceiver of `w` -/
def FromData (w : World) (out : List Dgram) : Prop :=
  ∀ d ∈ out, ∃ (i : Nat) (t : Trx) (b : List Nat), w.trxs[i]? = some t ∧ d = dataDgram t b

theorem FromData.append {w : World} {a b : List Dgram} (ha : FromData w a) (hb : FromData w b) :
    FromData w (a ++ b) :=
  fun d hd => (List.mem_append.1 hd).elim (ha d) (hb d)

theorem FromData.of_oneToPeer {w : World} {i : Nat} {t : Trx} {ds : List Dgram}
    (ht : w.trxs[i]? = some t) (h : OneToPeer t ds) : FromData w ds := by
  intro d hd
  rcases h with rfl | ⟨b, rfl⟩
  · cases hd
  · rw [List.mem_singleton] at hd
    exact ⟨i, t, b, ht, hd⟩

/-- the sockets are fixed at start-up: what comes from a DATA socket of a later world comes from
the same socket of the earlier one -/
theorem FromData.of_static {w w1 : World} (h : Static w w1) {ds : List Dgram}
    (hd : FromData w1 ds) : FromData w ds := by
  intro d hm
  obtain ⟨i, t1, b, h1, rfl⟩ := hd d hm
  cases h0 : w.trxs[i]? with
  | none => rw [h.none i h0] at h1; cases h1
  | some t =>
    obtain ⟨x, hx⟩ := h.2.2 i t h0
    rw [hx] at h1; cases h1
    exact ⟨i, t, b, h0, rfl⟩

theorem handleDataMsg_fromData {w w' : World} {k j : Nat} {s : Trxd.TxMsg} {m : Trxd.RxMsg}
    {ds : List Dgram} (h : handleDataMsg w k j s m = .ok (w', ds)) : FromData w ds := by
  obtain ⟨self, _, hk, _, hone, _⟩ := handleDataMsg_ok h
  exact FromData.of_oneToPeer hk hone

theorem forwardMsg_frame {w w' : World} {j : Nat} {msg : Trxd.TxMsg} {out : List Dgram}
    (h : forwardMsg w j msg = .ok (w', out)) : BurstFrame w w' ∧ FromData w out := by
  refine forwardMsg_induct (fun w1 acc => BurstFrame w w1 ∧ FromData w acc)
    ⟨BurstFrame.refl w, fun _ hd => by cases hd⟩ ?_ h
  intro w1 acc k s rx w2 ds ⟨hf, ha⟩ hh
  exact ⟨hf.trans (handleDataMsg_frame hh),
    ha.append (FromData.of_static hf.static (handleDataMsg_fromData hh))⟩

/-- the loop of `clck_tick` over the bursts that are due -/
theorem clckTick_go_induct (R : World → List Dgram → Prop) (j : Nat)
    (step : ∀ w1 acc m w2 ds, R w1 acc → forwardMsg w1 j m = .ok (w2, ds) → R w2 (acc ++ ds))
    {w' : World} {out : List Dgram} :
    ∀ (ms : List Trxd.TxMsg) (w : World) (acc : List Dgram), R w acc →
      clckTick.go j w acc ms = .ok (w', out) → R w' out := by
  intro ms
  induction ms with
  | nil => intro w acc h0 h; simp only [clckTick.go] at h; cases h; exact h0
  | cons m ms ih =>
    intro w acc h0 h
    simp only [clckTick.go] at h
    split at h
    · cases h
    · rename_i w2 ds hh
      exact ih w2 _ (step _ _ _ _ _ h0 hh) h

/-- `clck_tick` of an idle transceiver does nothing; of a running one it takes the bursts that are
due (`emit`) and the stale ones out of the queue and forwards the former one after the other -/
theorem clckTick_ok {w w' : World} {j fn : Nat} {out : List Dgram} {st : Nat}
    (h : clckTick w j fn = .ok (w', out, st)) :
    ∃ t, w.trxs[j]? = some t ∧
      if t.running then
        clckTick.go j
          (setTrx w j (fun t' => { t' with txQueue := t.txQueue.filter (fun m => classify fn m == .wait) }))
          [] (t.txQueue.filter (fun m => classify fn m == .emit)) = .ok (w', out) ∧
        st = (t.txQueue.filter (fun m => classify fn m == .stale)).length
      else w' = w ∧ out = [] ∧ st = 0 := by
  unfold clckTick at h
  split at h
  · cases h
  · rename_i t ht
    refine ⟨t, ht, ?_⟩
    split at h
    · rename_i hr
      cases h
      rw [if_neg hr]
      exact ⟨rfl, rfl, rfl⟩
    · rename_i hr
      rw [if_pos (by simpa using hr)]
      dsimp only at h
      split at h
      · cases h
      · rename_i w2 ds hg
        cases h
        exact ⟨hg, rfl⟩

/-- a tick of transceiver `j` rewrites `j`'s queue (when `j` is running) and is a `BurstFrame`
step from there -/
theorem clckTick_frame {w w' : World} {j fn : Nat} {out : List Dgram} {st : Nat}
    (h : clckTick w j fn = .ok (w', out, st)) :
    ∃ t, w.trxs[j]? = some t ∧ FromData w out ∧
      BurstFrame
        (if t.running then
          setTrx w j (fun t' => { t' with txQueue := t.txQueue.filter (fun m => classify fn m == .wait) })
         else w) w' := by
  obtain ⟨t, ht, h⟩ := clckTick_ok h
  refine ⟨t, ht, ?_⟩
  split at h
  · rename_i hr
    rw [if_pos hr]
    -- datagrams are traced back to the sockets of the world with the rewritten queue, which are those of `w`
    have key := clckTick_go_induct
      (fun w1 acc => BurstFrame (setTrx w j _) w1 ∧ FromData (setTrx w j _) acc) j
      (fun w1 acc m w2 ds ⟨hf, ha⟩ hh =>
        ⟨hf.trans (forwardMsg_frame hh).1,
         ha.append (FromData.of_static hf.static (forwardMsg_frame hh).2)⟩)
      _ _ [] ⟨BurstFrame.refl _, fun _ hd => by cases hd⟩ h.1
    refine ⟨?_, key.1⟩
    intro d hd
    obtain ⟨i, t1, b, h1, rfl⟩ := key.2 d hd
    rw [setTrx_getElem?] at h1
    split at h1
    · cases h0 : w.trxs[i]? with
      | none => rw [h0] at h1; cases h1
      | some t0 => rw [h0] at h1; cases h1; exact ⟨i, t0, b, h0, rfl⟩
    · exact ⟨i, t1, b, h1, rfl⟩
  · rename_i hr
    obtain ⟨rfl, rfl, _⟩ := h
    rw [if_neg hr]
    exact ⟨(fun _ hd => by cases hd), BurstFrame.refl _⟩

/-! ### when the loops return normally -/

/-- the simulation parameters of a receiver are such that `handle_data_msg` cannot raise: a
non-zero drop period (`fn % period`) and non-negative thresholds (`randint(base - thr, base + thr)`);
the RSSI threshold is only read with FAKE_RSSI on -/
structure Trx.CanReceive (t : Trx) : Prop where
  dropPeriod : t.dropPeriod ≠ 0
  toaThr : 0 ≤ t.toaThr
  rssiThr : t.fakeRssi = true → 0 ≤ t.rssiThr
  ciThr : 0 ≤ t.ciThr

/-- every transceiver of `w` can take part in forwarding a burst of frame `fn`: its frequencies
resolve and it can receive -/
def CanForward (w : World) (fn : Nat) : Prop :=
  ∀ t ∈ w.trxs, (∃ f, t.getTxFreq fn = .ok f) ∧ (∃ f, t.getRxFreq fn = .ok f) ∧ t.CanReceive

theorem CanForward.static {w0 w : World} {fn : Nat} (h : CanForward w0 fn) (hst : Static w0 w) :
    CanForward w fn := by
  intro t ht
  obtain ⟨i, hi⟩ := List.getElem?_of_mem ht
  cases hi0 : w0.trxs[i]? with
  | none => rw [hst.none i hi0] at hi; cases hi
  | some t0 =>
    obtain ⟨d, hd⟩ := hst.2.2 i t0 hi0
    rw [hd] at hi; cases hi
    obtain ⟨a, b, c⟩ := h t0 (List.mem_of_getElem? hi0)
    exact ⟨a, b, c.dropPeriod, c.toaThr, c.rssiThr, c.ciThr⟩

theorem CanForward.setQueue {w : World} {fn : Nat} (h : CanForward w fn) (j : Nat) (q : List Trxd.TxMsg) :
    CanForward (setTrx w j (fun t => { t with txQueue := q })) fn := by
  intro t ht
  obtain ⟨k, hk⟩ := List.getElem?_of_mem ht
  rw [setTrx_getElem?] at hk
  cases h0 : w.trxs[k]? with
  | none => rw [h0] at hk; split at hk <;> cases hk
  | some t0 =>
    obtain ⟨a, b, c⟩ := h t0 (List.mem_of_getElem? h0)
    rw [h0] at hk
    split at hk
    · cases hk; exact ⟨a, b, c.dropPeriod, c.toaThr, c.rssiThr, c.ciThr⟩
    · cases hk; exact ⟨a, b, c⟩

theorem forwardMsg_go_total {j fn : Nat} {s : Trxd.TxMsg} (txf : Option Int)
    (hwt : s.WellTyped) (hfn : s.fn.isSome = true) (hp : s.pwr.isSome = true) :
    ∀ (ks : List Nat) (w : World) (acc : List Dgram), CanForward w fn → j < w.trxs.length →
      (∀ k ∈ ks, k < w.trxs.length) → ∃ w' out, forwardMsg.go j fn txf s w acc ks = .ok (w', out) := by
  intro ks
  induction ks with
  | nil => intro w acc _ _ _; exact ⟨_, _, rfl⟩
  | cons k ks ih =>
    intro w acc hc hj hks
    have hks' : ∀ k ∈ ks, k < w.trxs.length := fun x hx => hks x (List.mem_cons_of_mem _ hx)
    obtain ⟨t, ht⟩ := getElem?_of_lt (hks k (List.mem_cons_self ..))
    obtain ⟨src, hsrc⟩ := getElem?_of_lt hj
    obtain ⟨_, hrx, hr⟩ := hc t (List.mem_of_getElem? ht)
    rw [forwardMsg_go_cons]
    obtain ⟨v, hv, hvrx⟩ := fwdRead_ok (j := j) txf ht hrx hwt
    rw [hv]
    cases v with
    | none => exact ih w acc hc hj hks'
    | some rx =>
      obtain ⟨_, hrx', hrfn, hrb, _⟩ := Trxd.TxMsg.trans_ok s (some t.hdrVer) hwt
      rw [hvrx rx rfl] at hrx'; cases hrx'
      obtain ⟨w2, ds, hh⟩ := handleDataMsg_total (m := rx) ht hsrc
        (fun _ _ _ => ⟨hr.dropPeriod, by rw [hrfn]; exact hfn⟩)
        (fun _ hn => ⟨hr.toaThr, hr.rssiThr, fun _ => hp, fun _ => ⟨hr.ciThr, hrb hn⟩⟩)
      have hf := handleDataMsg_frame hh
      dsimp only
      rw [hh]
      exact ih w2 (acc ++ ds) (hc.static hf.static) (by rw [hf.length]; exact hj)
        (by rw [hf.length]; exact hks')

theorem forwardMsg_total {w : World} {j : Nat} {msg : Trxd.TxMsg} {fn : Int}
    (hj : j < w.trxs.length) (hwt : msg.WellTyped) (hfn : msg.fn = some fn) (hp : msg.pwr.isSome = true)
    (hc : CanForward w fn.toNat) : ∃ w' out, forwardMsg w j msg = .ok (w', out) := by
  obtain ⟨src, hsrc⟩ := getElem?_of_lt hj
  obtain ⟨⟨txf, htxf⟩, _⟩ := hc src (List.mem_of_getElem? hsrc)
  simp only [forwardMsg, hsrc, hfn, htxf]
  refine forwardMsg_go_total txf ?_ ?_ ?_ _ w [] hc hj (fun k hk => List.mem_range.1 hk)
  · split
    · intro b hb; cases hb
    · exact hwt
  · split
    · rfl
    · rw [hfn]; rfl
  · split <;> exact hp

theorem classify_emit {fn : Nat} {m : Trxd.TxMsg} (h : classify fn m = .emit) : m.fn = some (fn : Int) := by
  unfold classify at h
  split at h
  · cases h
  · rename_i mfn hm
    split at h
    · rename_i e; rw [hm, e]
    · split at h <;> cases h

theorem clckTick_go_total {j fn : Nat} :
    ∀ (ms : List Trxd.TxMsg) (w : World) (acc : List Dgram), CanForward w fn → j < w.trxs.length →
      (∀ m ∈ ms, m.WellTyped ∧ m.pwr.isSome = true ∧ m.fn = some (fn : Int)) →
      ∃ w' out, clckTick.go j w acc ms = .ok (w', out) := by
  intro ms
  induction ms with
  | nil => intro w acc _ _ _; exact ⟨_, _, rfl⟩
  | cons m ms ih =>
    intro w acc hc hj hms
    obtain ⟨hwt, hp, hfn⟩ := hms m (List.mem_cons_self ..)
    obtain ⟨w2, ds, hh⟩ := forwardMsg_total hj hwt hfn hp hc
    have hf := (forwardMsg_frame hh).1
    obtain ⟨w', out, h⟩ := ih w2 (acc ++ ds) (hc.static hf.static) (by rw [hf.length]; exact hj)
      (fun x hx => hms x (List.mem_cons_of_mem _ hx))
    exact ⟨w', out, by simp only [clckTick.go, hh, h]⟩

theorem clckTick_total {w : World} {j fn : Nat} {t : Trx} (hj : w.trxs[j]? = some t)
    (hq : ∀ m ∈ t.txQueue, m.WellTyped ∧ m.pwr.isSome = true) (hc : CanForward w fn) :
    ∃ w' out st, clckTick w j fn = .ok (w', out, st) := by
  simp only [clckTick, hj]
  split
  · exact ⟨_, _, _, rfl⟩
  · obtain ⟨w', out, h⟩ := clckTick_go_total (t.txQueue.filter (fun m => classify fn m == .emit)) _ []
      (hc.setQueue j (t.txQueue.filter (fun m => classify fn m == .wait)))
      (by rw [setTrx_length]; exact (List.getElem?_eq_some_iff.1 hj).1)
      (fun m hm => by
        obtain ⟨hm1, hm2⟩ := List.mem_filter.1 hm
        exact ⟨(hq m hm1).1, (hq m hm1).2, classify_emit (by simpa using hm2)⟩)
    rw [h]
    exact ⟨_, _, _, rfl⟩

end OsmoVerif.World
