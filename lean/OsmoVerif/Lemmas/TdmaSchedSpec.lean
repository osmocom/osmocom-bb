/- Consequences of the abstract scheduler machine (`Spec/TdmaSched.lean`): where one particular
item is, and at which `execute` it runs — also when callbacks schedule from inside (`ExecOnTheFly`) (C08). -/
import OsmoVerif.Spec.TdmaSched

set_option linter.unusedVariables false

namespace OsmoVerif.Spec.TdmaSched

section
variable {κ : Type}

def isExec : Op κ → Bool
  | .execute => true
  | _ => false

def isAdv : Op κ → Bool
  | .advance => true
  | _ => false

def isReset : Op κ → Bool
  | .reset => true
  | _ => false

theorem ite_iff {p q : Prop} [Decidable p] [Decidable q] (h : p ↔ q) :
    (if p then 1 else 0 : Nat) = if q then 1 else 0 :=
  ite_congr (propext h) (fun _ => rfl) (fun _ => rfl)

/-- one step back round the ring of 25 frames: `advance` brings an item due in `e + 1` to `e` -/
theorem ring_pred_iff {d e : Nat} (hd : d < 25) (he : e < 25) : d = (e + 1) % 25 ↔ (d + 24) % 25 = e := by
  omega

/-! ### histories -/

theorem run_append : ∀ (a b : List (Op κ)) (due : Due κ),
    run due (a ++ b) = ((run (run due a).1 b).1, (run due a).2 ++ (run (run due a).1 b).2)
  | [], b, due => rfl
  | op :: a, b, due => by
    simp only [List.cons_append, run, run_append a b (step due op).1]

theorem run_length : ∀ (ops : List (Op κ)) (due : Due κ), (run due ops).2.length = ops.length
  | [], _ => rfl
  | op :: ops, due => by simp only [run, List.length_cons, run_length ops]

theorem run_rc_at (due : Due κ) (pre post : List (Op κ)) (c : Op κ) :
    ((run due (pre ++ c :: post)).2.map (·.rc))[pre.length]? = some (step (run due pre).1 c).2.rc := by
  rw [run_append, List.map_append, List.getElem?_append_right (by simp [run_length]), List.length_map,
    run_length, Nat.sub_self]
  rfl

/-! ### placing items only adds to the frames -/

theorem put_prefix (due : Due κ) (d : Nat) (it : AItem κ) (e : Nat) : due e <+: put due d it e := by
  simp only [put]
  split
  · rename_i he; rw [he]; exact List.prefix_append _ _
  · exact List.prefix_refl _

theorem putFrame_prefix (d : Nat) : ∀ (f : List (AItem κ)) (due : Due κ) (e : Nat),
    due e <+: (putFrame due d f).1 e
  | [], due, e => List.prefix_refl _
  | it :: rest, due, e => by
    simp only [putFrame]
    split
    · exact List.prefix_refl _
    · exact (put_prefix due d it e).trans (putFrame_prefix d rest _ e)

theorem putFrames_prefix : ∀ (fs : List (List (AItem κ))) (due : Due κ) (off e : Nat),
    due e <+: (putFrames due off fs).1 e
  | [], due, off, e => List.prefix_refl _
  | f :: fs, due, off, e => by
    simp only [putFrames]
    have h1 := putFrame_prefix (slot off) f due e
    cases hpf : putFrame due (slot off) f with
    | mk due1 ok =>
      rw [hpf] at h1
      cases ok
      · exact h1
      · exact h1.trans (putFrames_prefix fs due1 (off + 1) e)

theorem step_call_prefix (due : Due κ) (op : Op κ) (h : isCall op = true) (e : Nat) :
    due e <+: (step due op).1 e := by
  cases op with
  | schedule off it =>
    simp only [step, schedule]
    split
    · exact List.prefix_refl _
    · exact put_prefix due _ it e
  | scheduleSet off fs =>
    simp only [step, scheduleSet]
    have := putFrames_prefix fs due off e
    cases hpf : putFrames due off fs with
    | mk due' ok => rw [hpf] at this; cases ok <;> exact this
  | _ => exact Bool.noConfusion h

theorem run_calls_prefix : ∀ (ops : List (Op κ)) (due : Due κ), (∀ op ∈ ops, isCall op = true) →
    ∀ e, due e <+: (run due ops).1 e
  | [], due, _, e => List.prefix_refl _
  | op :: ops, due, h, e =>
    (step_call_prefix due op (h op (List.mem_cons_self ..)) e).trans
      (run_calls_prefix ops _ (fun o ho => h o (List.mem_cons_of_mem _ ho)) e)

theorem flatMap_isCall (scr : AItem κ → List (Op κ)) (hscr : ∀ y, ∀ op ∈ scr y, isCall op = true)
    (ran : List (AItem κ)) : ∀ op ∈ ran.flatMap scr, isCall op = true := fun op hop =>
  let ⟨y, _, hy⟩ := List.mem_flatMap.mp hop
  hscr y op hy

/-! ### where the frames of a set go -/

theorem putFrame_ok (d : Nat) : ∀ (f : List (AItem κ)) (due due' : Due κ),
    putFrame due d f = (due', true) → ∀ e, due' e = if e = d then due d ++ f else due e
  | [], due, due', h, e => by
    cases h
    split
    · rename_i he; rw [he, List.append_nil]
    · rfl
  | it :: rest, due, due', h, e => by
    simp only [putFrame] at h
    split at h
    · cases h
    · rw [putFrame_ok d rest _ _ h e]
      simp only [put, if_true]
      split
      · rw [List.append_assoc, List.singleton_append]
      · rfl

theorem putFrames_ok : ∀ (fs : List (List (AItem κ))) (due due' : Due κ) (off : Nat),
    off + fs.length ≤ 25 → putFrames due off fs = (due', true) →
    (∀ k f, fs[k]? = some f → due' (off + k) = due (off + k) ++ f) ∧
    (∀ e, e < off ∨ off + fs.length ≤ e → due' e = due e)
  | [], due, due', off, _, h => by
    cases h
    exact ⟨fun k f hk => (nomatch hk), fun _ _ => rfl⟩
  | f :: fs, due, due', off, hl, h => by
    simp only [putFrames] at h
    cases hpf : putFrame due (slot off) f with
    | mk due1 ok =>
      rw [hpf] at h
      cases ok with
      | false => cases h
      | true =>
        rw [List.length_cons] at hl
        have hs : slot off = off := Nat.mod_eq_of_lt (by rw [depth]; omega)
        have h1 := putFrame_ok off f due due1 (hs ▸ hpf)
        obtain ⟨ha, hb⟩ := putFrames_ok fs due1 due' (off + 1) (by omega) h
        refine ⟨fun k f' hk => ?_, fun e he => ?_⟩
        · cases k with
          | zero =>
            cases hk
            rw [Nat.add_zero, hb off (Or.inl (Nat.lt_succ_self off)), h1 off, if_pos rfl]
          | succ k =>
            have hne : off + 1 + k ≠ off := by omega
            rw [← Nat.add_assoc, Nat.add_right_comm, ha k f' hk, h1 (off + 1 + k), if_neg hne]
        · rw [List.length_cons] at he
          have hne : e ≠ off := by omega
          rw [hb e (by omega), h1 e, if_neg hne]

/-! ### following one item: where it is, and how many times an operation runs it -/

/-- where the item is (`some d` = due in `d` frames, `none` = nowhere) after one operation, and how
many times the operation runs it -/
def trackStep (pos : Option Nat) (op : Op κ) : Option Nat × Nat :=
  match op with
  | .advance => (pos.map (fun d => (d + 24) % 25), 0)
  | .execute => if pos = some 0 then (none, 1) else (pos, 0)
  | .reset => (if pos = some 0 then pos else none, 0)
  | _ => (pos, 0)

def track (pos : Option Nat) : List (Op κ) → List Nat
  | [] => []
  | op :: ops => (trackStep pos op).2 :: track (trackStep pos op).1 ops

/-! ### what one operation does to an item due in `d` frames, by the kind of the operation -/

theorem trackStep_run (d : Nat) (op : Op κ) :
    (trackStep (some d) op).2 = if isExec op = true ∧ d = 0 then 1 else 0 := by
  cases op <;> simp [trackStep, isExec]
  split <;> rfl

theorem trackStep_adv (d : Nat) {op : Op κ} (h : isAdv op = true) :
    (trackStep (some d) op).1 = some ((d + 24) % 25) := by
  cases op <;> first | rfl | exact Bool.noConfusion h

theorem trackStep_exec_zero {op : Op κ} (h : isExec op = true) : (trackStep (some 0) op).1 = none := by
  cases op <;> first | rfl | exact Bool.noConfusion h

theorem trackStep_stay (d : Nat) {op : Op κ} (ha : isAdv op = false) (hr : isReset op = false)
    (h : isExec op = true → d ≠ 0) : (trackStep (some d) op).1 = some d := by
  cases op with
  | execute => simp only [trackStep, Option.some.injEq, if_neg (h rfl)]
  | advance => exact Bool.noConfusion ha
  | reset => exact Bool.noConfusion hr
  | _ => rfl

theorem isExec_of_isAdv {op : Op κ} (h : isAdv op = true) : isExec op = false := by
  cases op <;> first | rfl | exact Bool.noConfusion h

/-! ### closed forms -/

def advBefore (ops : List (Op κ)) (i : Nat) : Nat := (ops.take i).countP isAdv

theorem advBefore_zero (ops : List (Op κ)) : advBefore ops 0 = 0 := rfl

theorem advBefore_cons (op : Op κ) (ops : List (Op κ)) (i : Nat) :
    advBefore (op :: ops) (i + 1) = advBefore ops i + (if isAdv op then 1 else 0) := by
  simp only [advBefore, List.take_succ_cons, List.countP_cons]

theorem track_none : ∀ (ops : List (Op κ)) (i : Nat), (track none ops).getD i 0 = 0
  | [], i => rfl
  | op :: ops, i => by
    have h1 : trackStep none op = (none, 0) := by cases op <;> rfl
    cases i with
    | zero => simp only [track, h1, List.getD_cons_zero]
    | succ i => simp only [track, h1, List.getD_cons_succ]; exact track_none ops i

/-- operation `i` is an `execute` of the frame in which an item due in `d` frames is due
(ring form: the number of advances so far is `d` modulo the depth) -/
def hit (d : Nat) (ops : List (Op κ)) (i : Nat) : Prop :=
  (ops[i]?).map isExec = some true ∧ advBefore ops i % 25 = d

instance (d : Nat) (ops : List (Op κ)) (i : Nat) : Decidable (hit d ops i) := by
  unfold hit; infer_instance

theorem hit_zero (d : Nat) (op : Op κ) (ops : List (Op κ)) :
    hit d (op :: ops) 0 ↔ isExec op = true ∧ d = 0 := by
  simp only [hit, List.getElem?_cons_zero, Option.map_some, Option.some.injEq, advBefore_zero]
  exact and_congr_right fun _ => eq_comm

/-- behind an `advance` the frames have come one closer -/
theorem hit_succ_adv {d : Nat} (hd : d < 25) {op : Op κ} (h : isAdv op = true) (ops : List (Op κ)) (i : Nat) :
    hit d (op :: ops) (i + 1) ↔ hit ((d + 24) % 25) ops i := by
  simp only [hit, List.getElem?_cons_succ, advBefore_cons, h, if_true]
  rw [← Nat.mod_add_mod]
  exact and_congr_right fun _ => eq_comm.trans ((ring_pred_iff hd (Nat.mod_lt _ (by decide))).trans eq_comm)

theorem hit_succ_stay (d : Nat) {op : Op κ} (h : isAdv op = false) (ops : List (Op κ)) (i : Nat) :
    hit d (op :: ops) (i + 1) ↔ hit d ops i := by
  simp only [hit, List.getElem?_cons_succ, advBefore_cons, h, Bool.false_eq_true, if_false, Nat.add_zero]

/-- ring statement: without `reset`, an item due in `d` frames runs exactly once — at the first
`execute` that happens when the number of advances is `d` modulo 25 — and at no other operation -/
theorem track_ring : ∀ (ops : List (Op κ)) (d i : Nat), d < 25 → (∀ op ∈ ops, isReset op = false) →
    i < ops.length →
    (track (some d) ops).getD i 0 = if hit d ops i ∧ ∀ j, j < i → ¬ hit d ops j then 1 else 0
  | [], _, _, _, _, hi => nomatch hi
  | op :: ops, d, 0, hd, hr, hi => by
    rw [track, List.getD_cons_zero, trackStep_run]
    exact ite_iff ⟨fun h => ⟨(hit_zero d op ops).mpr h, fun j hj => nomatch hj⟩,
      fun h => (hit_zero d op ops).mp h.1⟩
  | op :: ops, d, i + 1, hd, hr, hi => by
    have hr' : ∀ o ∈ ops, isReset o = false := fun o ho => hr o (List.mem_cons_of_mem _ ho)
    have hrop := hr op (List.mem_cons_self ..)
    have hi' : i < ops.length := Nat.lt_of_succ_lt_succ hi
    rw [track, List.getD_cons_succ]
    by_cases ha : isAdv op = true
    · rw [trackStep_adv d ha, track_ring ops _ i (Nat.mod_lt _ (by decide)) hr' hi']
      apply ite_iff
      simp only [Nat.forall_lt_succ_left, hit_zero, hit_succ_adv hd ha, isExec_of_isAdv ha, Bool.false_eq_true,
        false_and, not_false_eq_true, true_and]
    · have ha : isAdv op = false := Bool.eq_false_iff.mpr ha
      by_cases he : isExec op = true ∧ d = 0
      · -- runs now; afterwards it is nowhere
        rw [he.2, trackStep_exec_zero he.1, track_none]
        exact (if_neg fun h => h.2 0 (Nat.succ_pos i) ((hit_zero 0 op ops).mpr ⟨he.1, rfl⟩)).symm
      · rw [trackStep_stay d ha hrop (fun h1 h2 => he ⟨h1, h2⟩), track_ring ops d i hd hr' hi']
        apply ite_iff
        simp only [Nat.forall_lt_succ_left, hit_zero, hit_succ_stay d ha, he, not_false_eq_true, true_and]

/-! ### the firmware discipline: `execute`, then `advance`, once per frame -/

/-- `disciplined e ops`: in `ops` every frame is executed exactly once before the scheduler advances
(`e` = the current frame has already been executed); scheduling may happen anywhere -/
def disciplined : Bool → List (Op κ) → Bool
  | _, [] => true
  | e, op :: ops =>
    if isExec op then (!e && disciplined true ops)
    else if isAdv op then (e && disciplined false ops)
    else disciplined e ops

theorem disciplined_exec_after : ∀ (ops : List (Op κ)), disciplined true ops = true →
    ∀ i, (ops[i]?).map isExec = some true → 1 ≤ advBefore ops i
  | [], _, i, h => nomatch h
  | op :: ops, hd, i, h => by
    simp only [disciplined] at hd
    by_cases c1 : isExec op = true
    · simp [c1] at hd
    · cases i with
      | zero => exact absurd (Option.some.inj h) c1
      | succ i =>
        rw [advBefore_cons]
        by_cases c2 : isAdv op = true
        · rw [if_pos c2]; exact Nat.le_add_left 1 _
        · simp only [c1, c2, Bool.false_eq_true, if_false] at hd
          exact Nat.le_add_right_of_le (disciplined_exec_after ops hd i h)

/-- discipline statement: an item due in `d < 25` frames runs exactly once, at the `execute` that
happens after exactly `d` advances, and at no other operation.  (`e ∧ d = 0` — scheduling for the
current frame after it has been executed — is excluded: such an item waits a full turn of the ring.) -/
theorem track_disciplined : ∀ (ops : List (Op κ)) (e : Bool) (d i : Nat), d < 25 →
    disciplined e ops = true → (∀ op ∈ ops, isReset op = false) → ¬ (e = true ∧ d = 0) → i < ops.length →
    (track (some d) ops).getD i 0 =
      if (ops[i]?).map isExec = some true ∧ advBefore ops i = d then 1 else 0
  | [], _, _, _, _, _, _, _, hi => nomatch hi
  | op :: ops, e, d, 0, hd, hdis, hr, hed, hi => by
    rw [track, List.getD_cons_zero, trackStep_run]
    simp only [List.getElem?_cons_zero, Option.map_some, Option.some.injEq, advBefore_zero]
    exact ite_iff (and_congr_right fun _ => eq_comm)
  | op :: ops, e, d, i + 1, hd, hdis, hr, hed, hi => by
    have hr' : ∀ o ∈ ops, isReset o = false := fun o ho => hr o (List.mem_cons_of_mem _ ho)
    have hrop := hr op (List.mem_cons_self ..)
    have hi' : i < ops.length := Nat.lt_of_succ_lt_succ hi
    rw [track, List.getD_cons_succ, List.getElem?_cons_succ, advBefore_cons]
    simp only [disciplined] at hdis
    by_cases hx : isExec op = true
    · have ha : isAdv op = false := by cases op <;> first | rfl | exact Bool.noConfusion hx
      simp only [hx, if_true, Bool.and_eq_true, Bool.not_eq_eq_eq_not, Bool.not_true] at hdis
      rw [ha, if_neg Bool.false_ne_true, Nat.add_zero]
      by_cases hd0 : d = 0
      · -- runs now; under the discipline no later `execute` happens before an `advance`
        rw [hd0, trackStep_exec_zero hx, track_none]
        refine (if_neg fun h => ?_).symm
        exact absurd (disciplined_exec_after ops hdis.2 i h.1) (h.2 ▸ Nat.not_succ_le_zero 0)
      · rw [trackStep_stay d ha hrop (fun _ => hd0),
          track_disciplined ops true d i hd hdis.2 hr' (fun h => hd0 h.2) hi']
    · by_cases ha : isAdv op = true
      · simp only [hx, ha, Bool.false_eq_true, if_false, if_true, Bool.and_eq_true] at hdis
        have hd0 : d ≠ 0 := fun h => hed ⟨hdis.1, h⟩
        rw [trackStep_adv d ha, track_disciplined ops false _ i (Nat.mod_lt _ (by decide)) hdis.2 hr'
          (fun h => Bool.false_ne_true h.1) hi', if_pos ha]
        have hd1 : (d + 24) % 25 + 1 = d := by
          have := (ring_pred_iff hd (Nat.mod_lt (d + 24) (by decide))).mpr rfl
          omega
        exact ite_iff (and_congr_right fun _ => ⟨fun h => h ▸ hd1, fun h => Nat.succ.inj (h.trans hd1.symm)⟩)
      · simp only [hx, ha, Bool.false_eq_true, if_false] at hdis
        rw [trackStep_stay d (Bool.eq_false_iff.mpr ha) hrop (fun h => absurd h hx),
          track_disciplined ops e d i hd hdis hr' hed hi', if_neg ha, Nat.add_zero]

/-! ### `execute` with callbacks that schedule on the fly -/

/-- `ran` is a permutation of everything the frame due now held when it was emptied: nothing that
was scheduled on the fly for the current frame is lost -/
theorem execOnTheFly_perm {scr : AItem κ → List (Op κ)} {due due' : Due κ} {ran : List (AItem κ)}
    {rets : List Int} (hscr : ∀ y, ∀ op ∈ scr y, isCall op = true)
    (h : ExecOnTheFly scr due ran due' rets) :
    ran.Perm ((run due (ran.flatMap scr)).1 0) := by
  obtain ⟨pre, fly, hran, hv, hfly, _, _⟩ := h
  obtain ⟨t, ht⟩ := run_calls_prefix (ran.flatMap scr) due (flatMap_isCall scr hscr ran) 0
  rw [← ht, List.drop_left] at hfly
  rw [← ht, ← hfly, hran]
  exact List.Perm.append_right fly hv.1

theorem execOnTheFly_plain (scr : AItem κ → List (Op κ)) (hscr : ∀ y, scr y = []) {due due' : Due κ}
    {ran : List (AItem κ)} {rets : List Int} (h : ExecOnTheFly scr due ran due' rets) :
    ValidRun (due 0) ran ∧ due' = (execute due).1 := by
  obtain ⟨pre, fly, hran, hv, hfly, hdue', _⟩ := h
  rw [List.flatMap_eq_nil_iff.mpr fun y _ => hscr y] at hfly hdue'
  rw [hran, hfly, show (run due []).1 = due from rfl, List.drop_length, List.append_nil]
  exact ⟨hv, hdue'⟩

end

variable {κ : Type} [DecidableEq κ]

theorem track_length : ∀ (pos : Option Nat) (ops : List (Op κ)), (track pos ops).length = ops.length
  | _, [] => rfl
  | pos, op :: ops => by simp [track, track_length _ ops]

/-! ### placing items that are not `x` does not change where `x` is -/

theorem count_put (x it : AItem κ) (due : Due κ) (d e : Nat) (h : it ≠ x) :
    (put due d it e).count x = (due e).count x := by
  simp only [put]
  split
  · rename_i he
    rw [he, List.count_append, List.count_singleton, if_neg (by simpa using h), Nat.add_zero]
  · rfl

theorem count_putFrame (x : AItem κ) (d : Nat) : ∀ (f : List (AItem κ)) (due : Due κ) (e : Nat),
    (∀ it ∈ f, it ≠ x) → ((putFrame due d f).1 e).count x = (due e).count x
  | [], due, e, _ => rfl
  | it :: rest, due, e, h => by
    simp only [putFrame]
    split
    · rfl
    · rw [count_putFrame x d rest _ e (fun y hy => h y (List.mem_cons_of_mem _ hy))]
      exact count_put x it due d e (h it (List.mem_cons_self ..))

theorem count_putFrames (x : AItem κ) : ∀ (fs : List (List (AItem κ))) (due : Due κ) (off e : Nat),
    (∀ it ∈ fs.flatten, it ≠ x) → ((putFrames due off fs).1 e).count x = (due e).count x
  | [], due, off, e, _ => rfl
  | f :: fs, due, off, e, h => by
    rw [List.flatten_cons] at h
    simp only [putFrames]
    have h1 := count_putFrame x (slot off) f due e (fun y hy => h y (List.mem_append_left _ hy))
    cases hpf : putFrame due (slot off) f with
    | mk due' ok =>
      rw [hpf] at h1
      cases ok
      · exact h1
      · exact (count_putFrames x fs due' (off + 1) e (fun y hy => h y (List.mem_append_right _ hy))).trans h1

theorem count_step_call (x : AItem κ) (due : Due κ) (op : Op κ) (h : isCall op = true)
    (hx : x ∉ placed op) (e : Nat) : ((step due op).1 e).count x = (due e).count x := by
  cases op with
  | schedule off it =>
    simp only [step, schedule]
    split
    · rfl
    · exact count_put x it due _ e fun h => hx (h ▸ List.mem_singleton_self it)
  | scheduleSet off fs =>
    simp only [step, scheduleSet]
    have := count_putFrames x fs due off e fun it hit h => hx (h ▸ hit)
    cases hpf : putFrames due off fs with
    | mk due' ok => rw [hpf] at this; cases ok <;> exact this
  | _ => exact Bool.noConfusion h

/-! ### the item in the abstract machine -/

/-- `x` is pending exactly once, in the frame due in `d` (`pos = some d`), or nowhere (`none`) -/
def At (x : AItem κ) (due : Due κ) (pos : Option Nat) : Prop :=
  (∀ d, pos = some d → d < 25) ∧ ∀ e, e < 25 → (due e).count x = if pos = some e then 1 else 0

theorem at_none {x : AItem κ} {due : Due κ} (h : ∀ e, e < 25 → x ∉ due e) : At x due none :=
  ⟨nofun, fun e he => List.count_eq_zero.mpr (h e he)⟩

theorem at_some {x : AItem κ} {due : Due κ} {d : Nat} (hd : d < 25) (h1 : (due d).count x = 1)
    (h0 : ∀ e, e < 25 → e ≠ d → (due e).count x = 0) : At x due (some d) := by
  refine ⟨fun d' h => Option.some.inj h ▸ hd, fun e he => ?_⟩
  by_cases hed : e = d
  · rw [hed, if_pos rfl, h1]
  · rw [if_neg (fun h => hed (Option.some.inj h).symm), h0 e he hed]

theorem At.count_eq {x : AItem κ} {due : Due κ} {d : Nat} (h : At x due (some d)) : (due d).count x = 1 :=
  (h.2 d (h.1 d rfl)).trans (if_pos rfl)

theorem At.count_ne {x : AItem κ} {due : Due κ} {d e : Nat} (h : At x due (some d)) (he : e < 25)
    (hne : e ≠ d) : (due e).count x = 0 :=
  (h.2 e he).trans (if_neg fun h' => hne (Option.some.inj h').symm)

theorem At.congr {x : AItem κ} {due due' : Due κ} {pos : Option Nat} (h : At x due pos)
    (hc : ∀ e, e < 25 → (due' e).count x = (due e).count x) : At x due' pos :=
  ⟨h.1, fun e he => (hc e he).trans (h.2 e he)⟩

theorem at_put_fresh {x : AItem κ} {due : Due κ} {d : Nat} (hd : d < 25) (hat : At x due none) :
    At x (put due d x) (some d) := by
  refine at_some hd ?_ fun e he hne => ?_
  · rw [put, if_pos rfl, List.count_append, hat.2 d hd, List.count_singleton_self]; rfl
  · rw [put, if_neg hne, hat.2 e he]; rfl

/-- the frames `fs` hold `x` exactly once, in the `k`-th of them -/
def OnceIn (x : AItem κ) (fs : List (List (AItem κ))) (k : Nat) : Prop :=
  ∃ f, fs[k]? = some f ∧ f.count x = 1 ∧ ∀ k' f', k' ≠ k → fs[k']? = some f' → x ∉ f'

theorem OnceIn.lt {x : AItem κ} {fs : List (List (AItem κ))} {k : Nat} (h : OnceIn x fs k) : k < fs.length :=
  let ⟨_, hk, _⟩ := h
  (List.getElem?_eq_some_iff.mp hk).1

theorem at_putFrames_fresh {x : AItem κ} {due due' : Due κ} {off k : Nat} {fs : List (List (AItem κ))}
    (hdepth : off + fs.length ≤ 25) (hat : At x due none) (hpf : putFrames due off fs = (due', true))
    (hx : OnceIn x fs k) : At x due' (some (off + k)) := by
  obtain ⟨hin, hout⟩ := putFrames_ok fs due due' off hdepth hpf
  have hklt := hx.lt
  obtain ⟨f, hk, hx1, hx0⟩ := hx
  have h0 : ∀ e, e < 25 → (due e).count x = 0 := fun e he => hat.2 e he
  have hlt : off + k < 25 := Nat.lt_of_lt_of_le (Nat.add_lt_add_left hklt off) hdepth
  refine at_some hlt ?_ fun e he hne => ?_
  · rw [hin k f hk, List.count_append, h0 _ hlt, hx1]
  · by_cases hin' : off ≤ e ∧ e < off + fs.length
    · -- `e` is the frame of another frame of the set, which does not hold `x`
      have hget := List.getElem?_eq_getElem (Nat.sub_lt_left_of_lt_add hin'.1 hin'.2 : e - off < fs.length)
      have := hin (e - off) _ hget
      rw [Nat.add_sub_cancel' hin'.1] at this
      rw [this, List.count_append, h0 e he, List.count_eq_zero.mpr
        (hx0 (e - off) _ (fun h => hne (by rw [← h, Nat.add_sub_cancel' hin'.1])) hget)]
    · rw [hout e ((Nat.lt_or_ge e off).imp_right fun h1 => Nat.le_of_not_lt fun h2 => hin' ⟨h1, h2⟩), h0 e he]

theorem step_track {x : AItem κ} {due : Due κ} {pos : Option Nat} (op : Op κ)
    (hat : At x due pos) (hx : x ∉ placed op) :
    At x (step due op).1 (trackStep pos op).1 ∧ (step due op).2.toRun.count x = (trackStep pos op).2 := by
  obtain ⟨hlt, hc⟩ := hat
  have h25 : (0 : Nat) < 25 := by decide
  cases op with
  | schedule off it => exact ⟨At.congr ⟨hlt, hc⟩ fun e _ => count_step_call x due _ rfl hx e, rfl⟩
  | scheduleSet off fs => exact ⟨At.congr ⟨hlt, hc⟩ fun e _ => count_step_call x due _ rfl hx e, rfl⟩
  | advance =>
    refine ⟨⟨fun d hd => ?_, fun e he => ?_⟩, rfl⟩
    · obtain ⟨d0, _, rfl⟩ := Option.map_eq_some_iff.mp hd
      exact Nat.mod_lt _ h25
    · show (if e < 25 then due ((e + 1) % 25) else []).count x = _
      rw [if_pos he, hc _ (Nat.mod_lt (e + 1) h25)]
      cases pos with
      | none => rfl
      | some d0 =>
        have := hlt d0 rfl
        have h : some d0 = some ((e + 1) % 25) ↔ Option.map (fun d => (d + 24) % 25) (some d0) = some e := by
          simp only [Option.map_some, Option.some.injEq, ring_pred_iff this he]
        exact ite_iff h
  | execute =>
    have hrun : (due 0).count x = if pos = some 0 then 1 else 0 := hc 0 h25
    by_cases h0 : pos = some 0
    · simp only [trackStep, if_pos h0]
      refine ⟨⟨nofun, fun e he => ?_⟩, hrun.trans (if_pos h0)⟩
      show (if e = 0 then [] else due e).count x = 0
      split
      · rfl
      · rename_i hne
        exact (hc e he).trans (if_neg fun h => hne (Option.some.inj (h0.symm.trans h)).symm)
    · simp only [trackStep, if_neg h0]
      refine ⟨⟨hlt, fun e he => ?_⟩, hrun.trans (if_neg h0)⟩
      show (if e = 0 then [] else due e).count x = _
      split
      · rename_i he0
        exact (if_neg (he0 ▸ h0)).symm
      · exact hc e he
  | reset =>
    refine ⟨?_, rfl⟩
    by_cases h0 : pos = some 0
    · simp only [trackStep, if_pos h0]
      refine ⟨hlt, fun e he => ?_⟩
      show (if e = 0 then due 0 else []).count x = _
      split
      · rename_i he0; exact he0 ▸ hc 0 h25
      · rename_i hne
        exact (if_neg fun h => hne (Option.some.inj (h0.symm.trans h)).symm).symm
    · simp only [trackStep, if_neg h0]
      refine ⟨nofun, fun e he => ?_⟩
      show (if e = 0 then due 0 else []).count x = 0
      split
      · exact (hc 0 h25).trans (if_neg h0)
      · rfl

theorem run_track (x : AItem κ) : ∀ (ops : List (Op κ)) (due : Due κ) (pos : Option Nat),
    At x due pos → (∀ op ∈ ops, ∀ it ∈ placed op, it ≠ x) →
    (run due ops).2.map (fun o => o.toRun.count x) = track pos ops
  | [], _, _, _, _ => rfl
  | op :: ops, due, pos, hat, hx => by
    obtain ⟨h1, h2⟩ := step_track op hat fun h => hx op (List.mem_cons_self ..) x h rfl
    simp only [run, List.map_cons, track, h2]
    rw [run_track x ops _ _ h1 (fun o ho => hx o (List.mem_cons_of_mem _ ho))]

theorem run_calls_at (x : AItem κ) : ∀ (ops : List (Op κ)) (due : Due κ) (pos : Option Nat),
    At x due pos → (∀ op ∈ ops, isCall op = true) → (∀ op ∈ ops, x ∉ placed op) →
    At x (run due ops).1 pos
  | [], _, _, hat, _, _ => hat
  | op :: ops, due, pos, hat, hc, hx =>
    run_calls_at x ops _ pos
      (hat.congr fun e _ =>
        count_step_call x due op (hc op (List.mem_cons_self ..)) (hx op (List.mem_cons_self ..)) e)
      (fun o ho => hc o (List.mem_cons_of_mem _ ho)) (fun o ho => hx o (List.mem_cons_of_mem _ ho))

/-! ### the call that places a fresh item -/

theorem at_schedule_fresh {x : AItem κ} {due : Due κ} {off : Nat} (hoff : off < 25) (hat : At x due none)
    (hrc : (schedule due off x).2 = 0) : At x (schedule due off x).1 (some off) := by
  have hslot : slot off = off := Nat.mod_eq_of_lt hoff
  rw [schedule, hslot] at hrc ⊢
  split at hrc
  · cases hrc
  · rw [if_neg ‹_›]; exact at_put_fresh hoff hat

theorem at_scheduleSet_fresh {x : AItem κ} {due : Due κ} {off k : Nat} {fs : List (List (AItem κ))}
    (hdepth : off + fs.length ≤ 25) (hat : At x due none) (hx : OnceIn x fs k)
    (hrc : (scheduleSet due off fs).2 ≠ -1) : At x (scheduleSet due off fs).1 (some (off + k)) := by
  rw [scheduleSet] at hrc ⊢
  cases hpf : putFrames due off fs with
  | mk due' ok =>
    rw [hpf] at hrc
    cases ok with
    | false => exact absurd rfl hrc
    | true => exact at_putFrames_fresh hdepth hat hpf hx

/-- among calls made from inside, exactly one — `c`, behind `pre` — places the fresh item `x`, in the
frame due in `d`; none of the others places it: afterwards `x` is pending exactly once, due in `d` -/
theorem run_calls_place {x : AItem κ} {due : Due κ} {pre post : List (Op κ)} {c : Op κ} {d : Nat}
    (hat : At x due none)
    (hcpre : ∀ op ∈ pre, isCall op = true) (hcpost : ∀ op ∈ post, isCall op = true)
    (hxpre : ∀ op ∈ pre, x ∉ placed op) (hxpost : ∀ op ∈ post, x ∉ placed op)
    (hc : At x (run due pre).1 none → At x (step (run due pre).1 c).1 (some d)) :
    At x (run due (pre ++ c :: post)).1 (some d) := by
  rw [run_append]
  exact run_calls_at x post _ (some d) (hc (run_calls_at x pre due none hat hcpre hxpre)) hcpost hxpost

/-! ### following one item through an `execute` with on-the-fly scheduling -/

/-- an `execute` whose callbacks schedule on the fly but never place `x` treats `x` like the plain
`execute`: it runs iff it was due now, and is pending nowhere afterwards; otherwise it stays -/
theorem execOnTheFly_track {scr : AItem κ → List (Op κ)} {due due' : Due κ} {ran : List (AItem κ)}
    {rets : List Int} {x : AItem κ} {pos : Option Nat}
    (hscr : ∀ y, ∀ op ∈ scr y, isCall op = true)
    (h : ExecOnTheFly scr due ran due' rets) (hat : At x due pos)
    (hx : ∀ op ∈ ran.flatMap scr, x ∉ placed op) :
    At x due' (trackStep pos (Op.execute : Op κ)).1 ∧ ran.count x = (trackStep pos (Op.execute : Op κ)).2 := by
  have hperm := execOnTheFly_perm hscr h
  obtain ⟨pre, fly, hran, hv, hfly, hdue', _⟩ := h
  have hat1 := run_calls_at x (ran.flatMap scr) due pos hat (flatMap_isCall scr hscr ran) hx
  obtain ⟨h1, h2⟩ := step_track .execute hat1 nofun
  exact ⟨hdue' ▸ h1, hperm.count_eq x ▸ h2⟩

/-- an item that the calls made from inside leave pending exactly once, due in `d` frames, and that
was pending nowhere before: if `d = 0` it runs in this very `execute`, exactly once, among the items run
after those that were due at the start, and is pending nowhere afterwards; if `d ≥ 1` it does not run
now and is pending exactly once, due in `d` frames -/
theorem execOnTheFly_placed {scr : AItem κ → List (Op κ)} {due due' : Due κ} {ran : List (AItem κ)}
    {rets : List Int} {x : AItem κ} {d : Nat}
    (hscr : ∀ y, ∀ op ∈ scr y, isCall op = true)
    (h : ExecOnTheFly scr due ran due' rets) (hat : At x due none)
    (hat1 : At x (run due (ran.flatMap scr)).1 (some d)) :
    ran.count x = (if d = 0 then 1 else 0) ∧ At x due' (if d = 0 then none else some d) ∧
    (d = 0 → ∃ p f, ran = p ++ f ∧ p.Perm (due 0) ∧ x ∉ p ∧ f.count x = 1 ∧
      f = ((run due (ran.flatMap scr)).1 0).drop (due 0).length) := by
  have hperm := execOnTheFly_perm hscr h
  obtain ⟨p, f, hran, hv, hfly, hdue', hrets⟩ := h
  obtain ⟨h1, h2⟩ := step_track .execute hat1 nofun
  have hcnt : ran.count x = (if d = 0 then 1 else 0) := by
    rw [hperm.count_eq x]
    exact h2.trans (by rw [trackStep_run]; exact ite_iff (and_iff_right rfl))
  refine ⟨hcnt, ?_, fun h0 => ?_⟩
  · rw [hdue']
    by_cases h0 : d = 0
    · rw [if_pos h0]; rw [h0] at h1; exact h1
    · rw [if_neg h0]; rw [trackStep_stay d rfl rfl (fun _ => h0)] at h1; exact h1
  · have hp0 : p.count x = 0 := (hv.1.count_eq x).trans (hat.2 0 (by decide))
    refine ⟨p, f, hran, hv.1, List.count_eq_zero.mp hp0, ?_, hfly⟩
    rw [hran, List.count_append, hp0, if_pos h0, Nat.zero_add] at hcnt
    exact hcnt

end OsmoVerif.Spec.TdmaSched
