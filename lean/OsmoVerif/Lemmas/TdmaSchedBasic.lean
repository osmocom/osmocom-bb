/- TDMA scheduler model (C08): constants, C conversions in range, checked array access, and the invariant
of the reachable states. -/
import OsmoVerif.Model.TdmaSched
import OsmoVerif.Lemmas.Basics

set_option linter.unusedVariables false

namespace OsmoVerif.TdmaSched

theorem nf : Gen.tdmaNumFrames = 25 := by decide
theorem nc : Gen.tdmaNumCb = 8 := by decide

/-! ### conversions of values that fit -/

theorem u8_of_lt {n : Nat} (h : n < 256) : u8 n = n := Nat.mod_eq_of_lt h
theorem u16_of_lt {n : Nat} (h : n < 65536) : u16 n = n := Nat.mod_eq_of_lt h
theorem i16_of_range {z : Int} (h1 : -32768 ≤ z) (h2 : z ≤ 32767) : i16 z = z := by unfold i16; omega

/-! ### the error monad, checked array access -/

theorem idx_of_get? {α : Type} {l : List α} {i : Nat} {x : α} (h : l[i]? = some x) : idx l i = .ok x := by
  simp [idx, h]

theorem idx_ok_getD {α : Type} (l : List α) (i : Nat) (d : α) (h : i < l.length) :
    idx l i = .ok (l.getD i d) := by
  simp [idx, h]

theorem setIdx_ok {α : Type} (l : List α) (i : Nat) (v : α) (h : i < l.length) :
    setIdx l i v = .ok (l.set i v) := by
  simp [setIdx, h]

theorem lt_of_get? {α : Type} (l : List α) (i : Nat) (x : α) (h : l[i]? = some x) : i < l.length :=
  (List.getElem?_eq_some_iff.mp h).1

theorem getD_eq_getElem' {α : Type} (l : List α) (i : Nat) (d : α) (h : i < l.length) :
    l.getD i d = l[i] := by
  simp [List.getD_eq_getElem?_getD, h]

/-! ### well-formed scheduler states -/

def BucketWF (b : Bucket) : Prop := b.item.length = 8 ∧ b.numItems ≤ 8

instance (b : Bucket) : Decidable (BucketWF b) := by unfold BucketWF; infer_instance

def WF (s : Sched) : Prop := s.bucket.length = 25 ∧ s.cur < 25 ∧ ∀ b ∈ s.bucket, BucketWF b

instance (s : Sched) : Decidable (WF s) := by unfold WF; infer_instance

/-- the live items of a bucket: `item[0 .. num_items)` -/
def live (b : Bucket) : List Item := b.item.take b.numItems

def AllLive (P : Item → Prop) (s : Sched) : Prop := ∀ b ∈ s.bucket, ∀ it ∈ live b, P it

instance (P : Item → Prop) [DecidablePred P] (s : Sched) : Decidable (AllLive P s) := by
  unfold AllLive; infer_instance

/-- a callback invocation that reports success -/
def itemOk (env : Env) (it : Item) : Prop :=
  match it.cb with
  | .null => False
  | .endSet => True
  | .fn id => 0 ≤ env.ret id it.p1 it.p2 it.p3

instance (env : Env) (it : Item) : Decidable (itemOk env it) := by
  unfold itemOk; cases it.cb <;> infer_instance

/-- invariant of the reachable states: memory layout intact, counters in range, every pending
callback is a function that reports success in the environment `env` -/
def Inv (env : Env) (s : Sched) : Prop := WF s ∧ AllLive (itemOk env) s

instance (env : Env) (s : Sched) : Decidable (Inv env s) := by unfold Inv; infer_instance

theorem live_length {b : Bucket} (hb : BucketWF b) : (live b).length = b.numItems := by
  simp only [live, List.length_take, hb.1]
  exact Nat.min_eq_left hb.2

theorem Inv.bucketWF {env : Env} {s : Sched} (hinv : Inv env s) {j : Nat} {b : Bucket}
    (hb : s.bucket[j]? = some b) : BucketWF b :=
  hinv.1.2.2 b (List.mem_of_getElem? hb)

theorem Inv.bucket_get {env : Env} {s : Sched} (hinv : Inv env s) {i : Nat} (hi : i < 25) :
    ∃ b, s.bucket[i]? = some b :=
  ⟨s.bucket[i]'(by rw [hinv.1.1]; exact hi), List.getElem?_eq_getElem _⟩

theorem Inv.set {env : Env} {s : Sched} (hinv : Inv env s) (i : Nat) {b' : Bucket} (hwf : BucketWF b')
    (hok : ∀ it ∈ live b', itemOk env it) : Inv env { s with bucket := s.bucket.set i b' } := by
  obtain ⟨⟨hl, hc, hbw⟩, hal⟩ := hinv
  refine ⟨⟨by simpa using hl, hc, fun b hb => ?_⟩, fun b hb => ?_⟩
  · rcases List.mem_or_eq_of_mem_set hb with h | h
    · exact hbw b h
    · exact h ▸ hwf
  · rcases List.mem_or_eq_of_mem_set hb with h | h
    · exact hal b h
    · exact h ▸ hok

theorem wrapBucket_ok (s : Sched) (off : Nat) (h : s.cur < 25) (ho : off < 256) :
    wrapBucket s off = .ok ((s.cur + off) % 25) := by
  have e : u8 (u16 ((s.cur + off) % 25)) = (s.cur + off) % 25 := by
    rw [u16_of_lt (by omega), u8_of_lt (by omega)]
  simp [wrapBucket, nf, e]

theorem init_inv (env : Env) (cur : Nat) (h : cur < 25) : Inv env (init cur) := by
  refine ⟨⟨by simp [init, nf], h, fun b hb => ?_⟩, fun b hb it hit => ?_⟩
  · rw [(List.mem_replicate.mp hb).2]
    simp [BucketWF, zeroBucket, nc]
  · rw [(List.mem_replicate.mp hb).2] at hit
    simp [live, zeroBucket] at hit

end OsmoVerif.TdmaSched
