/- C08, gsmtime part: the two schedulers together.  No operation of a well-formed history faults (`Safe`), and where
one particular item of one particular event's set is in the TDMA scheduler, frame by frame (`Tracked`), on top of
the lemmas of the TDMA scheduler (`Lemmas/TdmaSched.lean` and the modules it imports). -/
import OsmoVerif.Lemmas.SchedGsmtime

set_option linter.unusedVariables false

namespace OsmoVerif.SchedGsmtime
open OsmoVerif
open OsmoVerif.TdmaSched (Item Sched Env u16 Cb Inv OpOk abs absOp ranCount framesOf markers EnvOk NoReentry)
open OsmoVerif.Spec.TdmaSched (AItem At trackStep placed OnceIn)

/-! ### no faults -/

/-- the item set of the event can be handed to `tdma_schedule_set` (terminated by `SCHED_END_SET()`, callbacks
that report success, frame offsets below 256) -/
def SetOk (env : Env) (e : Event) : Prop := OpOk env (.scheduleSet frameOffset e.si e.p3)

instance (env : Env) (e : Event) : Decidable (SetOk env e) := by unfold SetOk; infer_instance

/-- both schedulers well-formed, every pending event has an admissible item set -/
def Safe (env : Env) (st : Sys) : Prop :=
  GInv st.g ∧ Inv env st.s ∧ ∀ e ∈ st.g.active, SetOk env e

instance (env : Env) (st : Sys) : Decidable (Safe env st) := by unfold Safe; infer_instance

/-- admissible operations: those of the TDMA scheduler as in `OpOk`; `sched_gsmtime` with an item set that is
admissible for the `tdma_schedule_set` call it will cause -/
def OpSafe (env : Env) : SOp → Prop
  | .gsched si _ p3 => OpOk env (.scheduleSet frameOffset si (u16 p3))
  | .tdma op => OpOk env op
  | _ => True

instance (env : Env) (op : SOp) : Decidable (OpSafe env op) := by
  cases op <;> unfold OpSafe <;> infer_instance

theorem schedAll_safe (env : Env) : ∀ (es : List Event) (s : Sched), Inv env s → (∀ e ∈ es, SetOk env e) →
    ∃ s' cs, schedAll s es = .ok (s', cs) ∧ Inv env s'
  | [], s, h, _ => ⟨s, [], rfl, h⟩
  | e :: es, s, h, hok => by
    obtain ⟨s1, rc, h1, i1, _⟩ := TdmaSched.scheduleSet_spec h (hok e (List.mem_cons_self ..))
    obtain ⟨s2, cs, h2, i2⟩ := schedAll_safe env es s1 i1 (fun x hx => hok x (List.mem_cons_of_mem _ hx))
    exact ⟨s2, ⟨e.slot, frameOffset, e.si, e.p3, rc⟩ :: cs, by simp only [schedAll, h1, h2], i2⟩

theorem execute_safe (env : Env) (g : GState) (s : Sched) (fn : Nat) (h : Safe env ⟨g, s⟩) :
    ∃ g' s' num cs, execute g s fn = .ok (g', s', num, cs) ∧ Safe env ⟨g', s'⟩ := by
  obtain ⟨hg, hs, hok⟩ := h
  obtain ⟨s', cs, h1, i1⟩ := schedAll_safe env (gexecG g fn).2 s hs
    (fun e he => hok e (List.mem_filter.mp he).1)
  exact ⟨_, s', _, cs, by rw [execute_eq g s fn hg.2, h1], gexecG_inv g fn hg, i1,
    fun e he => hok e (List.mem_filter.mp he).1⟩

theorem sstep_gsched (env : Env) (st : Sys) (si : List Item) (fn p3 : Nat) :
    sstep env st (.gsched si fn p3) =
      .ok (⟨(sched st.g si fn p3).1, st.s⟩, ⟨(sched st.g si fn p3).2, [], []⟩) := rfl

theorem sstep_safe (env : Env) (henv : EnvOk env) (st : Sys) (op : SOp) (h : Safe env st) (hop : OpSafe env op) :
    ∃ st' o, sstep env st op = .ok (st', o) ∧ Safe env st' := by
  obtain ⟨hg, hs, hok⟩ := h
  cases op with
  | gsched si fn p3 =>
    refine ⟨_, _, sstep_gsched env st si fn p3, sched_inv st.g si fn p3 hg, hs, fun e he => ?_⟩
    rcases mem_sched he with he | ⟨h1, _, h3⟩
    · exact hok e he
    · rw [SetOk, h1, h3]; exact hop
  | gexec fn =>
    obtain ⟨g', s', num, cs, h1, h2⟩ := execute_safe env st.g st.s fn ⟨hg, hs, hok⟩
    exact ⟨⟨g', s'⟩, ⟨num, [], cs⟩, by simp only [sstep, h1, bind, Except.bind, pure, Except.pure], h2⟩
  | greset =>
    exact ⟨_, _, rfl, reset_inv st.g hg, hs, by simp [reset]⟩
  | tdma top =>
    obtain ⟨s', out, h1, h2, _⟩ := TdmaSched.step_spec env st.s top hs (fun _ => henv) hop
    exact ⟨⟨st.g, s'⟩, ⟨out.rc, out.ran, []⟩, by simp only [sstep, h1, bind, Except.bind, pure, Except.pure],
      hg, h2, hok⟩

theorem srun_safe (env : Env) (henv : EnvOk env) : ∀ (ops : List SOp) (st : Sys), Safe env st → (∀ op ∈ ops, OpSafe env op) →
    ∃ st' outs, srun env st ops = .ok (st', outs) ∧ Safe env st'
  | [], st, h, _ => ⟨st, [], rfl, h⟩
  | op :: ops, st, h, hops => by
    obtain ⟨st1, o, h1, i1⟩ := sstep_safe env henv st op h (hops op (List.mem_cons_self ..))
    obtain ⟨st2, os, h2, i2⟩ := srun_safe env henv ops st1 i1 (fun x hx => hops x (List.mem_cons_of_mem _ hx))
    exact ⟨st2, o :: os, by simp only [srun, h1, h2, bind, Except.bind, pure, Except.pure], i2⟩

/-- admissible frame: its requests are admissible operations -/
def FrameSafe (env : Env) (fr : Frame) : Prop :=
  (∀ op ∈ fr.pre, OpSafe env op) ∧ (∀ op ∈ fr.mid, OpSafe env op)

instance (env : Env) (fr : Frame) : Decidable (FrameSafe env fr) := by unfold FrameSafe; infer_instance

theorem l1Sync_safe (env : Env) (henv : EnvOk env) (st : Sys) (fr : Frame) (h : Safe env st) (hfr : FrameSafe env fr) :
    ∃ st' o, l1Sync env st fr = .ok (st', o) ∧ Safe env st' := by
  obtain ⟨st1, pre, h1, i1⟩ := srun_safe env henv fr.pre st h hfr.1
  obtain ⟨s2, ex, h2, i2, _⟩ := TdmaSched.step_spec env st1.s .execute i1.2.1 (fun _ => henv) trivial
  obtain ⟨st3, mid, h3, i3⟩ := srun_safe env henv fr.mid ⟨st1.g, s2⟩ ⟨i1.1, i2, i1.2.2⟩ hfr.2
  obtain ⟨g4, s4, num, cs, h4, i4⟩ := execute_safe env st3.g st3.s fr.fn i3
  obtain ⟨h5, i5, _⟩ := TdmaSched.advance_spec i4.2.1
  refine ⟨⟨g4, { s4 with cur := (s4.cur + 1) % 25 }⟩, ⟨pre, ex, mid, num, cs⟩, ?_, i4.1, i5, i4.2.2⟩
  simp only [l1Sync, h1, h2, h3, h4, h5, bind, Except.bind, pure, Except.pure]

theorem runFrames_safe (env : Env) (henv : EnvOk env) : ∀ (frs : List Frame) (st : Sys), Safe env st →
    (∀ fr ∈ frs, FrameSafe env fr) → ∃ st' outs, runFrames env st frs = .ok (st', outs) ∧ Safe env st'
  | [], st, h, _ => ⟨st, [], rfl, h⟩
  | fr :: frs, st, h, hfrs => by
    obtain ⟨st1, o, h1, i1⟩ := l1Sync_safe env henv st fr h (hfrs fr (List.mem_cons_self ..))
    obtain ⟨st2, os, h2, i2⟩ := runFrames_safe env henv frs st1 i1 (fun x hx => hfrs x (List.mem_cons_of_mem _ hx))
    exact ⟨st2, o :: os, by simp only [runFrames, h1, h2, bind, Except.bind, pure, Except.pure], i2⟩

/-! ### following one item through the TDMA scheduler -/

theorem tstep_track (env : Env) (hne : NoReentry env) {s s' : Sched} {op : TdmaSched.Op} {out : TdmaSched.Out}
    {x : AItem Cb} {pos : Option Nat} (hinv : Inv env s) (hop : OpOk env op) (hat : At x (abs s) pos)
    (hx : x ∉ placed (absOp op)) (h : TdmaSched.step env s op = .ok (s', out)) :
    Inv env s' ∧ At x (abs s') (trackStep pos (absOp op)).1 ∧ ranCount x out = (trackStep pos (absOp op)).2 :=
  TdmaSched.step_track_model env hinv (fun _ => TdmaSched.noReentry_envOk env hne) hop hat hx h
    (by rw [TdmaSched.flyOps_noReentry env hne]; nofun)

theorem step_of_scheduleSet (env : Env) {s s' : Sched} {off : Nat} {set : List Item} {p3 : Nat} {rc : Int}
    (h : TdmaSched.scheduleSet s off set p3 = .ok (s', rc)) :
    TdmaSched.step env s (.scheduleSet off set p3) = .ok (s', ⟨rc, [], []⟩) := by
  simp only [TdmaSched.step, h, bind, Except.bind, pure, Except.pure]

theorem scheduleSet_track (env : Env) (hne : NoReentry env) {s s' : Sched} {off : Nat} {set : List Item} {p3 : Nat}
    {rc : Int} {x : AItem Cb} {pos : Option Nat} (hinv : Inv env s) (hop : OpOk env (.scheduleSet off set p3))
    (hat : At x (abs s) pos) (hx : x ∉ (framesOf p3 set).flatten)
    (h : TdmaSched.scheduleSet s off set p3 = .ok (s', rc)) : Inv env s' ∧ At x (abs s') pos :=
  let ⟨h1, h2, _⟩ := tstep_track env hne hinv hop hat hx (step_of_scheduleSet env h)
  ⟨h1, h2⟩

theorem scheduleSet_place (env : Env) {s s' : Sched} {off : Nat} {set : List Item} {p3 : Nat} {rc : Int}
    {x : AItem Cb} {k : Nat} (hinv : Inv env s) (hop : OpOk env (.scheduleSet off set p3))
    (hdepth : off + markers set < 25) (hx : OnceIn x (framesOf p3 set) k) (hat : At x (abs s) none) (h : TdmaSched.scheduleSet s off set p3 = .ok (s', rc)) :
    Inv env s' ∧ (rc ≠ -1 → At x (abs s') (some (off + k))) := by
  obtain ⟨s1, rc1, h1, hi, _, _, ha, hrc⟩ := TdmaSched.scheduleSet_spec hinv hop
  cases h1.symm.trans h
  exact ⟨hi, fun hne => Spec.TdmaSched.at_putFrames_fresh
    (by rw [TdmaSched.framesOf_length]; omega) hat (TdmaSched.putFrames_of_rc_ne ha hrc hne) hx⟩

theorem schedAll_track (env : Env) (hne : NoReentry env) (x : AItem Cb) (pos : Option Nat) : ∀ (es : List Event) (s s' : Sched)
    (cs : List Call), Inv env s → At x (abs s) pos → (∀ e ∈ es, SetOk env e) →
    (∀ e ∈ es, x ∉ (framesOf e.p3 e.si).flatten) → schedAll s es = .ok (s', cs) →
    Inv env s' ∧ At x (abs s') pos
  | [], s, s', cs, hi, hat, _, _, h => by cases h; exact ⟨hi, hat⟩
  | e :: es, s, s', cs, hi, hat, hok, hcl, h => by
    obtain ⟨s1, rc, cs', h1, h2, _⟩ := schedAll_cons_ok h
    obtain ⟨i1, a1⟩ := scheduleSet_track env hne hi
      (hok e (List.mem_cons_self ..)) hat (hcl e (List.mem_cons_self ..)) h1
    exact schedAll_track env hne x pos es s1 s' cs' i1 a1 (fun y hy => hok y (List.mem_cons_of_mem _ hy))
      (fun y hy => hcl y (List.mem_cons_of_mem _ hy)) h2

theorem schedAll_place (env : Env) (hne : NoReentry env) (x : AItem Cb) (ev : Event) (k : Nat)
    (hdepth : frameOffset + markers ev.si < 25) (hx : OnceIn x (framesOf ev.p3 ev.si) k) :
    ∀ (es : List Event) (s s' : Sched) (cs : List Call), Inv env s → At x (abs s) none → ev ∈ es →
    (slots es).Nodup → (∀ e ∈ es, SetOk env e) → (∀ e ∈ es, e ≠ ev → x ∉ (framesOf e.p3 e.si).flatten) →
    schedAll s es = .ok (s', cs) →
    Inv env s' ∧ ∃ rc, (⟨ev.slot, frameOffset, ev.si, ev.p3, rc⟩ : Call) ∈ cs ∧
      (rc ≠ -1 → At x (abs s') (some (frameOffset + k)))
  | [], s, s', cs, _, _, hev, _, _, _, _ => nomatch hev
  | e :: es, s, s', cs, hi, hat, hev, hn, hok, hcl, h => by
    obtain ⟨s1, rc, cs2, h1, h2, rfl⟩ := schedAll_cons_ok h
    simp only [slots, List.map_cons, List.nodup_cons] at hn
    have hok' : ∀ y ∈ es, SetOk env y := fun y hy => hok y (List.mem_cons_of_mem _ hy)
    by_cases hee : e = ev
    · subst hee
      obtain ⟨i1, a1⟩ := scheduleSet_place env hi
        (hok e (List.mem_cons_self ..)) hdepth hx hat h1
      -- the slots are distinct: no other event of the list is `e`
      have hrest : ∀ y ∈ es, y ≠ e := fun y hy hye => hn.1 (List.mem_map.mpr ⟨y, hy, hye ▸ rfl⟩)
      by_cases hrc : rc = -1
      · obtain ⟨s3, cs3, h3, i3⟩ := schedAll_safe env es s1 i1 hok'
        cases h3.symm.trans h2
        exact ⟨i3, rc, List.mem_cons_self .., fun h => absurd hrc h⟩
      · obtain ⟨i2, a2⟩ := schedAll_track env hne x (some (frameOffset + k)) es s1 s' cs2 i1 (a1 hrc) hok'
          (fun y hy => hcl y (List.mem_cons_of_mem _ hy) (hrest y hy)) h2
        exact ⟨i2, rc, List.mem_cons_self .., fun _ => a2⟩
    · have hev' : ev ∈ es := (List.mem_cons.mp hev).resolve_left (Ne.symm hee)
      obtain ⟨i1, a1⟩ := scheduleSet_track env hne hi
        (hok e (List.mem_cons_self ..)) hat (hcl e (List.mem_cons_self ..) hee) h1
      obtain ⟨i2, rc2, m2, a2⟩ := schedAll_place env hne x ev k hdepth hx es s1 s' cs2 i1 a1 hev' hn.2
        hok' (fun y hy => hcl y (List.mem_cons_of_mem _ hy)) h2
      exact ⟨i2, rc2, List.mem_cons_of_mem _ m2, a2⟩

/-! ### frame by frame -/

/-- admissible requests that do not schedule `x` (neither directly nor as part of an event's item set) -/
def TrafficOk (env : Env) (x : AItem Cb) : SOp → Prop
  | .gsched si _ p3 => OpOk env (.scheduleSet frameOffset si (u16 p3)) ∧ x ∉ (framesOf (u16 p3) si).flatten
  | .tdma (.schedule off cb p1 p2 p3 prio) =>
    OpOk env (.schedule off cb p1 p2 p3 prio) ∧ (⟨cb, p1, p2, p3, prio⟩ : AItem Cb) ≠ x
  | .tdma (.scheduleSet off set p3) => OpOk env (.scheduleSet off set p3) ∧ x ∉ (framesOf p3 set).flatten
  | _ => False

instance (env : Env) (x : AItem Cb) (op : SOp) : Decidable (TrafficOk env x op) := by
  cases op with
  | tdma top => cases top <;> unfold TrafficOk <;> infer_instance
  | _ => unfold TrafficOk <;> infer_instance

theorem TrafficOk.noGexec {env : Env} {x : AItem Cb} {op : SOp} (h : TrafficOk env x op) : NoGexec op = true := by
  cases op with
  | tdma top => rfl
  | gsched si fn p3 => rfl
  | _ => exact h.elim

theorem TrafficOk.opSafe {env : Env} {x : AItem Cb} {op : SOp} (h : TrafficOk env x op) : OpSafe env op := by
  cases op with
  | tdma top =>
    cases top with
    | schedule off cb p1 p2 p3 prio => exact h.1
    | scheduleSet off set p3 => exact h.1
    | _ => exact h.elim
  | gsched si fn p3 => exact h.1
  | _ => trivial

/-- both schedulers well-formed; `x` is where `pos` says; no pending event other than `skip` has `x` in its
item set -/
structure Tracked (env : Env) (x : AItem Cb) (st : Sys) (pos : Option Nat) (skip : Option Event) : Prop where
  safe : Safe env st
  at_ : At x (abs st.s) pos
  clean : ∀ e ∈ st.g.active, some e ≠ skip → x ∉ (framesOf e.p3 e.si).flatten

theorem sstep_traffic (env : Env) (hne : NoReentry env) {x : AItem Cb} {st st' : Sys} {op : SOp} {o : SOut}
    {pos : Option Nat} {skip : Option Event} (ht : Tracked env x st pos skip) (hop : TrafficOk env x op)
    (h : sstep env st op = .ok (st', o)) : Tracked env x st' pos skip := by
  obtain ⟨st1, o1, h1, i1⟩ := sstep_safe env (TdmaSched.noReentry_envOk env hne) st op ht.safe hop.opSafe
  cases h1.symm.trans h
  cases op with
  | gsched si fn p3 =>
    cases (sstep_gsched env st si fn p3).symm.trans h
    refine ⟨i1, ht.at_, fun e he hs => ?_⟩
    rcases mem_sched he with he | ⟨h1, _, h3⟩
    · exact ht.clean e he hs
    · rw [h1, h3]; exact hop.2
  | tdma top =>
    simp only [sstep] at h
    obtain ⟨⟨s2, o2⟩, h2, h3⟩ := bind_ok h
    cases h3
    refine ⟨i1, ?_, ht.clean⟩
    cases top with
    | schedule off cb p1 p2 p3 prio =>
      exact (tstep_track env hne ht.safe.2.1 hop.1 ht.at_
        (fun h => hop.2 (List.mem_singleton.mp h).symm) h2).2.1
    | scheduleSet off set p3 =>
      exact (tstep_track env hne ht.safe.2.1 hop.1 ht.at_ hop.2 h2).2.1
    | _ => exact hop.elim
  | _ => exact hop.elim

theorem srun_traffic (env : Env) (hne : NoReentry env) (x : AItem Cb) (pos : Option Nat) (skip : Option Event) :
    ∀ (ops : List SOp) (st st' : Sys) (outs : List SOut), Tracked env x st pos skip →
    (∀ op ∈ ops, TrafficOk env x op) → srun env st ops = .ok (st', outs) → Tracked env x st' pos skip
  | [], st, st', outs, ht, _, h => by cases h; exact ht
  | op :: ops, st, st', outs, ht, hops, h => by
    obtain ⟨st1, o, os, h1, h2, _⟩ := srun_cons_ok h
    exact srun_traffic env hne x pos skip ops st1 st' os
      (sstep_traffic env hne ht (hops op (List.mem_cons_self ..)) h1)
      (fun y hy => hops y (List.mem_cons_of_mem _ hy)) h2

/-- the requests of a frame are admissible and do not schedule `x` -/
def FrameTraffic (env : Env) (x : AItem Cb) (fr : Frame) : Prop :=
  (∀ op ∈ fr.pre, TrafficOk env x op) ∧ (∀ op ∈ fr.mid, TrafficOk env x op)

instance (env : Env) (x : AItem Cb) (fr : Frame) : Decidable (FrameTraffic env x fr) := by
  unfold FrameTraffic; infer_instance

theorem FrameTraffic.noGexec {env : Env} {x : AItem Cb} {fr : Frame} (h : FrameTraffic env x fr) :
    FrameNoGexec fr :=
  ⟨fun op hop => (h.1 op hop).noGexec, fun op hop => (h.2 op hop).noGexec⟩

theorem FrameTraffic.safe {env : Env} {x : AItem Cb} {fr : Frame} (h : FrameTraffic env x fr) :
    FrameSafe env fr :=
  ⟨fun op hop => (h.1 op hop).opSafe, fun op hop => (h.2 op hop).opSafe⟩

/-- where `x` is one frame later: an item due now runs (and is gone), everything else comes one frame closer -/
def nextPos : Option Nat → Option Nat
  | some 0 => none
  | some (d + 1) => some d
  | none => none

theorem trackStep_frame (pos : Option Nat) (h : ∀ d, pos = some d → d < 25) :
    (trackStep (trackStep pos (absOp .execute)).1 (absOp .advance)).1 = nextPos pos ∧
      (trackStep pos (absOp .execute)).2 = if pos = some 0 then 1 else 0 := by
  cases pos with
  | none => exact ⟨rfl, rfl⟩
  | some d =>
    cases d with
    | zero => exact ⟨rfl, rfl⟩
    | succ d =>
      have := h (d + 1) rfl
      refine ⟨congrArg some ?_, rfl⟩
      show (d + 1 + 24) % 25 = d
      omega

theorem step_of_advance (env : Env) {s s' : Sched} (h : TdmaSched.advance s = .ok s') :
    TdmaSched.step env s .advance = .ok (s', ⟨0, [], []⟩) := by
  simp only [TdmaSched.step, h, bind, Except.bind, pure, Except.pure]

/-- the part of a frame interrupt before `sched_gsmtime_execute`: requests, `tdma_sched_execute()`, requests -/
theorem frame_traffic (env : Env) (hne : NoReentry env) {x : AItem Cb} {st st1 st3 : Sys} {s2 : Sched} {fr : Frame}
    {pre mid : List SOut} {ex : TdmaSched.Out} {pos : Option Nat} {skip : Option Event}
    (ht : Tracked env x st pos skip) (hfr : FrameTraffic env x fr)
    (h1 : srun env st fr.pre = .ok (st1, pre)) (h2 : TdmaSched.step env st1.s .execute = .ok (s2, ex))
    (h3 : srun env ⟨st1.g, s2⟩ fr.mid = .ok (st3, mid)) :
    Tracked env x st3 (trackStep pos (absOp .execute)).1 skip ∧
      ranCount x ex = (trackStep pos (absOp .execute)).2 ∧ ∀ ev ∈ st.g.active, ev ∈ st3.g.active := by
  have t1 := srun_traffic env hne x pos skip fr.pre st st1 pre ht hfr.1 h1
  obtain ⟨g1, _⟩ := srun_g ht.safe.1 h1
  obtain ⟨i2, a2, c2⟩ := tstep_track env hne (op := .execute) t1.safe.2.1 trivial t1.at_ nofun h2
  have t3 := srun_traffic env hne x _ skip fr.mid ⟨st1.g, s2⟩ st3 mid ⟨⟨t1.safe.1, i2, t1.safe.2.2⟩, a2, t1.clean⟩
    hfr.2 h3
  obtain ⟨g3, _⟩ := srun_g (st := ⟨st1.g, s2⟩) t1.safe.1 h3
  refine ⟨t3, c2, fun ev hev => ?_⟩
  rw [g3, show (⟨st1.g, s2⟩ : Sys).g = st1.g from rfl, g1]
  exact (frame_requests ht.safe.1 hev hfr.noGexec).2

theorem mem_of_mem_gexecG {g : GState} {fn : Nat} {e : Event} (h : e ∈ (gexecG g fn).1.active) : e ∈ g.active :=
  (List.mem_filter.mp h).1

theorem fired_gexecG {g : GState} {fn : Nat} {e : Event} (h : e ∈ (gexecG g fn).2) :
    e ∈ g.active ∧ e.fn = target fn :=
  ⟨(List.mem_filter.mp h).1, of_decide_eq_true (List.mem_filter.mp h).2⟩

/-- a frame interrupt whose `sched_gsmtime_execute` does not hand over the event `skip` -/
theorem l1Sync_idle (env : Env) (hne : NoReentry env) {x : AItem Cb} {st st' : Sys} {fr : Frame} {o : FrameOut}
    {pos : Option Nat} {skip : Option Event} (ht : Tracked env x st pos skip) (hfr : FrameTraffic env x fr)
    (hskip : ∀ ev, skip = some ev → ev ∈ st.g.active ∧ target fr.fn ≠ ev.fn)
    (h : l1Sync env st fr = .ok (st', o)) :
    Tracked env x st' (nextPos pos) skip ∧ ranCount x o.exec = (if pos = some 0 then 1 else 0) ∧
      (∀ ev, skip = some ev → ev ∈ st'.g.active) := by
  obtain ⟨st1, s2, st3, g4, s4, s5, h1, h2, h3, h4, h5, rfl⟩ := l1Sync_ok h
  obtain ⟨t3, c2, hkeep⟩ := frame_traffic env hne ht hfr h1 h2 h3
  obtain ⟨p1, p2⟩ := trackStep_frame pos ht.at_.1
  obtain ⟨e4, sa4, _, _⟩ := execute_g t3.safe.1 h4
  subst e4
  -- the events handed over do not have `x` in their sets: `skip` is not among them
  obtain ⟨i4, a4⟩ := schedAll_track env hne x _ (gexecG st3.g fr.fn).2 st3.s s4 o.calls t3.safe.2.1 t3.at_
    (fun e he => t3.safe.2.2 e (fired_gexecG he).1)
    (fun e he => t3.clean e (fired_gexecG he).1 fun hs => (hskip e hs.symm).2 (fired_gexecG he).2.symm) sa4
  obtain ⟨i5, a5, _⟩ := tstep_track env hne (op := .advance) i4 trivial a4 nofun
    (step_of_advance env h5)
  exact ⟨⟨⟨gexecG_inv _ _ t3.safe.1, i5, fun e he => t3.safe.2.2 e (mem_of_mem_gexecG he)⟩, p1 ▸ a5,
      fun e he => t3.clean e (mem_of_mem_gexecG he)⟩, c2.trans p2,
    fun ev hs => (gexecG_miss t3.safe.1 (hkeep ev (hskip ev hs).1) (hskip ev hs).2).1⟩

/-- the frame interrupt whose `sched_gsmtime_execute` hands over `ev`, whose item set places `x` -/
theorem l1Sync_hit (env : Env) (hne : NoReentry env) {x : AItem Cb} {st st' : Sys} {fr : Frame} {o : FrameOut} {ev : Event}
    {k : Nat} (ht : Tracked env x st none (some ev)) (hfr : FrameTraffic env x fr)
    (hev : ev ∈ st.g.active) (heq : target fr.fn = ev.fn)
    (hdepth : frameOffset + markers ev.si < 25) (hx : OnceIn x (framesOf ev.p3 ev.si) k)
    (h : l1Sync env st fr = .ok (st', o)) :
    Safe env st' ∧ (∀ e ∈ st'.g.active, x ∉ (framesOf e.p3 e.si).flatten) ∧ ranCount x o.exec = 0 ∧
      ∃ c, o.calls.filter (fun c => c.slot = ev.slot) = [c] ∧ CallFor ev c ∧
        (c.rc ≠ -1 → At x (abs st'.s) (some k)) := by
  obtain ⟨st1, s2, st3, g4, s4, s5, h1, h2, h3, h4, h5, rfl⟩ := l1Sync_ok h
  obtain ⟨t3, c2, hkeep⟩ := frame_traffic env hne ht hfr h1 h2 h3
  obtain ⟨e4, sa4, _, co4⟩ := execute_g t3.safe.1 h4
  subst e4
  obtain ⟨m1, m2, m3⟩ := gexecG_hit t3.safe.1 (hkeep ev hev) heq
  have hfired : ev ∈ (gexecG st3.g fr.fn).2 :=
    (List.mem_filter.mp (m1 ▸ List.mem_singleton_self ev : ev ∈ (gexecG st3.g fr.fn).2.filter _)).1
  obtain ⟨i4, rc, hc, a4⟩ := schedAll_place env hne x ev k hdepth hx (gexecG st3.g fr.fn).2 st3.s s4
    o.calls t3.safe.2.1 t3.at_ hfired ((List.filter_sublist.map _).nodup t3.safe.1.nodup_active)
    (fun e he => t3.safe.2.2 e (fired_gexecG he).1)
    (fun e he hne => t3.clean e (fired_gexecG he).1 fun hs => hne (Option.some.inj hs)) sa4
  -- the one call for the slot of `ev` is the call that `schedAll_place` speaks of
  obtain ⟨c, hc1, hc2⟩ := (m1 ▸ co4.filter_slot ev.slot).singleton
  have hcc : (⟨ev.slot, frameOffset, ev.si, ev.p3, rc⟩ : Call) = c :=
    List.mem_singleton.mp (hc1 ▸ List.mem_filter.mpr ⟨hc, decide_eq_true rfl⟩)
  have i5 : Inv env s5 := by
    obtain ⟨h5', i5, _⟩ := TdmaSched.advance_spec i4
    cases h5'.symm.trans h5
    exact i5
  refine ⟨⟨gexecG_inv _ _ t3.safe.1, i5, fun e he => t3.safe.2.2 e (mem_of_mem_gexecG he)⟩, fun e he => ?_,
    c2, c, hc1, hc2, fun hrc => ?_⟩
  · exact t3.clean e (mem_of_mem_gexecG he) fun hs => m2 (Option.some.inj hs ▸ he)
  · obtain ⟨_, a5, _⟩ := tstep_track env hne (op := .advance) i4 trivial (a4 (by rw [← hcc] at hrc; exact hrc)) nofun
      (step_of_advance env h5)
    have : (trackStep (some (frameOffset + k)) (absOp .advance)).1 = some k := by
      have hklt : k < markers ev.si + 1 := TdmaSched.framesOf_length ev.p3 ev.si ▸ hx.lt
      show some ((frameOffset + k + 24) % 25) = some k
      rw [frameOffset_eq] at hdepth ⊢
      exact congrArg some (by omega)
    exact this ▸ a5

/-- frames in which the event `ev` stays pending: `x` is nowhere and does not run -/
theorem frames_before (env : Env) (hne : NoReentry env) (x : AItem Cb) (ev : Event) : ∀ (frs : List Frame) (st st' : Sys)
    (outs : List FrameOut), Tracked env x st none (some ev) → ev ∈ st.g.active →
    (∀ fr ∈ frs, FrameTraffic env x fr ∧ target fr.fn ≠ ev.fn) → runFrames env st frs = .ok (st', outs) →
    Tracked env x st' none (some ev) ∧ ev ∈ st'.g.active ∧ ∀ o ∈ outs, ranCount x o.exec = 0
  | [], st, st', outs, ht, hev, _, h => by cases h; exact ⟨ht, hev, nofun⟩
  | fr :: frs, st, st', outs, ht, hev, hfr, h => by
    obtain ⟨st1, o, os, h1, h2, rfl⟩ := runFrames_cons_ok h
    obtain ⟨hf1, hf2⟩ := hfr fr (List.mem_cons_self ..)
    obtain ⟨t1, c1, m1⟩ := l1Sync_idle env hne ht hf1
      (fun e he => Option.some.inj he ▸ ⟨hev, hf2⟩) h1
    obtain ⟨r1, r2, r3⟩ := frames_before env hne x ev frs st1 st' os t1 (m1 ev rfl)
      (fun y hy => hfr y (List.mem_cons_of_mem _ hy)) h2
    exact ⟨r1, r2, List.forall_mem_cons.mpr ⟨c1, r3⟩⟩

/-- the frames after: `x`, due in `d` frames (`pos = some d`), runs in the `tdma_sched_execute` of the d-th
frame interrupt from here (0-based), once, and in no other -/
theorem frames_countdown (env : Env) (hne : NoReentry env) (x : AItem Cb) : ∀ (frs : List Frame) (st st' : Sys)
    (outs : List FrameOut) (pos : Option Nat), Tracked env x st pos none →
    (∀ fr ∈ frs, FrameTraffic env x fr) → runFrames env st frs = .ok (st', outs) →
    ∀ j o, outs[j]? = some o → ranCount x o.exec = if pos = some j then 1 else 0
  | [], st, st', outs, pos, _, _, h, j, o, ho => by cases h; nomatch ho
  | fr :: frs, st, st', outs, pos, ht, hfr, h, j, o, ho => by
    obtain ⟨st1, o1, os, h1, h2, rfl⟩ := runFrames_cons_ok h
    obtain ⟨t1, c1, _⟩ := l1Sync_idle env hne ht (hfr fr (List.mem_cons_self ..))
      nofun h1
    cases j with
    | zero => cases ho; exact c1
    | succ j =>
      rw [frames_countdown env hne x frs st1 st' os (nextPos pos) t1
        (fun y hy => hfr y (List.mem_cons_of_mem _ hy)) h2 j o ho]
      apply Spec.TdmaSched.ite_iff
      cases pos with
      | none => simp [nextPos]
      | some d => cases d <;> simp [nextPos]

end OsmoVerif.SchedGsmtime
