/-
Lemmas about the burst generators of `Model/RandBurst.lean`: what a successful draw yields, and the do-blocks read
backwards.
-/
import OsmoVerif.Model.RandBurst
import OsmoVerif.Spec.WorldRouting

namespace OsmoVerif.RandBurst
open OsmoVerif

theorem randBits_some {n : Nat} {s d r : List Nat} (h : randBits n s = some (d, r)) :
    d.length = n ∧ d ⊆ s ∧ r ⊆ s := by
  unfold randBits at h
  split at h
  · cases h
  · next hn =>
    cases h
    exact ⟨List.length_take_of_le (Nat.le_of_not_lt hn), List.take_subset n s, List.drop_subset n s⟩

theorem randBits_ok {n : Nat} {s : List Nat} (h : n ≤ s.length) : randBits n s = some (s.take n, s.drop n) := by
  unfold randBits
  rw [if_neg (by omega)]

theorem one_elem {d : List Nat} (h : d.length = 1) : ∃ x, d = [x] := by
  match d, h with
  | [x], _ => exact ⟨x, rfl⟩

theorem choice_some {α : Type} {l : List α} {s r : List Nat} {x : α} (h : choice l s = some (x, r)) :
    x ∈ l ∧ r ⊆ s := by
  unfold choice at h
  split at h
  · cases h
  · split at h
    · cases h
    · simp only [Option.map_eq_some_iff, Prod.mk.injEq] at h
      obtain ⟨y, hy, rfl, rfl⟩ := h
      exact ⟨List.mem_of_getElem? hy, List.subset_cons_self _ _⟩

theorem mem_seqsOf {e : TsEntry} {bt : String} (h : e ∈ seqsOf bt) : e ∈ Gen.World.trainSeqs ∧ e.2.2.1 = bt := by
  unfold seqsOf at h
  rw [List.mem_filter] at h
  exact ⟨h.1, by simpa using h.2⟩

theorem tscOr_some {tsc : Option TsEntry} {bt : String} {s r : List Nat} {e : TsEntry}
    (h : tscOr tsc bt s = some (e, r)) :
    (tsc = some e ∨ (tsc = none ∧ e ∈ Gen.World.trainSeqs ∧ e.2.2.1 = bt)) ∧ r ⊆ s := by
  unfold tscOr at h
  split at h
  · cases h; exact ⟨.inl rfl, List.Subset.refl _⟩
  · exact ⟨.inr ⟨rfl, mem_seqsOf (choice_some h).1⟩, (choice_some h).2⟩

theorem gen_nb_inv (tsc : Option TsEntry) (s b rest : List Nat) (h : genNb tsc s = some (b, rest)) :
    ∃ e d1 s1 s2 d2, (tsc = some e ∨ (tsc = none ∧ e ∈ Gen.World.trainSeqs ∧ e.2.2.1 = "NORMAL")) ∧
      d1.length = 57 ∧ d2.length = 57 ∧ b = Spec.nbLayout d1 s1 e.seq s2 d2 ∧ (∀ x ∈ d1 ++ [s1, s2] ++ d2, x ∈ s) := by
  obtain ⟨⟨d1, q1⟩, h1, h⟩ := Option.bind_eq_some_iff.1 h
  obtain ⟨⟨f1, q2⟩, h2, h⟩ := Option.bind_eq_some_iff.1 h
  obtain ⟨⟨e, q3⟩, h3, h⟩ := Option.bind_eq_some_iff.1 h
  obtain ⟨⟨f2, q4⟩, h4, h⟩ := Option.bind_eq_some_iff.1 h
  obtain ⟨⟨d2, q5⟩, h5, h⟩ := Option.bind_eq_some_iff.1 h
  cases h
  obtain ⟨l1, m1, r1⟩ := randBits_some h1
  obtain ⟨l2, m2, r2⟩ := randBits_some h2
  obtain ⟨he, r3⟩ := tscOr_some h3
  obtain ⟨l4, m4, r4⟩ := randBits_some h4
  obtain ⟨l5, m5, _⟩ := randBits_some h5
  obtain ⟨s1, rfl⟩ := one_elem l2
  obtain ⟨s2, rfl⟩ := one_elem l4
  -- each rest of the stream is part of the one before
  have t2 := r2.trans r1
  have t4 := (r4.trans r3).trans t2
  refine ⟨e, d1, s1, s2, d2, he, l1, l5, ?_, ?_⟩
  · simp only [Spec.nbLayout, TsEntry.seq, List.replicate, List.append_assoc]
  · exact List.append_subset.2
      ⟨List.append_subset.2 ⟨m1, List.append_subset.2 ⟨m2.trans r1, (m4.trans r3).trans t2⟩⟩, m5.trans t4⟩

theorem gen_sb_inv (tsc : Option TsEntry) (s b rest : List Nat) (h : genSb tsc s = some (b, rest)) :
    ∃ e d1 d2, (tsc = some e ∨ (tsc = none ∧ e ∈ Gen.World.trainSeqs ∧ e.2.2.1 = "SYNC")) ∧
      d1.length = 39 ∧ d2.length = 39 ∧ b = Spec.sbLayout d1 e.seq d2 ∧ (∀ x ∈ d1 ++ d2, x ∈ s) := by
  obtain ⟨⟨d1, q1⟩, h1, h⟩ := Option.bind_eq_some_iff.1 h
  obtain ⟨⟨e, q2⟩, h2, h⟩ := Option.bind_eq_some_iff.1 h
  obtain ⟨⟨d2, q3⟩, h3, h⟩ := Option.bind_eq_some_iff.1 h
  cases h
  obtain ⟨l1, m1, r1⟩ := randBits_some h1
  obtain ⟨he, r2⟩ := tscOr_some h2
  obtain ⟨l3, m3, _⟩ := randBits_some h3
  refine ⟨e, d1, d2, he, l1, l3, ?_, List.append_subset.2 ⟨m1, (m3.trans r2).trans r1⟩⟩
  simp only [Spec.sbLayout, TsEntry.seq, List.replicate, List.append_assoc]

theorem gen_ab_inv (tsc : Option TsEntry) (s b rest : List Nat) (h : genAb tsc s = some (b, rest)) :
    ∃ e d, (tsc = some e ∨ (tsc = none ∧ e ∈ Gen.World.trainSeqs ∧ e.2.2.1 = "ACCESS")) ∧ d.length = 36 ∧
      b = Spec.abLayout e.seq d ∧ (∀ x ∈ d, x ∈ s) := by
  obtain ⟨⟨e, q1⟩, h1, h⟩ := Option.bind_eq_some_iff.1 h
  obtain ⟨⟨d, q2⟩, h2, h⟩ := Option.bind_eq_some_iff.1 h
  cases h
  obtain ⟨he, r1⟩ := tscOr_some h1
  obtain ⟨l2, m2, _⟩ := randBits_some h2
  refine ⟨e, d, he, l2, ?_, m2.trans r1⟩
  simp only [Spec.abLayout, TsEntry.seq, List.append_assoc]
  rfl

end OsmoVerif.RandBurst
