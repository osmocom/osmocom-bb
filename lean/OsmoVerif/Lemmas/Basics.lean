/- Facts about `Nat`, `List` and `Except` that several models need and the library does not state. -/

namespace OsmoVerif

/-- the C test `x & (1 << k)` reads bit `k` -/
theorem and_two_pow_ne_zero (o k : Nat) : (o &&& 2 ^ k != 0) = o.testBit k := by
  cases h : o.testBit k
  · have : o &&& 2 ^ k = 0 := by
      apply Nat.eq_of_testBit_eq; intro j
      rw [Nat.testBit_and, Nat.testBit_two_pow, Nat.zero_testBit]
      by_cases hj : k = j
      · subst hj; simp [h]
      · simp [hj]
    simp [this]
  · have : (o &&& 2 ^ k).testBit k = true := by rw [Nat.testBit_and, h, Nat.testBit_two_pow_self]; rfl
    have hne : o &&& 2 ^ k ≠ 0 := by intro h0; rw [h0, Nat.zero_testBit] at this; cases this
    simp [hne]

theorem take_set_succ {α : Type} (l : List α) (n : Nat) (v : α) (h : n < l.length) :
    (l.set n v).take (n + 1) = l.take n ++ [v] := by
  rw [List.take_succ_eq_append_getElem (by simpa using h)]
  simp [List.take_set_of_le]

theorem bind_ok {ε α β : Type} {x : Except ε α} {f : α → Except ε β} {b : β} (h : (x >>= f) = .ok b) :
    ∃ a, x = .ok a ∧ f a = .ok b := by
  cases x with
  | error e => nomatch h
  | ok a => exact ⟨a, rfl, h⟩

end OsmoVerif
