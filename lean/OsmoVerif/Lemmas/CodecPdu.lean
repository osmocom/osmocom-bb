/- The field shapes of the TRXD PDU definitions (C17): what each shape encodes to, and when its value is in
range. -/
import OsmoVerif.Lemmas.CodecErr
import OsmoVerif.Spec.TrxdPduLayout
namespace OsmoVerif.Codec
open OsmoVerif.Spec.Trxd

theorem fdiv_one (x : Int) : Int.fdiv x 1 = x := by
  have := Int.mul_fdiv_cancel x (b := 1) (by decide)
  rwa [Int.mul_one] at this

theorem fdiv_neg_one (x : Int) : Int.fdiv x (-1) = -x := by
  have := Int.mul_fdiv_cancel (-x) (b := -1) (by decide)
  rwa [Int.neg_mul_neg, Int.mul_one] at this

theorem natcast_mod_toNat (x B : Nat) (h : x < B) : ((x : Int) % ((B : Nat) : Int)).toNat = x := by
  rw [Int.emod_eq_of_lt (by omega) (by omega), Int.toNat_natCast]

/-! ## general shapes -/

theorem fieldTo_int_eval (name : String) (len : Nat) (bo : BO) (sg : Bool) (off mult : Int) (v : Vals) (x : Int)
    (hg : Vals.get v name = .ok (.int x)) (hm : mult ≠ 0)
    (hf : fitsInt len sg (Int.fdiv (x - off) mult) = true) :
    fieldTo (.int name .always len bo sg off mult) v
      = .ok (bytesOf len bo (Int.fdiv (x - off) mult % ((256 ^ len : Nat) : Int)).toNat) := by
  rw [fieldTo]
  refine fieldToCore_present rfl ?_ (fun _ => bytesOf_length ..)
  simp only [intEnc, Vals.getInt, hg, hm, if_false]
  exact intToBytes_of_fits _ _ _ _ hf

theorem fieldTo_buf_eval (name : String) (ld : LenD) (v : Vals) (b : List Nat)
    (hg : Vals.get v name = .ok (.bytes b)) (hl : ld.selfLen = 0) (pres : Pres) (hp : getPres pres v = .ok true) :
    fieldTo (.buf name pres ld) v = .ok b := by
  rw [fieldTo]
  refine fieldToCore_present hp ?_ (fun h => by omega)
  simp only [Vals.getBytes, hg]

theorem fieldTo_buf_absent (name : String) (ld : LenD) (v : Vals) (pres : Pres) (hp : getPres pres v = .ok false) :
    fieldTo (.buf name pres ld) v = .ok [] := by
  rw [fieldTo]; exact fieldToCore_absent hp

/-- In a dict that continues `pre ++ c` the field `f` encodes to `b`, and its entries `c` are in range (whatever
follows in the buffer) and declare `L` octets. -/
def FieldEnc (f : FDef) (pre c : Vals) (b : List Nat) (L : Nat) : Prop :=
  (∀ post, fieldTo f (pre ++ c ++ post) = .ok b) ∧ ∀ rest, inRangeField f pre c rest = some L

theorem envTo_cons_enc {f : FDef} {fs : List FDef} {pre c rst : Vals} {a b : List Nat} {L : Nat}
    (h : FieldEnc f pre c a L) (hr : envTo fs (pre ++ c ++ rst) = .ok b) :
    envTo (f :: fs) (pre ++ (c ++ rst)) = .ok (a ++ b) :=
  envTo_cons_of (h.1 rst) hr

theorem inRangeFields_cons_enc {f : FDef} {fs : List FDef} {pre c rst : Vals} {b : List Nat} {R L lr : Nat}
    (hp : getPres f.pres pre = .ok true) (h : FieldEnc f pre c b L) (hc : c.length = f.nStored)
    (hr : inRangeFields fs (pre ++ c) rst R = some lr) :
    inRangeFields (f :: fs) pre (c ++ rst) R = some (L + lr) :=
  inRangeFields_cons_of hp (h.2 _) hc hr

theorem bits_field {len : Nat} {little : Bool} {fs : List BitF} {l : Nat} {offs : List (BitF × Nat)}
    (pre c : Vals) (hd : bitsDerive len little fs = .ok (l, offs)) (hr : inRangeBits offs pre c = true) :
    FieldEnc (.bits .always len little fs) pre c (bytesOf l .big (packVals offs c)) l := by
  refine ⟨fun post => ?_, fun _ => inRangeField_bits.2 ⟨offs, hd, hr⟩⟩
  obtain ⟨he, hlt, _⟩ := bits_roundtrip offs (l * 8) _ pre c 0 (bitsDerive_ok hd).2.1 hr
    (inRangeBits_get offs pre c post hr)
  have hlt' : packVals offs c < 256 ^ l := by rwa [show 256 = 2 ^ 8 from rfl, ← Nat.pow_mul, Nat.mul_comm]
  simp only [fieldTo, hd]
  refine fieldToCore_present rfl ?_ (fun _ => bytesOf_length ..)
  simp only [bitsEncBytes, he, Nat.zero_or]
  rw [intToBytes_of_fits _ _ _ _ (packVals_fits l _ hlt), natcast_mod_toNat _ _ hlt']

theorem bytesOf_1 (bo : BO) (x : Nat) : bytesOf 1 bo x = [x % 256] := by
  cases bo <;> rfl

theorem bytesOf_1_of_lt (bo : BO) (x : Nat) (h : x < 256) : bytesOf 1 bo x = [x] := by
  rw [bytesOf_1, Nat.mod_eq_of_lt h]

theorem bytesOf_2_big (x : Nat) : bytesOf 2 .big x = [x / 256 % 256, x % 256] := rfl

theorem bytesOf_4_big (x : Nat) : bytesOf 4 .big x = be32 x := by
  simp only [bytesOf, natToLE, be32, List.reverse_cons, List.reverse_nil, List.nil_append, List.cons_append,
    Nat.div_div_eq_div_mul]

theorem seqEnc_flat {α : Type} (enc : Vals → Except Err (List Nat)) (f : α → Vals) (lay : α → List Nat)
    (items : List α) (h : ∀ a ∈ items, enc (f a) = .ok (lay a)) :
    seqEnc enc (items.map (fun a => Val.dict (f a))) = .ok (items.flatMap lay) := by
  induction items with
  | nil => rfl
  | cons a rest ih =>
    simp only [List.map_cons, seqEnc, h a (List.mem_cons_self ..),
      ih (fun b hb => h b (List.mem_cons_of_mem _ hb)), List.flatMap_cons]

theorem seq_enc (name : String) (item : List FDef) (pre post : Vals) (items : List Val) (out : List Nat)
    (hn : name ∉ pre.keys) (he : seqEnc (fun x => envTo item x) items = .ok out) :
    fieldTo (.seq name .always .rest item) (pre ++ [(name, .list items)] ++ post) = .ok out := by
  rw [fieldTo]
  refine fieldToCore_present rfl ?_ nofun
  simp only [Vals.getList, Vals.get_mid pre post name _ hn, he]

/-- position of a field inside an in-range value: what precedes it, what it stores, what follows -/
theorem inRangeFields_split : ∀ (fs1 : List FDef) (f : FDef) (fs2 : List FDef) (pre rst : Vals) (R L : Nat),
    inRangeFields (fs1 ++ f :: fs2) pre rst R = some L →
    ∃ (mid c r2 : Vals) (lr : Nat), rst = mid ++ c ++ r2 ∧
      inRangeFields fs2 (pre ++ mid ++ c) r2 R = some lr ∧
      ((getPres f.pres (pre ++ mid) = .ok false ∧ c = []) ∨
       (getPres f.pres (pre ++ mid) = .ok true ∧ ∃ l, inRangeField f (pre ++ mid) c (lr + R) = some l))
  | [], f, fs2, pre, rst, R, L, h => by
    rw [List.nil_append] at h
    cases hp : getPres f.pres pre with
    | error e => rw [inRangeFields, hp] at h; cases h
    | ok b =>
      cases b with
      | false =>
        rw [inRangeFields_cons_absent hp] at h
        exact ⟨[], [], rst, L, rfl, by simpa using h, .inl ⟨by simpa using hp, rfl⟩⟩
      | true =>
        obtain ⟨l, lr, h1, h2, _⟩ := (inRangeFields_cons_present hp).1 h
        exact ⟨[], rst.take f.nStored, rst.drop f.nStored, lr, by simp, by simpa using h1,
          .inr ⟨by simpa using hp, l, by simpa using h2⟩⟩
  | g :: fs1, f, fs2, pre, rst, R, L, h => by
    rw [List.cons_append] at h
    cases hp : getPres g.pres pre with
    | error e => rw [inRangeFields, hp] at h; cases h
    | ok b =>
      cases b with
      | false =>
        rw [inRangeFields_cons_absent hp] at h
        exact inRangeFields_split fs1 f fs2 pre rst R L h
      | true =>
        obtain ⟨_, lr0, h1, _, _⟩ := (inRangeFields_cons_present hp).1 h
        obtain ⟨mid, c, r2, lr, e1, e2, e3⟩ := inRangeFields_split fs1 f fs2 _ _ R lr0 h1
        refine ⟨rst.take g.nStored ++ mid, c, r2, lr, ?_, ?_, ?_⟩
        · rw [List.append_assoc, List.append_assoc, ← List.append_assoc mid, ← e1, List.take_append_drop]
        · simpa [List.append_assoc] using e2
        · simpa [List.append_assoc] using e3

/-! ## the first field decides -/

theorem fromBytes_first_error (d : EnvDef) (f : FDef) (fsr : List FDef) (b : List Nat) (e : Err)
    (hd : d.fs = f :: fsr) (h : fieldFrom f [] b = .error e) : fromBytes d b = .error (wrapDec e) := by
  simp only [fromBytes, hd, envFrom, List.drop_zero, h, tailCheck]

/-- two buffers that differ only in octets the first field reads, and on which the first field gives the
same result, decode identically -/
theorem fromBytes_first_congr (d : EnvDef) (f : FDef) (fsr : List FDef) (a a' rest : List Nat)
    (hd : d.fs = f :: fsr) (hl : a.length = a'.length)
    (hf : fieldFrom f [] (a ++ rest) = fieldFrom f [] (a' ++ rest))
    (hk : ∀ v k, fieldFrom f [] (a ++ rest) = .ok (v, k) → k = a.length) :
    fromBytes d (a ++ rest) = fromBytes d (a' ++ rest) := by
  simp only [fromBytes, hd, envFrom_cons, ← hf, List.length_append, hl]
  cases h : fieldFrom f [] (a ++ rest) with
  | error e => rfl
  | ok r =>
    obtain ⟨v, k⟩ := r
    have := hk v k h
    subst this
    simp only [List.drop_left]
    rw [hl, List.drop_left]

/-! ## integer shapes: offset 0, multiplier ±1; the dict holds `x` under `name` behind `pre` -/

theorem fits_u8 {x : Nat} (h : x < 256) : fitsInt 1 false (x : Int) = true := by
  rw [fitsInt_unsigned]; omega

theorem fits_u32 {x : Nat} (h : x < 4294967296) : fitsInt 4 false (x : Int) = true := by
  rw [fitsInt_unsigned]; omega

theorem fits_i8 {x : Int} (h1 : -128 ≤ x) (h2 : x ≤ 127) : fitsInt 1 true x = true := by
  rw [fitsInt_signed _ _ (by decide)]; omega

theorem fits_i16 {x : Int} (h1 : -32768 ≤ x) (h2 : x ≤ 32767) : fitsInt 2 true x = true := by
  rw [fitsInt_signed _ _ (by decide)]; omega

section int
variable (name : String) (pre : Vals)

/-- a plain integer field (`offset = 0`, `mult = 1`) holding a value that fits -/
theorem int_plain_field {len bo sg} (x : Int) (hn : name ∉ pre.keys) (hf : fitsInt len sg x = true) :
    FieldEnc (.int name .always len bo sg 0 1) pre [(name, .int x)]
      (bytesOf len bo (x % ((256 ^ len : Nat) : Int)).toNat) len := by
  have hd : Int.fdiv (x - 0) 1 = x := by rw [Int.sub_zero, fdiv_one]
  refine ⟨fun post => ?_,
    fun _ => inRangeField_int.2 ⟨x, rfl, hn, by rw [hd, Int.mul_one, Int.add_zero], by rwa [hd], rfl⟩⟩
  have := fieldTo_int_eval name len bo sg 0 1 _ x (Vals.get_mid pre post name _ hn) (by decide) (by rwa [hd])
  rwa [hd] at this

theorem u8_field (x : Nat) (hn : name ∉ pre.keys) (h : x < 256) :
    FieldEnc (.int name .always 1 .big false 0 1) pre [(name, .int x)] [x] 1 := by
  have := int_plain_field name pre (bo := .big) x hn (fits_u8 h)
  rwa [natcast_mod_toNat x _ (by omega), bytesOf_1_of_lt _ _ h] at this

theorem u32_field (x : Nat) (hn : name ∉ pre.keys) (h : x < 4294967296) :
    FieldEnc (.int name .always 4 .big false 0 1) pre [(name, .int x)] (be32 x) 4 := by
  have := int_plain_field name pre (bo := .big) x hn (fits_u32 h)
  rwa [natcast_mod_toNat x _ (by omega), bytesOf_4_big] at this

theorem i8_field (x : Int) (hn : name ∉ pre.keys) (h1 : -128 ≤ x) (h2 : x ≤ 127) :
    FieldEnc (.int name .always 1 .big true 0 1) pre [(name, .int x)] [i8 x] 1 := by
  have := int_plain_field name pre (bo := .big) x hn (fits_i8 h1 h2)
  rwa [bytesOf_1_of_lt _ _ (by omega)] at this

theorem i16_field (x : Int) (hn : name ∉ pre.keys) (h1 : -32768 ≤ x) (h2 : x ≤ 32767) :
    FieldEnc (.int name .always 2 .big true 0 1) pre [(name, .int x)] (be16s x) 2 := by
  have := int_plain_field name pre (bo := .big) x hn (fits_i16 h1 h2)
  rwa [bytesOf_2_big, show (((256 ^ 2 : Nat) : Int)) = 65536 from rfl, Nat.mod_eq_of_lt (by omega)] at this

/-- an unsigned one-octet field with `mult = -1` (RSSI sent as `-RSSI`) -/
theorem neg_u8_field (x : Int) (hn : name ∉ pre.keys) (h1 : -255 ≤ x) (h2 : x ≤ 0) :
    FieldEnc (.int name .always 1 .big false 0 (-1)) pre [(name, .int x)] [(-x).toNat] 1 := by
  have hd : Int.fdiv (x - 0) (-1) = -x := by rw [Int.sub_zero, fdiv_neg_one]
  have hf : fitsInt 1 false (-x) = true := by rw [fitsInt_unsigned]; omega
  refine ⟨fun post => ?_, fun _ => inRangeField_int.2 ⟨x, rfl, hn, by rw [hd]; omega, by rwa [hd], rfl⟩⟩
  have := fieldTo_int_eval name 1 .big false 0 (-1) _ x (Vals.get_mid pre post name _ hn) (by decide) (by rwa [hd])
  rwa [hd, Int.emod_eq_of_lt (by omega) (by omega), bytesOf_1_of_lt _ _ (by omega)] at this

theorem buf_enc (post : Vals) (ld : LenD) (pres : Pres) (b : List Nat) (hn : name ∉ pre.keys) (hl : ld.selfLen = 0)
    (hp : getPres pres (pre ++ [(name, .bytes b)] ++ post) = .ok true) :
    fieldTo (.buf name pres ld) (pre ++ [(name, .bytes b)] ++ post) = .ok b :=
  fieldTo_buf_eval name ld _ b (Vals.get_mid pre post name _ hn) hl pres hp

end int

/-- `Spare('spare', len=3)` with the default filler -/
theorem spare3_enc (v : Vals) : fieldTo (.spare "spare" .always (.fixed 3) [0]) v = .ok [0, 0, 0] := by
  rw [fieldTo]; exact fieldToCore_present rfl rfl (fun _ => rfl)

/-! ## the bit-field sets of the TRXD headers -/

theorem bytesOf_2_of_lt (hi lo : Nat) (hhi : hi < 256) (hlo : lo < 256) : bytesOf 2 .big (hi * 256 + lo) = [hi, lo] := by
  rw [bytesOf_2_big, Nat.mul_comm, Nat.mul_add_div (by decide), Nat.div_eq_of_lt hlo, Nat.add_zero,
    Nat.mod_eq_of_lt hhi, Nat.mul_add_mod, Nat.mod_eq_of_lt hlo]

/-- v0/v1 header shape: VER(4) RES(1) TN(3) in one octet -/
def hdr1 (ver : Int) : FDef := .bits .always 1 false [⟨some "ver", 4, some ver⟩, ⟨none, 1, none⟩, ⟨some "tn", 3, none⟩]

def hdr1Offs (ver : Int) : List (BitF × Nat) :=
  [(⟨some "ver", 4, some ver⟩, 4), (⟨none, 1, none⟩, 3), (⟨some "tn", 3, none⟩, 0)]

theorem hdr1_derive (ver : Int) :
    bitsDerive 1 false [⟨some "ver", 4, some ver⟩, ⟨none, 1, none⟩, ⟨some "tn", 3, none⟩] = .ok (1, hdr1Offs ver) := rfl

theorem hdr1_field (veri : Int) (ver tn : Nat) (hvi : veri = (ver : Int)) (hver : ver < 16)
    (htn : tn < 8) :
    FieldEnc (hdr1 veri) [] [("ver", .int ver), ("tn", .int tn)] [hdrOctet ver tn] 1 := by
  subst hvi
  have c1 : (ver : Int) < 16 := by omega
  have c2 : (tn : Int) < 8 := by omega
  have := bits_field [] [("ver", .int ver), ("tn", .int tn)] (hdr1_derive ver)
    (by simp [hdr1Offs, inRangeBits, Vals.keys, c1, c2])
  have e : packVals (hdr1Offs ver) [("ver", .int ver), ("tn", .int tn)] = ver * 16 + tn := by
    simp only [hdr1Offs, packVals, Int.toNat_natCast]; omega
  rwa [e, bytesOf_1_of_lt _ _ (by omega)] at this

/-- the MTS set: NOPE(1) MOD(4) TSC(3) -/
def mtsSet : FDef := .bits .always 1 false [⟨some "nope", 1, none⟩, ⟨some "mod", 4, none⟩, ⟨some "tsc", 3, none⟩]

def mtsOffs : List (BitF × Nat) := [(⟨some "nope", 1, none⟩, 7), (⟨some "mod", 4, none⟩, 3), (⟨some "tsc", 3, none⟩, 0)]

theorem mts_derive :
    bitsDerive 1 false [⟨some "nope", 1, none⟩, ⟨some "mod", 4, none⟩, ⟨some "tsc", 3, none⟩] = .ok (1, mtsOffs) := rfl

theorem mts_field (pre : Vals) (nope mod tsc : Nat) (h1 : nope < 2) (h2 : mod < 16) (h3 : tsc < 8)
    (hn : "nope" ∉ pre.keys ∧ "mod" ∉ pre.keys ∧ "tsc" ∉ pre.keys) :
    FieldEnc mtsSet pre [("nope", .int nope), ("mod", .int mod), ("tsc", .int tsc)] [mtsOctet nope mod tsc] 1 := by
  have := bits_field pre [("nope", .int nope), ("mod", .int mod), ("tsc", .int tsc)] mts_derive
    (by simp [mtsOffs, inRangeBits, Vals.keys_append, Vals.keys_cons, Vals.keys_nil, hn]; omega)
  have e : packVals mtsOffs [("nope", .int nope), ("mod", .int mod), ("tsc", .int tsc)] = nope * 128 + mod * 8 + tsc := by
    simp only [mtsOffs, packVals, Int.toNat_natCast]; omega
  rwa [e, bytesOf_1_of_lt _ _ (by omega)] at this

/-- v2 header: VER(4) RES(1) TN(3) | BATCH(1) RES(1) TRXN(6) -/
def hdr2 : FDef := .bits .always 2 false [⟨some "ver", 4, some 2⟩, ⟨none, 1, none⟩, ⟨some "tn", 3, none⟩,
  ⟨some "batch", 1, none⟩, ⟨none, 1, none⟩, ⟨some "trxn", 6, none⟩]

def hdr2Offs : List (BitF × Nat) := [(⟨some "ver", 4, some 2⟩, 12), (⟨none, 1, none⟩, 11), (⟨some "tn", 3, none⟩, 8),
  (⟨some "batch", 1, none⟩, 7), (⟨none, 1, none⟩, 6), (⟨some "trxn", 6, none⟩, 0)]

theorem hdr2_derive : bitsDerive 2 false [⟨some "ver", 4, some 2⟩, ⟨none, 1, none⟩, ⟨some "tn", 3, none⟩,
    ⟨some "batch", 1, none⟩, ⟨none, 1, none⟩, ⟨some "trxn", 6, none⟩] = .ok (2, hdr2Offs) := rfl

theorem hdr2_field (tn batch trxn : Nat) (h1 : tn < 8) (h2 : batch < 2) (h3 : trxn < 64) :
    FieldEnc hdr2 [] [("ver", .int 2), ("tn", .int tn), ("batch", .int batch), ("trxn", .int trxn)]
      (hdr2Primary tn batch trxn) 2 := by
  have := bits_field [] [("ver", .int 2), ("tn", .int tn), ("batch", .int batch), ("trxn", .int trxn)]
    hdr2_derive (by simp [hdr2Offs, inRangeBits, Vals.keys]; omega)
  have e : packVals hdr2Offs [("ver", .int 2), ("tn", .int tn), ("batch", .int batch), ("trxn", .int trxn)]
      = (2 * 16 + tn) * 256 + (batch * 128 + trxn) := by
    simp only [hdr2Offs, packVals, Int.toNat_natCast, Int.reduceToNat]; omega
  rwa [e, bytesOf_2_of_lt _ _ (by omega) (by omega)] at this

/-- the header of a batched sub-PDU -/
def hdr2b : FDef := .bits .always 2 false [⟨none, 4, none⟩, ⟨none, 1, none⟩, ⟨some "tn", 3, none⟩,
  ⟨some "batch", 1, none⟩, ⟨some "shadow", 1, none⟩, ⟨some "trxn", 6, none⟩]

def hdr2bOffs : List (BitF × Nat) := [(⟨none, 4, none⟩, 12), (⟨none, 1, none⟩, 11), (⟨some "tn", 3, none⟩, 8),
  (⟨some "batch", 1, none⟩, 7), (⟨some "shadow", 1, none⟩, 6), (⟨some "trxn", 6, none⟩, 0)]

theorem hdr2b_derive : bitsDerive 2 false [⟨none, 4, none⟩, ⟨none, 1, none⟩, ⟨some "tn", 3, none⟩,
    ⟨some "batch", 1, none⟩, ⟨some "shadow", 1, none⟩, ⟨some "trxn", 6, none⟩] = .ok (2, hdr2bOffs) := rfl

theorem hdr2b_field (tn batch shadow trxn : Nat) (h1 : tn < 8) (h2 : batch < 2)
    (h4 : shadow < 2) (h3 : trxn < 64) :
    FieldEnc hdr2b [] [("tn", .int tn), ("batch", .int batch), ("shadow", .int shadow), ("trxn", .int trxn)]
      (hdr2Batched tn batch shadow trxn) 2 := by
  have := bits_field [] [("tn", .int tn), ("batch", .int batch), ("shadow", .int shadow), ("trxn", .int trxn)]
    hdr2b_derive (by simp [hdr2bOffs, inRangeBits, Vals.keys]; omega)
  have e : packVals hdr2bOffs [("tn", .int tn), ("batch", .int batch), ("shadow", .int shadow), ("trxn", .int trxn)]
      = tn * 256 + (batch * 128 + shadow * 64 + trxn) := by
    simp only [hdr2bOffs, packVals, Int.toNat_natCast]; omega
  rwa [e, bytesOf_2_of_lt _ _ (by omega) (by omega)] at this

end OsmoVerif.Codec
