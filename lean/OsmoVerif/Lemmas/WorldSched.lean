/-
C03, schedules: ghost bookkeeping over the interleaving semantics (Model/WorldSched.lean) and the
proof that every reachable state of every schedule satisfies the exactly-once invariant.

`sgStep` observes one action of a schedule for transceiver `j0`:
  * a socket action is observed exactly as in the sequential case (`ghostStep`);
  * the locked section of `clck_tick(j0)` moves the `emit` and `drop` partitions of the tagged queue
    into the pending lists `pendE` / `pendD` (parallel to the clock thread's local `emit` / `drop`)
    and records the snapshot `snap` of the tagged queue;
  * `forward_msg` being called for the head of `emit` logs `emitted`; one stale warning logs `stale`.
If the clock thread dies, what was pending stays pending (the ghost remembers it).
Then: where pending messages and tick outcomes come from (`sgStep_origin`), the refinement `tick_run`
(a tick of the clock thread without interference is `World.tick`), the two actions of the recipient
loop of `forward_msg` (`fwdRead_some_iff`, `clockStep_fwd`, `clockStep_hdl`), and the concrete
schedules of the non-vacuity examples of Props/C03.
-/
import OsmoVerif.Lemmas.WorldQueue
import OsmoVerif.Model.WorldSched

namespace OsmoVerif.World.Sched
open OsmoVerif OsmoVerif.World OsmoVerif.Spec.TxQueue

/-- ghost state of transceiver `j0` under a schedule -/
structure SGhost where
  g : Ghost := {}
  /-- tagged messages in the clock thread's local `emit` list (not yet handed to `forward_msg`) -/
  pendE : List (Nat × Trxd.TxMsg) := []
  /-- tagged messages in the clock thread's local `drop` list (not yet reported) -/
  pendD : List (Nat × Trxd.TxMsg) := []
  /-- the tagged queue of `j0` when the locked section of its current (or last) `clck_tick` ran -/
  snap : List (Nat × Trxd.TxMsg) := []
  /-- the outcome events the clock thread has produced for `j0` since that locked section -/
  tickLog : List Ev := []

/-- the `clck_tick` the clock thread is in: (frame number, transceiver, local emit, local drop) -/
def Pc.inTick : Pc → Option (Nat × Nat × List Trxd.TxMsg × List Trxd.TxMsg)
  | .loop fn j emit drop _ => some (fn, j, emit, drop)
  | .fwd fn j _ _ _ _ emit drop _ => some (fn, j, emit, drop)
  | .hdl fn j _ _ _ _ _ _ emit drop _ => some (fn, j, emit, drop)
  | _ => none

/-- one action of a schedule seen from transceiver `j0` (`pos` = position of the action) -/
def sgStep (j0 pos : Nat) (s : State) (a : Act) (sg : SGhost) : SGhost :=
  match a.op? with
  | some op => { sg with g := ghostStep j0 pos s.w op (step s.w op).world sg.g }
  | none =>
    match s.pc with
    | .lock fn j _ =>
      if j = j0 then
        let tq := sg.g.ids.zip (queueOf s.w j0)
        { g := ⟨tickIds fn tq, sg.g.log⟩,
          pendE := tq.filter (fun p => classify fn p.2 == .emit),
          pendD := tq.filter (fun p => classify fn p.2 == .stale),
          snap := tq, tickLog := [] }
      else sg
    | .loop fn j (_ :: _) _ _ =>
      if j = j0 then
        match sg.pendE with
        | p :: rest =>
          { sg with g := ⟨sg.g.ids, sg.g.log ++ [Event.emitted p.1 fn]⟩, pendE := rest,
                    tickLog := sg.tickLog ++ [Event.emitted p.1 fn] }
        | [] => sg
      else sg
    | .loop fn j [] (_ :: _) _ =>
      if j = j0 then
        match sg.pendD with
        | p :: rest =>
          { sg with g := ⟨sg.g.ids, sg.g.log ++ [Event.stale p.1 fn]⟩, pendD := rest,
                    tickLog := sg.tickLog ++ [Event.stale p.1 fn] }
        | [] => sg
      else sg
    | _ => sg

/-- replay a schedule from position `pos` -/
def sreplay (j0 : Nat) : Nat → State → List Act → SGhost → SGhost
  | _, _, [], sg => sg
  | pos, s, a :: as, sg => sreplay j0 (pos + 1) (act s a) as (sgStep j0 pos s a sg)

/-- the ghost state of `j0` after the schedule `acts` from `s0` -/
def sghost (s0 : State) (acts : List Act) (j0 : Nat) : SGhost := sreplay j0 0 s0 acts {}

/-- events still to be produced for the pending lists at tick `fn` -/
def pendEvents (fn : Nat) (sg : SGhost) : List Ev :=
  sg.pendE.map (fun p => Event.emitted p.1 fn) ++ sg.pendD.map (fun p => Event.stale p.1 fn)

/-- the clock thread is inside `clck_tick(j0)` at frame `fn` with local lists `emit`, `drop` -/
structure TickOk (fn : Nat) (emit drop : List Trxd.TxMsg) (sg : SGhost) : Prop where
  /-- lock-step of the pending lists with the clock thread's locals -/
  lockE : sg.pendE.map Prod.snd = emit
  lockD : sg.pendD.map Prod.snd = drop
  clsE : ∀ p ∈ sg.pendE, classify fn p.2 = .emit
  clsD : ∀ p ∈ sg.pendD, classify fn p.2 = .stale
  /-- produced so far ++ still pending = what the snapshot determines -/
  total : sg.tickLog ++ pendEvents fn sg = tickEvents fn sg.snap

/-- what the ghost state must satisfy at each control point of the clock thread -/
def PcOk (j0 : Nat) (sg : SGhost) : Pc → Prop
  | .dead _ => True
  | .loop fn j emit drop _ => if j = j0 then TickOk fn emit drop sg else sg.pendE = [] ∧ sg.pendD = []
  | .fwd fn j _ _ _ _ emit drop _ =>
    if j = j0 then TickOk fn emit drop sg else sg.pendE = [] ∧ sg.pendD = []
  | .hdl fn j _ _ _ _ _ _ emit drop _ =>
    if j = j0 then TickOk fn emit drop sg else sg.pendE = [] ∧ sg.pendD = []
  | _ => sg.pendE = [] ∧ sg.pendD = []

/-- the invariant of the interleaving semantics for transceiver `j0` -/
structure SInv (j0 pos : Nat) (s : State) (sg : SGhost) : Prop where
  inv : Inv pos (queueOf s.w j0) (sg.pendE ++ sg.pendD) sg.g
  sub : ∀ e ∈ sg.tickLog, e ∈ sg.g.log
  pcOk : PcOk j0 sg s.pc

/-! ### preservation -/

/-- `PcOk` does not look at the queue bookkeeping `g` -/
theorem PcOk.with_g {j0 : Nat} {pc : Pc} {sg : SGhost} (h : PcOk j0 sg pc) (g : Ghost) : PcOk j0 { sg with g := g } pc := by
  have tick : ∀ {fn emit drop}, TickOk fn emit drop sg → TickOk fn emit drop { sg with g := g } :=
    fun h => ⟨h.lockE, h.lockD, h.clsE, h.clsD, h.total⟩
  cases pc <;> simp only [PcOk] at h ⊢ <;> first | exact h | (split <;> simp_all)

theorem sinv_sock {j0 pos : Nat} {s : State} {sg : SGhost} (op : Op) (h : SInv j0 pos s sg) :
    SInv j0 (pos + 1) (sockStep s op)
      { sg with g := ghostStep j0 pos s.w op (step s.w op).world sg.g } :=
  ⟨ghostStep_inv op h.inv, fun e he => ghostStep_log_mono (h.sub e he), h.pcOk.with_g _⟩

theorem SInv.mono {j0 pos : Nat} {s : State} {sg : SGhost} (h : SInv j0 pos s sg) :
    SInv j0 (pos + 1) s sg := ⟨h.inv.mono (Nat.le_succ _), h.sub, h.pcOk⟩

/-- the clock thread touches the queue of `j0` only in the locked section of `clck_tick(j0)` -/
theorem clockStep_queue (s : State) (j0 : Nat) :
    queueOf (clockStep s).w j0 =
      match s.pc with
      | .lock fn j _ => if j = j0 then waitPart fn (queueOf s.w j0) else queueOf s.w j0
      | _ => queueOf s.w j0 := by
  obtain ⟨w, pc, out, stale, sout⟩ := s
  cases pc with
  | lock fn j js =>
    simp only [clockStep]
    cases ht : w.trxs[j]? with
    | none =>
      simp only []
      split
      · next e => subst e; simp [queueOf, ht, waitPart]
      · rfl
    | some trx =>
      simp only []
      rw [queueOf_setTrx]
      split
      · next e => subst e; simp [queueOf, ht, waitPart]
      · rfl
  | hdl fn j msg mfn txFreq k rx ks emit drop js =>
    simp only [clockStep]
    split
    · rfl
    · next hf => exact (handleDataMsg_sameQ hf).queueOf j0
  | next fn js => cases js <;> simp only [clockStep] <;> repeat' split
                  all_goals rfl
  | loop fn j emit drop js => cases emit <;> cases drop <;> simp only [clockStep] <;> repeat' split
                              all_goals rfl
  | fwd fn j msg mfn txFreq ks emit drop js => cases ks <;> simp only [clockStep] <;> repeat' split
                                               all_goals rfl
  | _ => simp only [clockStep]; repeat' split
         all_goals rfl

/-- `forward_msg` is called for the head of the local `emit` list: its tagged twin leaves `pendE` with an `emitted` -/
theorem TickOk.popE {fn : Nat} {m : Trxd.TxMsg} {emit drop : List Trxd.TxMsg} {sg : SGhost}
    (h : TickOk fn (m :: emit) drop sg) :
    ∃ p rest, sg.pendE = p :: rest ∧ p.2 = m ∧ classify fn p.2 = .emit ∧
      TickOk fn emit drop { sg with g := ⟨sg.g.ids, sg.g.log ++ [Event.emitted p.1 fn]⟩, pendE := rest,
                                    tickLog := sg.tickLog ++ [Event.emitted p.1 fn] } := by
  obtain ⟨p, rest, hp, hpm, hrest⟩ := List.map_eq_cons_iff.1 h.lockE
  refine ⟨p, rest, hp, hpm, h.clsE p (hp ▸ List.mem_cons_self), hrest, h.lockD,
    fun p' hp' => h.clsE p' (hp ▸ List.mem_cons_of_mem _ hp'), h.clsD, ?_⟩
  rw [← h.total]
  simp only [pendEvents, hp, List.map_cons, List.append_assoc, List.cons_append, List.nil_append]

/-- one stale warning: the head of `pendD` gets its `stale` -/
theorem TickOk.popD {fn : Nat} {d : Trxd.TxMsg} {drop : List Trxd.TxMsg} {sg : SGhost}
    (h : TickOk fn [] (d :: drop) sg) :
    sg.pendE = [] ∧ ∃ p rest, sg.pendD = p :: rest ∧ classify fn p.2 = .stale ∧
      TickOk fn [] drop { sg with g := ⟨sg.g.ids, sg.g.log ++ [Event.stale p.1 fn]⟩, pendD := rest,
                                  tickLog := sg.tickLog ++ [Event.stale p.1 fn] } := by
  have hE : sg.pendE = [] := List.map_eq_nil_iff.mp h.lockE
  obtain ⟨p, rest, hp, -, hrest⟩ := List.map_eq_cons_iff.1 h.lockD
  refine ⟨hE, p, rest, hp, h.clsD p (hp ▸ List.mem_cons_self), h.lockE, hrest, h.clsE,
    fun p' hp' => h.clsD p' (hp ▸ List.mem_cons_of_mem _ hp'), ?_⟩
  rw [← h.total]
  simp only [pendEvents, hp, hE, List.map_cons, List.map_nil, List.nil_append, List.append_assoc, List.singleton_append]

/-- the `fwd-begin` action leaves the thread dead or inside `forward_msg` with the rest of `emit` still to do -/
theorem clockStep_emit_pc (w : World) (fn j : Nat) (m : Trxd.TxMsg) (emit drop : List Trxd.TxMsg) (js : List Nat)
    (out : List Dgram) (stale : Nat) (sout : List Dgram) :
    (∃ e, (clockStep ⟨w, .loop fn j (m :: emit) drop js, out, stale, sout⟩).pc = .dead e) ∨
    ∃ msg mfn tx ks, (clockStep ⟨w, .loop fn j (m :: emit) drop js, out, stale, sout⟩).pc =
      .fwd fn j msg mfn tx ks emit drop js := by
  simp only [clockStep]
  repeat' split
  all_goals first | exact .inl ⟨_, rfl⟩ | exact .inr ⟨_, _, _, _, rfl⟩

theorem sinv_clk {j0 pos : Nat} {s : State} {sg : SGhost} (h : SInv j0 pos s sg) :
    SInv j0 (pos + 1) (clockStep s) (sgStep j0 pos s Act.clk sg) := by
  obtain ⟨w, pc, out, stale, sout⟩ := s
  obtain ⟨hinv, hsub, hpc⟩ := h
  -- a step that leaves the queue of `j0` and the bookkeeping alone
  have keep : ∀ s' : State, queueOf s'.w j0 = queueOf w j0 → PcOk j0 sg s'.pc → SInv j0 (pos + 1) s' sg :=
    fun s' hq hp => ⟨hq ▸ hinv.mono (Nat.le_succ _), hsub, hp⟩
  simp only [sgStep, Act.op?]
  cases pc with
  | idle => simp only [clockStep]; repeat' split
            all_goals first | exact keep _ rfl trivial | exact keep _ rfl hpc
  | dead e => exact keep _ rfl trivial
  | next fn js =>
    cases js <;> simp only [clockStep] <;> repeat' split
    all_goals first | exact keep _ rfl trivial | exact keep _ rfl hpc
  | fwd fn j msg mfn txFreq ks emit drop js =>
    cases ks <;> simp only [clockStep] <;> repeat' split
    all_goals first | exact keep _ rfl trivial | exact keep _ rfl hpc
  | hdl fn j msg mfn txFreq k rx ks emit drop js =>
    simp only [clockStep]
    split
    · exact keep _ rfl trivial
    · next hf => exact keep _ ((handleDataMsg_sameQ hf).queueOf j0) hpc
  | lock fn j js =>
    have ⟨hE, hD⟩ : sg.pendE = [] ∧ sg.pendD = [] := hpc
    have hq := clockStep_queue ⟨w, .lock fn j js, out, stale, sout⟩ j0
    by_cases hj : j = j0
    · subst hj
      simp only [if_true] at hq ⊢
      rw [hE, hD, List.append_nil] at hinv
      refine ⟨hq ▸ (hinv.lockSection fn).mono (Nat.le_succ _), fun _ he => absurd he List.not_mem_nil, ?_⟩
      simp only [clockStep]
      split
      · trivial
      · next trx ht =>
        have hqt : trx.txQueue = queueOf w j := by simp only [queueOf, ht]
        simp only [PcOk, if_true, hqt]
        exact ⟨(zip_filter (fun m => classify fn m == .emit) hinv.lock).1,
          (zip_filter (fun m => classify fn m == .stale) hinv.lock).1, fun p hp => beq_iff_eq.1 (List.mem_filter.1 hp).2,
          fun p hp => beq_iff_eq.1 (List.mem_filter.1 hp).2, rfl⟩
    · simp only [if_neg hj] at hq ⊢
      refine keep _ hq ?_
      simp only [clockStep]
      split
      · trivial
      · simp only [PcOk, if_neg hj]; exact ⟨hE, hD⟩
  | loop fn j emit drop js =>
    have hq := clockStep_queue ⟨w, .loop fn j emit drop js, out, stale, sout⟩ j0
    by_cases hj : j = j0
    · subst hj
      simp only [PcOk, if_true] at hpc
      cases emit with
      | cons m emit =>
        obtain ⟨p, rest, hp, -, hcls, htick⟩ := hpc.popE
        rw [hp] at hinv
        simp only [if_true, hp]
        refine ⟨hq ▸ (hinv.outcome (.inl ⟨hcls, rfl⟩)).mono (Nat.le_succ _), fun e he => ?_, ?_⟩
        · exact List.mem_append.2 ((List.mem_append.1 he).imp_left (hsub e))
        · rcases clockStep_emit_pc w fn j m emit drop js out stale sout with ⟨e, he⟩ | ⟨_, _, _, _, he⟩ <;> rw [he]
          · trivial
          · simp only [PcOk, if_true]; exact htick
      | nil =>
        cases drop with
        | cons d drop =>
          obtain ⟨hE, p, rest, hp, hcls, htick⟩ := hpc.popD
          rw [hp, hE] at hinv
          simp only [if_true, hp]
          refine ⟨hq ▸ hE.symm ▸ (hinv.outcome (.inr ⟨hcls, rfl⟩)).mono (Nat.le_succ _), fun e he => ?_, ?_⟩
          · exact List.mem_append.2 ((List.mem_append.1 he).imp_left (hsub e))
          · simp only [clockStep, PcOk, if_true]; exact htick
        | nil => exact keep _ rfl ⟨List.map_eq_nil_iff.mp hpc.lockE, List.map_eq_nil_iff.mp hpc.lockD⟩
    · have hpc' : sg.pendE = [] ∧ sg.pendD = [] := by simpa only [PcOk, if_neg hj] using hpc
      cases emit with
      | cons m emit =>
        simp only [if_neg hj]
        refine keep _ hq ?_
        rcases clockStep_emit_pc w fn j m emit drop js out stale sout with ⟨e, he⟩ | ⟨_, _, _, _, he⟩ <;> rw [he]
        · trivial
        · simp only [PcOk, if_neg hj]; exact hpc'
      | nil => cases drop <;> simp only [if_neg hj] <;> refine keep _ hq ?_ <;>
                 simp only [clockStep, PcOk, if_neg hj] <;> exact hpc'

/-! ### schedules -/

theorem sinv_act {j0 pos : Nat} {s : State} {sg : SGhost} (a : Act) (h : SInv j0 pos s sg) :
    SInv j0 (pos + 1) (act s a) (sgStep j0 pos s a sg) := by
  cases a with
  | ctrl i sp d => exact sinv_sock (.ctrl i sp d) h
  | data i d => exact sinv_sock (.data i d) h
  | clk => exact sinv_clk h

theorem sreplay_inv (j0 : Nat) : ∀ (acts : List Act) (pos : Nat) (s : State) (sg : SGhost),
    SInv j0 pos s sg → SInv j0 (pos + acts.length) (exec s acts) (sreplay j0 pos s acts sg) := by
  intro acts
  induction acts with
  | nil => intro pos s sg h; simpa [exec, sreplay] using h
  | cons a acts ih =>
    intro pos s sg h
    have := ih (pos + 1) (act s a) _ (sinv_act a h)
    simp only [exec, sreplay, List.length_cons]
    rw [show pos + (acts.length + 1) = pos + 1 + acts.length by omega]
    exact this

/-- initial states: clock thread between two ticks, nothing queued at `j0` -/
def Initial (j0 : Nat) (s : State) : Prop := s.pc = .idle ∧ queueOf s.w j0 = []

theorem sinv_init {j0 : Nat} {s : State} (h : Initial j0 s) : SInv j0 0 s {} := by
  refine ⟨?_, (by intro e he; cases he), ?_⟩
  · rw [h.2]; exact Inv.init 0
  · rw [h.1]; exact ⟨rfl, rfl⟩

theorem sghost_inv {j0 : Nat} {s0 : State} (h0 : Initial j0 s0) (acts : List Act) :
    SInv j0 acts.length (exec s0 acts) (sghost s0 acts j0) := by
  have := sreplay_inv j0 acts 0 s0 {} (sinv_init h0)
  simp only [Nat.zero_add] at this
  exact this

theorem exec_append (s : State) (as bs : List Act) : exec s (as ++ bs) = exec (exec s as) bs := by
  induction as generalizing s with
  | nil => rfl
  | cons a as ih => simp only [List.cons_append, exec]; exact ih _

theorem sreplay_append (j0 : Nat) : ∀ (as bs : List Act) (pos : Nat) (s : State) (sg : SGhost),
    sreplay j0 pos s (as ++ bs) sg = sreplay j0 (pos + as.length) (exec s as) bs (sreplay j0 pos s as sg) := by
  intro as
  induction as with
  | nil => intro bs pos s sg; simp [exec, sreplay]
  | cons a as ih =>
    intro bs pos s sg
    simp only [List.cons_append, sreplay, exec, List.length_cons]
    rw [ih]; congr 1; omega

theorem sghost_snoc (s0 : State) (acts : List Act) (a : Act) (j0 : Nat) :
    sghost s0 (acts ++ [a]) j0 = sgStep j0 acts.length (exec s0 acts) a (sghost s0 acts j0) := by
  unfold sghost
  rw [sreplay_append]
  simp [sreplay]

theorem exec_snoc (s0 : State) (acts : List Act) (a : Act) :
    exec s0 (acts ++ [a]) = act (exec s0 acts) a := by
  rw [exec_append]; rfl

/-! ### pending lists -/

theorem sock_keeps_pending (j0 pos : Nat) (s : State) (op : Op) (sg : SGhost) (a : Act) (ha : a.op? = some op) :
    (act s a).pc = s.pc ∧ (sgStep j0 pos s a sg).pendE = sg.pendE ∧ (sgStep j0 pos s a sg).pendD = sg.pendD ∧
    (sgStep j0 pos s a sg).snap = sg.snap ∧ (sgStep j0 pos s a sg).tickLog = sg.tickLog := by
  simp only [act, sgStep, ha, sockStep, and_self]

theorem Act.eq_clk {a : Act} (h : a.op? = none) : a = .clk := by cases a <;> first | rfl | cases h

/-- Where pending messages and tick outcomes come from.  The pending lists are filled only by the locked section of
`clck_tick(j0)`, from the queue as it is at that moment; a tick outcome (`emitted` / `stale`) is only ever given to a
pending message, by the clock thread. -/
theorem sgStep_origin (j0 pos : Nat) (s : State) (a : Act) (sg : SGhost) :
    (∀ p ∈ (sgStep j0 pos s a sg).pendE ++ (sgStep j0 pos s a sg).pendD, p ∈ sg.pendE ++ sg.pendD ∨
      (a.op? = none ∧ ∃ fn js, s.pc = .lock fn j0 js ∧ p ∈ sg.g.ids.zip (queueOf s.w j0))) ∧
    (∀ e ∈ (sgStep j0 pos s a sg).g.log, e ∉ sg.g.log → ∀ id fn, e = Event.emitted id fn ∨ e = Event.stale id fn →
      a.op? = none ∧ ∃ p ∈ sg.pendE ++ sg.pendD, p.1 = id) := by
  by_cases hop : a.op? = none
  case neg =>
    obtain ⟨op, hop⟩ := Option.ne_none_iff_exists'.1 hop
    simp only [sgStep, hop]
    refine ⟨fun p h => .inl h, fun e h hn id fn he => ?_⟩
    rcases ghostStep_mem h with h | ⟨_, hh⟩ | ⟨_, hh⟩ | ⟨hop', -⟩
    · exact absurd h hn
    · rcases he with he | he <;> rw [he] at hh <;> cases hh
    · rcases he with he | he <;> rw [he] at hh <;> cases hh
    · cases a <;> simp [Act.op?] at hop <;> subst hop <;> cases hop'
  case pos =>
    cases Act.eq_clk hop
    obtain ⟨w, pc, out, stale, sout⟩ := s
    have same : (∀ p ∈ sg.pendE ++ sg.pendD, p ∈ sg.pendE ++ sg.pendD ∨
          (∃ fn js, pc = .lock fn j0 js ∧ p ∈ sg.g.ids.zip (queueOf w j0))) ∧
        (∀ e ∈ sg.g.log, e ∉ sg.g.log → ∀ id fn, e = Event.emitted id fn ∨ e = Event.stale id fn →
          ∃ p ∈ sg.pendE ++ sg.pendD, p.1 = id) :=
      ⟨fun p h => .inl h, fun e h hn => absurd h hn⟩
    -- the head `q` of a pending list gets the outcome `e'`
    have out : ∀ {q : Nat × Trxd.TxMsg} {e' : Ev}, e'.outId? = some q.1 → q ∈ sg.pendE ++ sg.pendD →
        ∀ e ∈ sg.g.log ++ [e'], e ∉ sg.g.log → ∀ id fn, e = Event.emitted id fn ∨ e = Event.stale id fn →
          ∃ p ∈ sg.pendE ++ sg.pendD, p.1 = id := by
      intro q e' ho hq e h hn id fn he
      cases List.mem_singleton.1 ((List.mem_append.1 h).resolve_left hn)
      exact ⟨q, hq, by rcases he with rfl | rfl <;> exact (Option.some.inj ho).symm⟩
    cases pc with
    | lock fn j js =>
      by_cases hj : j = j0
      · subst hj
        simp only [sgStep, Act.op?, true_and, if_true]
        exact ⟨fun p h => .inr ⟨fn, js, rfl, (List.mem_append.1 h).elim (fun h => (List.mem_filter.1 h).1)
          (fun h => (List.mem_filter.1 h).1)⟩, fun e h hn => absurd h hn⟩
      · simp only [sgStep, Act.op?, true_and, if_neg hj]; exact same
    | loop fn j emit drop js =>
      by_cases hj : j = j0
      · cases emit with
        | cons m emit =>
          simp only [sgStep, Act.op?, true_and, if_pos hj]
          split
          · next q rest hq =>
            exact ⟨fun p h => .inl (hq ▸ List.mem_cons_of_mem _ h),
              out rfl (hq ▸ List.mem_append_left _ List.mem_cons_self)⟩
          · exact same
        | nil =>
          cases drop with
          | nil => simp only [sgStep, Act.op?, true_and]; exact same
          | cons d drop =>
            simp only [sgStep, Act.op?, true_and, if_pos hj]
            split
            · next q rest hq =>
              exact ⟨fun p h => .inl (hq ▸ List.mem_append.2 ((List.mem_append.1 h).imp_right (List.mem_cons_of_mem _))),
                out rfl (hq ▸ List.mem_append_right _ List.mem_cons_self)⟩
            · exact same
      · cases emit <;> cases drop <;> simp only [sgStep, Act.op?, true_and, if_neg hj] <;> exact same
    | _ => simp only [sgStep, Act.op?, true_and]; exact same

/-- a message in the clock thread's local `emit` list is handed to `forward_msg` by the next action
of the clock thread, whatever has happened to the transceiver in between -/
theorem pending_emit_is_emitted {j0 pos : Nat} {s : State} {sg : SGhost} (h : SInv j0 pos s sg)
    {fn : Nat} {m : Trxd.TxMsg} {emit drop : List Trxd.TxMsg} {js : List Nat}
    (hpc : s.pc = .loop fn j0 (m :: emit) drop js) :
    ∃ p rest, sg.pendE = p :: rest ∧ p.2 = m ∧
      Event.emitted p.1 fn ∈ (sgStep j0 pos s Act.clk sg).g.log ∧ p.2.fn = some (fn : Int) := by
  have hp := h.pcOk
  rw [hpc] at hp
  simp only [PcOk, if_true] at hp
  obtain ⟨p, rest, hpe, hpm, hcls, -⟩ := hp.popE
  refine ⟨p, rest, hpe, hpm, ?_, classify_emit hcls⟩
  simp only [sgStep, Act.op?, hpc, if_true, hpe]
  exact List.mem_append_right _ (List.mem_singleton.2 rfl)

theorem snap_at_lock {j0 pos : Nat} {s : State} {sg : SGhost} {fn : Nat} {js : List Nat}
    (hpc : s.pc = .lock fn j0 js) :
    (sgStep j0 pos s Act.clk sg).snap = sg.g.ids.zip (queueOf s.w j0) ∧
    (sgStep j0 pos s Act.clk sg).tickLog = [] := by
  simp only [sgStep, Act.op?, hpc, if_true, and_self]

/-! ### refinement: an uninterrupted tick of the clock thread is `World.tick` -/

theorem clockRun_add (s : State) (a b : Nat) : clockRun s (a + b) = clockRun (clockRun s a) b := by
  induction a generalizing s with
  | zero => simp [clockRun]
  | succ a ih => rw [Nat.succ_add]; simp only [clockRun]; exact ih _

/-- the clock thread, left alone, gets from `s` to `s'` -/
def Runs (s s' : State) : Prop := ∃ n, clockRun s n = s'

theorem Runs.refl (s : State) : Runs s s := ⟨0, rfl⟩
theorem Runs.step {s s' : State} (h : Runs (clockStep s) s') : Runs s s' := h.elim fun n hn => ⟨n + 1, hn⟩
theorem Runs.trans {a b c : State} (h1 : Runs a b) (h2 : Runs b c) : Runs a c := by
  obtain ⟨n, rfl⟩ := h1
  obtain ⟨m, rfl⟩ := h2
  exact ⟨n + m, clockRun_add a n m⟩

/-- the recipient loop of `forward_msg`, run by the clock thread without interference -/
theorem fwd_run (fn j mfn : Nat) (txFreq : Option Int) (msg : Trxd.TxMsg) (emit drop : List Trxd.TxMsg)
    (js : List Nat) (st : Nat) (so : List Dgram) : ∀ (ks : List Nat) (w : World) (acc : List Dgram) (w' : World)
      (r out : List Dgram), forwardMsg.go j mfn txFreq msg w acc ks = .ok (w', r) →
    ∃ D, r = acc ++ D ∧
      Runs ⟨w, .fwd fn j msg mfn txFreq ks emit drop js, out, st, so⟩
        ⟨w', .loop fn j emit drop js, out ++ D, st, so⟩ := by
  intro ks
  induction ks with
  | nil =>
    intro w acc w' r out h
    cases h
    exact ⟨[], (List.append_nil _).symm, .step (by rw [List.append_nil]; exact .refl _)⟩
  | cons k ks ih =>
    intro w acc w' r out h
    rw [forwardMsg_go_cons] at h
    cases hf : fwdRead w j msg mfn txFreq k with
    | error e => rw [hf] at h; cases h
    | ok v =>
      rw [hf] at h
      cases v with
      | none =>
        obtain ⟨D, hr, hn⟩ := ih w acc w' r out h
        exact ⟨D, hr, .step (by simp only [clockStep, hf]; exact hn)⟩
      | some rx =>
        simp only [] at h
        cases hh : handleDataMsg w k j msg rx with
        | error e => rw [hh] at h; cases h
        | ok v =>
          rw [hh] at h
          obtain ⟨D, hr, hn⟩ := ih v.1 (acc ++ v.2) w' r (out ++ v.2) h
          refine ⟨v.2 ++ D, by rw [hr, List.append_assoc], .step (.step ?_)⟩
          simp only [clockStep, hf, hh]
          rwa [← List.append_assoc]

/-- `forward_msg` for the emitted messages one after the other (`clckTick.go`) -/
theorem emit_run (fn j : Nat) (drop : List Trxd.TxMsg) (js : List Nat) (st : Nat) (so : List Dgram) :
    ∀ (emit : List Trxd.TxMsg) (w : World) (acc : List Dgram) (w' : World) (r out : List Dgram),
    clckTick.go j w acc emit = .ok (w', r) →
    ∃ D, r = acc ++ D ∧
      Runs ⟨w, .loop fn j emit drop js, out, st, so⟩ ⟨w', .loop fn j [] drop js, out ++ D, st, so⟩ := by
  intro emit
  induction emit with
  | nil =>
    intro w acc w' r out h
    cases h
    exact ⟨[], (List.append_nil _).symm, by rw [List.append_nil]; exact .refl _⟩
  | cons m emit ih =>
    intro w acc w' r out h
    simp only [clckTick.go] at h
    split at h
    · cases h
    next w2 ds hfw =>
    obtain ⟨D, hr, hn⟩ := ih w2 (acc ++ ds) w' r (out ++ ds) h
    obtain ⟨src, fnI, txf, hsrc, hfnI, htx, hgo⟩ := forwardMsg_ok hfw
    obtain ⟨D1, hr1, hn1⟩ := fwd_run fn j fnI.toNat txf _ emit drop js st so _ w [] w2 ds out hgo
    rw [List.nil_append] at hr1
    subst hr1
    refine ⟨ds ++ D, by rw [hr, List.append_assoc], .step ?_⟩
    simp only [clockStep, hsrc, hfnI, htx] at hn1 ⊢
    exact hn1.trans (List.append_assoc .. ▸ hn)

/-- the stale warnings one after the other, then `clck_tick` returns -/
theorem drop_run (fn j : Nat) (js : List Nat) (out so : List Dgram) : ∀ (drop : List Trxd.TxMsg) (w : World) (st : Nat),
    Runs ⟨w, .loop fn j [] drop js, out, st, so⟩ ⟨w, .next fn js, out, st + drop.length, so⟩ := by
  intro drop
  induction drop with
  | nil => intro w st; exact .step (.refl _)
  | cons d drop ih =>
    intro w st
    have := ih w (st + 1)
    rw [Nat.add_assoc, Nat.add_comm 1] at this
    exact .step this

/-- one `clck_tick`, run by the clock thread without interference -/
theorem clckTick_run {w w' : World} {j fn : Nat} {ds : List Dgram} {st' : Nat}
    (h : clckTick w j fn = .ok (w', ds, st')) (js : List Nat) (out : List Dgram) (st : Nat) (so : List Dgram) :
    Runs ⟨w, .next fn (j :: js), out, st, so⟩ ⟨w', .next fn js, out ++ ds, st + st', so⟩ := by
  obtain ⟨trx, htrx, h⟩ := clckTick_ok h
  refine .step ?_
  cases hrun : trx.running with
  | false =>
    rw [hrun, if_neg Bool.false_ne_true] at h
    obtain ⟨rfl, rfl, rfl⟩ := h
    simp only [clockStep, htrx, hrun, Bool.false_eq_true, not_false_eq_true, if_true, List.append_nil, Nat.add_zero]
    exact .refl _
  | true =>
    rw [hrun, if_pos rfl] at h
    obtain ⟨hgo, rfl⟩ := h
    obtain ⟨D, hr, hn⟩ :=
      emit_run fn j (trx.txQueue.filter (fun m => classify fn m == .stale)) js st so _ _ [] w' ds out hgo
    rw [List.nil_append] at hr
    subst hr
    simp only [clockStep, htrx, hrun, not_true_eq_false, if_false]
    exact .step (by simp only [clockStep, htrx]; exact hn.trans (drop_run ..))

/-- the `clck_handler` loop -/
theorem tick_go_run (fn : Nat) (so : List Dgram) : ∀ (js : List Nat) (w : World) (acc : List Dgram) (st : Nat),
    w.clkSrc = some fn → (tick.go fn w acc st js).exc = none →
    Runs ⟨w, .next fn js, acc, st, so⟩
      ⟨(tick.go fn w acc st js).world, .idle, (tick.go fn w acc st js).out, (tick.go fn w acc st js).stale, so⟩ := by
  intro js
  induction js with
  | nil => intro w acc st hs _; exact .step (by simp only [clockStep, tick.go, hs]; exact .refl _)
  | cons j js ih =>
    intro w acc st hs hx
    simp only [tick.go] at hx ⊢
    split at hx
    · cases hx
    next w2 ds s2 hc =>
    exact (clckTick_run hc js acc st so).trans (ih w2 _ _ ((clckTick_queue hc).1.1.trans hs) hx)

/-- Refinement: a tick of the clock thread that is not interleaved with socket operations and that no
exception leaves is exactly `World.tick` — same world, same datagrams, same number of stale
reports. -/
theorem tick_run {w : World} (hx : (tick w).exc = none) (so : List Dgram) :
    Runs ⟨w, .idle, [], 0, so⟩ ⟨(tick w).world, .idle, (tick w).out, (tick w).stale, so⟩ := by
  cases hr : w.clkRunning with
  | false => rw [tick_stopped hr]; exact .refl _
  | true =>
    cases hs : w.clkSrc with
    | none => simp [tick, hr, hs] at hx
    | some fn =>
      rw [tick_eq_go hr hs] at hx ⊢
      refine .step ?_
      simp only [clockStep, hr, hs, not_true_eq_false, if_false, List.nil_append]
      exact tick_go_run fn so _ w _ 0 hs hx

/-! ### the recipient loop of `forward_msg`: the reads (`fwd-read`) and the call (`fwd-handle`) -/

theorem trans_hdr {m : Trxd.TxMsg} {v : Int} {rx : Trxd.RxMsg} (h : m.trans (some v) = .ok rx) :
    rx.ver = v ∧ rx.fn = m.fn ∧ rx.tn = m.tn := by
  unfold Trxd.TxMsg.trans at h
  dsimp only at h
  split at h
  · split at h
    · cases h
    · injection h with h; rw [← h]; exact ⟨rfl, rfl, rfl⟩
  · injection h with h; rw [← h]; exact ⟨rfl, rfl, rfl⟩

/-- what the reads of one iteration of the recipient loop decide: recipient `k` is served iff it is
another transceiver, it is running, its Rx frequency for the burst's frame is the sender's Tx
frequency; the message is translated with the header version `k` has at that moment -/
theorem fwdRead_some_iff (w : World) (j mfn k : Nat) (msg : Trxd.TxMsg) (txFreq : Option Int) (rx : Trxd.RxMsg) :
    fwdRead w j msg mfn txFreq k = .ok (some rx) ↔
      k ≠ j ∧ ∃ trx, w.trxs[k]? = some trx ∧ trx.running = true ∧ trx.getRxFreq mfn = .ok txFreq ∧
        msg.trans (some trx.hdrVer) = .ok rx := by
  unfold fwdRead
  by_cases hkj : k = j
  · simp [hkj]
  rw [if_neg hkj]
  cases htrx : w.trxs[k]? with
  | none => simp
  | some trx =>
    simp only [Option.some.injEq, exists_eq_left', ne_eq, hkj, not_false_eq_true, true_and]
    by_cases hrun : trx.running = true
    · simp only [hrun, not_true_eq_false, if_false, true_and]
      cases hrx : trx.getRxFreq mfn with
      | error e => simp
      | ok rxf =>
        simp only [Except.ok.injEq]
        by_cases hf : rxf = txFreq
        · subst hf
          simp only [not_true_eq_false, if_false, true_and]
          cases htr : msg.trans (some trx.hdrVer) with
          | error e => simp
          | ok rx' => simp
        · simp [hf]
    · simp [hrun]

theorem act_sock_keeps {s : State} {a : Act} (h : a ≠ Act.clk) :
    (act s a).pc = s.pc ∧ (act s a).out = s.out ∧ (act s a).stale = s.stale := by
  cases a with
  | clk => exact absurd rfl h
  | ctrl i sp d => exact ⟨rfl, rfl, rfl⟩
  | data i d => exact ⟨rfl, rfl, rfl⟩

theorem exec_sock_keeps : ∀ (xs : List Act) (s : State), (∀ a ∈ xs, a ≠ Act.clk) →
    (exec s xs).pc = s.pc ∧ (exec s xs).out = s.out ∧ (exec s xs).stale = s.stale := by
  intro xs
  induction xs with
  | nil => intro s _; exact ⟨rfl, rfl, rfl⟩
  | cons a xs ih =>
    intro s h
    obtain ⟨h1, h2, h3⟩ := ih (act s a) (fun b hb => h b (List.mem_cons_of_mem _ hb))
    obtain ⟨g1, g2, g3⟩ := act_sock_keeps (s := s) (h a List.mem_cons_self)
    exact ⟨h1.trans g1, h2.trans g2, h3.trans g3⟩

/-- the `fwd-read` action: the next control state is decided by `fwdRead`, nothing else changes -/
theorem clockStep_fwd (s : State) {fn j mfn k : Nat} {msg : Trxd.TxMsg} {txFreq : Option Int} {ks : List Nat}
    {emit drop : List Trxd.TxMsg} {js : List Nat}
    (hpc : s.pc = Pc.fwd fn j msg mfn txFreq (k :: ks) emit drop js) :
    clockStep s = { s with pc :=
      (match fwdRead s.w j msg mfn txFreq k with
       | .error e => Pc.dead e
       | .ok none => Pc.fwd fn j msg mfn txFreq ks emit drop js
       | .ok (some rx) => Pc.hdl fn j msg mfn txFreq k rx ks emit drop js) } := by
  obtain ⟨w, pc, out, stale, sout⟩ := s
  simp only at hpc
  subst hpc
  simp only [clockStep]
  split <;> simp_all

/-- the `fwd-handle` action: `handle_data_msg` of recipient `k` with the message translated earlier -/
theorem clockStep_hdl (s : State) {fn j mfn k : Nat} {msg : Trxd.TxMsg} {txFreq : Option Int} {rx : Trxd.RxMsg}
    {ks : List Nat} {emit drop : List Trxd.TxMsg} {js : List Nat}
    (hpc : s.pc = Pc.hdl fn j msg mfn txFreq k rx ks emit drop js) :
    clockStep s =
      match handleDataMsg s.w k j msg rx with
      | .error e => { s with pc := Pc.dead e }
      | .ok (w, ds) => { s with w := w, out := s.out ++ ds, pc := Pc.fwd fn j msg mfn txFreq ks emit drop js } := by
  obtain ⟨w, pc, out, stale, sout⟩ := s
  simp only at hpc
  subst hpc
  simp only [clockStep]
  split <;> simp_all

/-! ### concrete schedules for the non-vacuity examples of Props/C03 -/

/-- the demo world with the clock thread between two ticks -/
def demoState (c : Nat) : State := { w := demoWorld c }
/-- the three demo bursts (due / passed / ahead) arriving at transceiver 0 -/
def demoArrivalActs : List Act := [.data 0 (demoBurst 100), .data 0 (demoBurst 90), .data 0 (demoBurst 110)]
/-- `n` consecutive actions of the clock thread -/
def clks (n : Nat) : List Act := List.replicate n Act.clk
/-- the TRXC datagram `CMD RXTUNE 890000` (retunes a receiver away from the demo sender's 935 MHz) -/
def demoRxtune : List Nat := PyStr.encodeUtf8 (PyStr.lit "CMD RXTUNE 890000\x00")

end OsmoVerif.World.Sched
