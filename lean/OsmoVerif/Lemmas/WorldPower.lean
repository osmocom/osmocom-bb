/-
C12 (power state, child transceivers, clock distribution): every operation that is not a POWERON /
POWEROFF command is a frame operation (`Frame`, `FrameC`); the two power commands are
`powered` with their literal replies; the wiring invariant reads nothing but the wiring.
-/
import OsmoVerif.Lemmas.WorldStep
import OsmoVerif.Spec.WorldPower

namespace OsmoVerif.WorldPower
open OsmoVerif OsmoVerif.World OsmoVerif.PyStr

/-! ### frame: what data datagrams, ticks, jumps and non-power commands leave alone -/

/-- `w'` differs from `w` at most in non-wiring, non-power, non-clock state -/
structure Frame (w w' : World) : Prop where
  hwiring : w'.trxs.map wiring = w.trxs.map wiring
  hrunning : w'.trxs.map Trx.running = w.trxs.map Trx.running
  hlinks : w'.clkLinks = w.clkLinks
  hclk : w'.clkRunning = w.clkRunning
  hsrc : w'.clkSrc = w.clkSrc

theorem Frame.refl (w : World) : Frame w w := ⟨rfl, rfl, rfl, rfl, rfl⟩

theorem Frame.trans {a b c : World} (h1 : Frame a b) (h2 : Frame b c) : Frame a c :=
  ⟨h2.hwiring.trans h1.hwiring, h2.hrunning.trans h1.hrunning, h2.hlinks.trans h1.hlinks,
   h2.hclk.trans h1.hclk, h2.hsrc.trans h1.hsrc⟩

theorem Frame.length {w w' : World} (h : Frame w w') : w'.trxs.length = w.trxs.length :=
  length_of_map_eq _ h.hwiring

theorem Frame.setTrx (w : World) (i : Nat) (f : Trx → Trx)
    (hw : ∀ t, wiring (f t) = wiring t) (hr : ∀ t, (f t).running = t.running) :
    Frame w (setTrx w i f) :=
  ⟨map_modify_eq _ _ hw _ _, map_modify_eq Trx.running _ hr _ _, rfl, rfl, rfl⟩

theorem Frame.setTrx_patch (w : World) (i : Nat) (p : Patch) : Frame w (World.setTrx w i p.apply) := by
  apply Frame.setTrx
  · intro t; simp only [wiring, Patch.apply_addr, Patch.apply_basePort, Patch.apply_childIdx,
      Patch.apply_childMgt, Patch.apply_hasClock, Patch.apply_children]
  · intro t; exact Patch.apply_running p t

theorem Frame.drawK (w : World) (k : Nat) : Frame w { w with drawK := k } := ⟨rfl, rfl, rfl, rfl, rfl⟩

theorem getElem?_of_views {w w' : World} (hw : w'.trxs.map wiring = w.trxs.map wiring)
    (hr : w'.trxs.map Trx.running = w.trxs.map Trx.running) {k : Nat} {t' : Trx}
    (ht : w'.trxs[k]? = some t') :
    ∃ t, w.trxs[k]? = some t ∧ wiring t = wiring t' ∧ t.running = t'.running := by
  obtain ⟨t, h1, e1⟩ := getElem?_some_of_map_eq wiring hw ht
  obtain ⟨t2, h2, e2⟩ := getElem?_some_of_map_eq Trx.running hr ht
  cases h1.symm.trans h2
  exact ⟨t, h1, e1, e2⟩

theorem Frame.runningOf {w w' : World} (h : Frame w w') (k : Nat) : runningOf w' k = runningOf w k :=
  getElem?_of_map_eq Trx.running h.hrunning k

theorem Frame.of_burst {w w' : World} (h : BurstFrame w w') : Frame w w' :=
  ⟨h.static.map wiring (fun _ _ => rfl), h.static.map Trx.running (fun _ _ => rfl), h.clkLinks,
   h.clkRunning, h.clkSrc⟩

/-! ### equal wiring -/

theorem wiring_eq_iff (t t' : Trx) : wiring t = wiring t' ↔
    t.addr = t'.addr ∧ t.basePort = t'.basePort ∧ t.childIdx = t'.childIdx ∧ t.childMgt = t'.childMgt ∧
    t.hasClock = t'.hasClock ∧ t.children = t'.children := by
  simp only [wiring, Prod.mk.injEq]

/-- `r` with the wiring of `t` -/
def reWire (t r : Trx) : Trx :=
  { r with addr := t.addr, basePort := t.basePort, childIdx := t.childIdx, childMgt := t.childMgt,
           hasClock := t.hasClock, children := t.children }

theorem eq_reWire {t r : Trx} (h : wiring t = wiring r) : r = reWire t r := by
  cases r
  obtain ⟨rfl, rfl, rfl, rfl, rfl, rfl⟩ := (wiring_eq_iff _ _).mp h
  rfl

/-! ### data datagrams -/

theorem IsDataDgram.of_frame {w w' : World} (h : Frame w w') {d : Dgram} (hd : IsDataDgram w' d) :
    IsDataDgram w d := by
  obtain ⟨t', ht', hp⟩ := hd
  obtain ⟨k, hk⟩ := List.getElem?_of_mem ht'
  obtain ⟨t, ht, hw, -⟩ := getElem?_of_views h.hwiring h.hrunning hk
  rw [eq_reWire hw] at hp
  exact ⟨t, List.mem_of_getElem? ht, hp⟩

theorem IsDataDgram.of_fromData {w : World} {ds : List Dgram} (h : FromData w ds) :
    ∀ d ∈ ds, IsDataDgram w d := by
  intro d hd
  obtain ⟨i, t, b, ht, rfl⟩ := h d hd
  exact ⟨t, List.mem_of_getElem? ht, rfl, rfl, rfl⟩

/-! ### burst path: `clckTick` and `tick` are frame operations -/

theorem clckTick_post {w w' : World} {j fn : Nat} {ds : List Dgram} {st : Nat}
    (h : clckTick w j fn = .ok (w', ds, st)) : Frame w w' ∧ ∀ d ∈ ds, IsDataDgram w d := by
  obtain ⟨t, -, hd, hf⟩ := clckTick_frame h
  refine ⟨?_, IsDataDgram.of_fromData hd⟩
  split at hf
  · refine Frame.trans ?_ (Frame.of_burst hf)
    exact Frame.setTrx _ _ _ (fun _ => rfl) (fun _ => rfl)
  · exact Frame.of_burst hf

/-- frame up to the clock counter: `clkSrc` may change but stays defined -/
structure FrameC (w w' : World) : Prop where
  hwiring : w'.trxs.map wiring = w.trxs.map wiring
  hrunning : w'.trxs.map Trx.running = w.trxs.map Trx.running
  hlinks : w'.clkLinks = w.clkLinks
  hclk : w'.clkRunning = w.clkRunning
  hsrc : w.clkSrc.isSome → w'.clkSrc.isSome

theorem Frame.toC {w w' : World} (h : Frame w w') : FrameC w w' :=
  ⟨h.hwiring, h.hrunning, h.hlinks, h.hclk, fun hs => by rw [h.hsrc]; exact hs⟩

theorem FrameC.refl (w : World) : FrameC w w := (Frame.refl w).toC

theorem FrameC.length {w w' : World} (h : FrameC w w') : w'.trxs.length = w.trxs.length :=
  length_of_map_eq _ h.hwiring

theorem FrameC.runningOf {w w' : World} (h : FrameC w w') (k : Nat) : runningOf w' k = runningOf w k :=
  getElem?_of_map_eq Trx.running h.hrunning k

/-- what `tick.go` returns, in terms of the world it starts from -/
def TickPost (w : World) (fn : Nat) (acc : List Dgram) (r : Res) : Prop :=
  ∃ w1 extra, Frame w w1 ∧ r.out = acc ++ extra ∧ (∀ d ∈ extra, IsDataDgram w d) ∧
    ((r.exc = none ∧ r.world = { w1 with clkSrc := some ((fn + 1) % Gen.World.hyperframe) }) ∨
     (∃ e, r.exc = some e ∧ r.world = w1))

theorem tick_go_post (fn : Nat) (ks : List Nat) :
    ∀ (w : World) (acc : List Dgram) (stale : Nat), TickPost w fn acc (tick.go fn w acc stale ks) := by
  induction ks with
  | nil =>
    intro w acc stale
    rw [tick.go.eq_1]
    exact ⟨w, [], Frame.refl w, (List.append_nil _).symm, (fun _ h => by cases h), .inl ⟨rfl, rfl⟩⟩
  | cons k ks ih =>
    intro w acc stale
    rw [tick.go.eq_2]
    split
    next e he =>
      exact ⟨w, [], Frame.refl w, (List.append_nil _).symm, (fun _ h => by cases h), .inr ⟨e, rfl, rfl⟩⟩
    next w1 ds st hh =>
      obtain ⟨f, hds⟩ := clckTick_post hh
      obtain ⟨w2, extra2, f2, ho, hd2, hw⟩ := ih w1 (acc ++ ds) (stale + st)
      refine ⟨w2, ds ++ extra2, f.trans f2, by rw [ho, List.append_assoc], ?_, hw⟩
      intro d hd
      rcases List.mem_append.mp hd with hd | hd
      · exact hds d hd
      · exact (hd2 d hd).of_frame f

theorem TickPost.frameC {w : World} {fn : Nat} {acc : List Dgram} {r : Res} (h : TickPost w fn acc r) :
    FrameC w r.world := by
  obtain ⟨w1, extra, f, -, -, hw⟩ := h
  rcases hw with ⟨-, hw⟩ | ⟨e, -, hw⟩
  · rw [hw]; exact ⟨f.hwiring, f.hrunning, f.hlinks, f.hclk, fun _ => rfl⟩
  · rw [hw]; exact f.toC

/-- the model's list of clock indications at a tick -/
def modelInds (w : World) (fn : Nat) : List Dgram :=
  if fn % Gen.World.indPeriod = 0 then
    w.clkLinks.filterMap (fun i => (w.trxs[i]?).map (fun t =>
      ⟨t.clckPort, t.addr, t.clckRemote, encodeUtf8 (lit "IND CLOCK " ++ natDigits fn ++ [0])⟩))
  else []

theorem tick_frameC (w : World) : FrameC w (tick w).world := by
  cases hr : w.clkRunning with
  | false => rw [tick_stopped hr]; exact FrameC.refl w
  | true =>
    cases hs : w.clkSrc with
    | none => rw [tick_nosrc hs]; exact FrameC.refl w
    | some fn =>
      rw [tick_eq_go hr hs]
      exact (tick_go_post _ _ _ _ _).frameC

theorem jump_frameC (w : World) (fn : Nat) : FrameC w (jump w fn).world := by
  unfold jump
  split
  · exact ⟨rfl, rfl, rfl, rfl, fun _ => rfl⟩
  · exact FrameC.refl w

theorem recvDataMsg_frame (w : World) (i : Nat) (d : List Nat) : Frame w (recvDataMsg w i d).world := by
  cases ht : w.trxs[i]? with
  | none => simp only [recvDataMsg, ht]; exact Frame.refl w
  | some t =>
    rw [recvDataMsg_eq d ht]
    split
    · exact Frame.refl w
    · split
      · exact Frame.refl w
      · split
        · exact Frame.refl w
        · exact Frame.setTrx _ _ _ (fun _ => rfl) (fun _ => rfl)

/-! ### TRXC: every command but POWERON / POWEROFF is a frame operation -/

theorem applyPatch_frame (w : World) (i : Nat) (p : Option Patch) : Frame w (applyPatch w i p) := by
  cases p with
  | none => exact Frame.refl w
  | some p => exact Frame.setTrx_patch _ _ _

theorem _root_.OsmoVerif.World.ActionStep.frame {w w' : World} {i : Nat} {a : Action} (h : ActionStep i w a w')
    (ha : ∀ on, a ≠ .power on) : Frame w w' := by
  cases h with
  | patch p rc => exact Frame.setTrx_patch _ _ _
  | reply rc ps => exact Frame.refl _
  | power on trx ht => exact absurd rfl (ha on)
  | measure f => exact Frame.drawK _ _

theorem handleReq_other {w : World} {i : Nat} {trx : Trx} (a sp : Nat) {req : List Str}
    (h1 : req ≠ [lit "POWERON"]) (h2 : req ≠ [lit "POWEROFF"]) :
    Frame w (handleReq w i trx a sp req).world := by
  rw [handleReq_world]
  split
  next w' r hp =>
    obtain ⟨p, -, -, rfl | ⟨trx', act, -, hc, hs⟩⟩ := parseCmd_ok_cases hp
    · exact applyPatch_frame w i p
    · refine (applyPatch_frame w i p).trans (hs.frame fun on hon => ?_)
      subst hon
      cases commonCmd_out hc
      cases on
      · exact h2 rfl
      · exact h1 rfl
  · exact Frame.refl w

theorem handleRx_ctrlRequest {w : World} {i : Nat} {trx : Trx} (hw : w.trxs[i]? = some trx)
    (a sp : Nat) (d : List Nat) :
    handleRx w i a sp d =
      match ctrlRequest d with
      | none => { world := w }
      | some req => handleReq w i trx a sp req := by
  rw [handleRx_eq hw]
  unfold ctrlRequest
  cases decodeUtf8 (List.take Gen.World.ctrlRecvSize d) with
  | none => rfl
  | some s =>
    simp only []
    split <;> rfl

/-! ### POWERON / POWEROFF through `handle_rx` -/

theorem mem_powerList_iff {w : World} {i : Nat} {self : Trx} (hw : w.trxs[i]? = some self) (k : Nat) :
    k ∈ powerList self i ↔ affects w i k = true := by
  rw [mem_powerList]
  simp only [affects, hw, Bool.or_eq_true, beq_iff_eq, Bool.and_eq_true, List.contains_iff_mem,
    and_assoc]

theorem powered_affects {w : World} {i : Nat} {self : Trx} (hw : w.trxs[i]? = some self)
    (on : Bool) (k : Nat) :
    (powered w i self on).trxs[k]? =
      if affects w i k then (w.trxs[k]?).map (powerUpd on) else w.trxs[k]? := by
  rw [powered_getElem?]
  by_cases h : affects w i k = true
  · rw [if_pos ((mem_powerList_iff hw k).mpr h), if_pos h]
  · rw [if_neg (fun hm => h ((mem_powerList_iff hw k).mp hm)), if_neg h]

theorem powerUpd_wiring (on : Bool) (t : Trx) : wiring (powerUpd on t) = wiring t := by
  cases on <;> rfl

theorem powered_wiring (w : World) (i : Nat) (self : Trx) (on : Bool) :
    (powered w i self on).trxs.map wiring = w.trxs.map wiring := by
  rw [powered_trxs]
  unfold powerSet
  generalize powerList self i = l
  induction l generalizing w with
  | nil => rfl
  | cons j l ih => rw [List.foldl_cons, ih]; exact map_modify_eq _ _ (powerUpd_wiring on) _ _

/-- the replies of the protocol text are what `send_response` builds for the two power commands -/
theorem rsp_octets :
    encodeUtf8 (rspText [lit "POWERON"] 0 []) = rspPowerOnOk ∧
    encodeUtf8 (rspText [lit "POWERON"] (-1) []) = rspPowerOnFail ∧
    encodeUtf8 (rspText [lit "POWEROFF"] 0 []) = rspPowerOffOk := by decide +kernel

theorem handleReq_poweron {w : World} {i : Nat} {trx : Trx} (hw : w.trxs[i]? = some trx) (a sp : Nat) :
    handleReq w i trx a sp [lit "POWERON"] =
      if accepted w i then
        { world := powered w i trx true, out := [⟨trx.ctrlPort, a, sp, rspPowerOnOk⟩] }
      else { world := w, out := [⟨trx.ctrlPort, a, sp, rspPowerOnFail⟩] } := by
  unfold handleReq accepted
  rw [parseCmd_poweron hw, hw]
  cases hr : trx.running <;> cases hy : trx.ready <;> simp [hr, hy, rsp_octets.1, rsp_octets.2.1]

theorem handleReq_poweroff {w : World} {i : Nat} {trx : Trx} (hw : w.trxs[i]? = some trx) (a sp : Nat) :
    handleReq w i trx a sp [lit "POWEROFF"] =
      { world := powered w i trx false, out := [⟨trx.ctrlPort, a, sp, rspPowerOffOk⟩] } := by
  unfold handleReq
  rw [parseCmd_poweroff hw]
  simp only [rsp_octets.2.2]

/-! ### classification of `step` -/

theorem powerCmd_some {op : Op} {j : Nat} {on : Bool} (h : powerCmd op = some (j, on)) :
    ∃ sp d, op = .ctrl j sp d ∧
      ctrlRequest d = some [if on then lit "POWERON" else lit "POWEROFF"] := by
  cases op with
  | ctrl i sp d =>
    simp only [powerCmd] at h
    split at h
    next v hv =>
      split at h
      next h1 => cases h; exact ⟨sp, d, rfl, by rw [hv, h1]; rfl⟩
      next h1 =>
        split at h
        next h2 => cases h; exact ⟨sp, d, rfl, by rw [hv, h2]; rfl⟩
        · cases h
    · cases h
  | data i d => cases h
  | tick => cases h
  | jump fn => cases h

theorem powerCmd_ctrl_none {i sp : Nat} {d : List Nat} (h : powerCmd (.ctrl i sp d) = none) :
    ∀ req, ctrlRequest d = some req → req ≠ [lit "POWERON"] ∧ req ≠ [lit "POWEROFF"] := by
  intro req hr
  simp only [powerCmd, hr] at h
  constructor <;> rintro rfl <;> cases h

theorem step_ctrl {w : World} {i : Nat} {t : Trx} (hw : w.trxs[i]? = some t) (sp : Nat) (d : List Nat) :
    step w (.ctrl i sp d) =
      match ctrlRequest d with
      | none => { world := w }
      | some req => handleReq w i t t.addr sp req := by
  simp only [step]
  rw [hw]
  exact handleRx_ctrlRequest hw _ _ _

theorem step_ctrl_missing {w : World} {i : Nat} (hw : w.trxs[i]? = none) (sp : Nat) (d : List Nat) :
    step w (.ctrl i sp d) = { world := w, exc := some .indexError } := by
  simp only [step]
  rw [hw]

theorem step_no_power {w : World} {op : Op} (h : powerCmd op = none) : FrameC w (step w op).world := by
  cases op with
  | ctrl i sp d =>
    cases hw : w.trxs[i]? with
    | none => rw [step_ctrl_missing hw]; exact FrameC.refl w
    | some t =>
      rw [step_ctrl hw]
      cases hr : ctrlRequest d with
      | none => exact FrameC.refl w
      | some req =>
        obtain ⟨h1, h2⟩ := powerCmd_ctrl_none h req hr
        exact (handleReq_other _ _ h1 h2).toC
  | data i d => exact (recvDataMsg_frame w i d).toC
  | tick => exact tick_frameC w
  | jump fn => exact jump_frameC w fn

theorem step_poweron {w : World} {op : Op} {j : Nat} {t : Trx} (h : powerCmd op = some (j, true))
    (hw : w.trxs[j]? = some t) :
    ∃ sp d, op = .ctrl j sp d ∧ step w op =
      if accepted w j then
        { world := powered w j t true, out := [⟨t.ctrlPort, t.addr, sp, rspPowerOnOk⟩] }
      else { world := w, out := [⟨t.ctrlPort, t.addr, sp, rspPowerOnFail⟩] } := by
  obtain ⟨sp, d, rfl, hr⟩ := powerCmd_some h
  refine ⟨sp, d, rfl, ?_⟩
  rw [step_ctrl hw, hr]
  exact handleReq_poweron hw _ _

theorem step_poweroff {w : World} {op : Op} {j : Nat} {t : Trx} (h : powerCmd op = some (j, false))
    (hw : w.trxs[j]? = some t) :
    ∃ sp d, op = .ctrl j sp d ∧ step w op =
      { world := powered w j t false, out := [⟨t.ctrlPort, t.addr, sp, rspPowerOffOk⟩] } := by
  obtain ⟨sp, d, rfl, hr⟩ := powerCmd_some h
  refine ⟨sp, d, rfl, ?_⟩
  rw [step_ctrl hw, hr]
  exact handleReq_poweroff hw _ _

/-! ### the world after a power command -/

/-- the world after `power_event_handler(on)` of transceiver `j` (none: nothing changes) -/
def powerAt (w : World) (j : Nat) (on : Bool) : World :=
  match w.trxs[j]? with
  | some t => powered w j t on
  | none => w

theorem step_power_world {w : World} {op : Op} {j : Nat} {on : Bool} (h : powerCmd op = some (j, on)) :
    (step w op).world = if on = false ∨ accepted w j = true then powerAt w j on else w := by
  obtain ⟨sp, d, rfl, hr⟩ := powerCmd_some h
  cases hw : w.trxs[j]? with
  | none => simp only [powerAt, hw, step_ctrl_missing hw, ite_self]
  | some t =>
    simp only [powerAt, hw]
    cases on with
    | true =>
      obtain ⟨_, _, _, hs⟩ := step_poweron h hw
      rw [hs]
      cases accepted w j <;> rfl
    | false =>
      obtain ⟨_, _, _, hs⟩ := step_poweroff h hw
      rw [hs, if_pos (.inl rfl)]

theorem powerAt_getElem? (w : World) (j : Nat) (on : Bool) (k : Nat) :
    (powerAt w j on).trxs[k]? = if affects w j k then (w.trxs[k]?).map (powerUpd on) else w.trxs[k]? := by
  cases hw : w.trxs[j]? with
  | some t => simp only [powerAt, hw]; exact powered_affects hw on k
  | none =>
    simp only [powerAt, hw]
    by_cases ha : affects w j k = true
    · have : k = j := by simpa [affects, hw] using ha
      rw [if_pos ha, this, hw]; rfl
    · rw [if_neg ha]

theorem powerAt_wiring (w : World) (j : Nat) (on : Bool) : (powerAt w j on).trxs.map wiring = w.trxs.map wiring := by
  unfold powerAt
  split
  · exact powered_wiring _ _ _ _
  · rfl

/-! ### the wiring invariant depends on the wiring only -/

/-- the wiring invariant reads nothing but the wiring: an entry of `ts'` is the entry of `ts` but
for the other fields (`fwd`), and back (`bwd`) -/
theorem WFT.of_wiring {ts ts' : List Trx} (h : ts'.map wiring = ts.map wiring) (wf : WFT ts) : WFT ts' := by
  have hl : ts'.length = ts.length := length_of_map_eq _ h
  have fwd : ∀ {i : Nat} {t' : Trx}, ts'[i]? = some t' → ∃ t, ts[i]? = some t ∧ ∃ r, t' = reWire t r :=
    fun ht' => by
      obtain ⟨t, ht, hw⟩ := getElem?_some_of_map_eq wiring h ht'
      exact ⟨t, ht, _, eq_reWire hw⟩
  have bwd : ∀ {i : Nat} {t : Trx}, ts[i]? = some t → ∃ r, ts'[i]? = some (reWire t r) := fun ht => by
    obtain ⟨t', ht', hw⟩ := getElem?_some_of_map_eq wiring h.symm ht
    exact ⟨t', ht'.trans (congrArg some (eq_reWire hw.symm))⟩
  constructor
  · intro i hi t' ht' c hc
    obtain ⟨t, ht, r, rfl⟩ := fwd ht'
    obtain ⟨tc, htc, h⟩ := wf.child_ok i (hl ▸ hi) t ht c hc
    obtain ⟨_, htc'⟩ := bwd htc
    exact ⟨_, htc', h⟩
  · intro i hi t' ht'
    obtain ⟨t, ht, r, rfl⟩ := fwd ht'
    exact wf.parent_ok i (hl ▸ hi) t ht
  · intro i hi t' ht'
    obtain ⟨t, ht, r, rfl⟩ := fwd ht'
    exact wf.clock_iff i (hl ▸ hi) t ht
  · intro c hc tc' htc' hpos
    obtain ⟨tc, htc, r, rfl⟩ := fwd htc'
    obtain ⟨p, hp, tp, htp, h⟩ := wf.child_has_parent c (hl ▸ hc) tc htc hpos
    obtain ⟨_, htp'⟩ := bwd htp
    exact ⟨p, hl ▸ hp, _, htp', h⟩
  · intro i hi j hj ti' hti' tj' htj'
    obtain ⟨ti, hti, _, rfl⟩ := fwd hti'
    obtain ⟨tj, htj, _, rfl⟩ := fwd htj'
    exact wf.one_parent i (hl ▸ hi) j (hl ▸ hj) ti hti tj htj
  · intro i hi t' ht'
    obtain ⟨t, ht, r, rfl⟩ := fwd ht'
    exact wf.children_nodup i (hl ▸ hi) t ht
  · intro i hi j hj ti' hti' tj' htj'
    obtain ⟨ti, hti, _, rfl⟩ := fwd hti'
    obtain ⟨tj, htj, _, rfl⟩ := fwd htj'
    exact wf.distinct i (hl ▸ hi) j (hl ▸ hj) ti hti tj htj
  · obtain ⟨t, ht, h⟩ := wf.bts
    obtain ⟨_, ht'⟩ := bwd ht
    exact ⟨_, ht', h⟩
  · obtain ⟨t, ht, h⟩ := wf.ms
    obtain ⟨_, ht'⟩ := bwd ht
    exact ⟨_, ht', h⟩

end OsmoVerif.WorldPower
