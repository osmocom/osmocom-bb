/- C16: decoding the encoding of an in-range value returns the value (all field kinds, any nesting). -/
import OsmoVerif.Lemmas.CodecInt
import OsmoVerif.Lemmas.CodecBits
import OsmoVerif.Lemmas.CodecCore
namespace OsmoVerif.Codec

/-- round trip of one present field inside an envelope whose dict is `pre ++ c ++ post` -/
def FieldRT (f : FDef) : Prop :=
  ∀ (pre c post : Vals) (rest L : Nat) (tail : List Nat),
    wfField f = true → getPres f.pres pre = .ok true → inRangeField f pre c rest = some L →
    tail.length = rest →
    ∃ bytes, fieldTo f (pre ++ c ++ post) = .ok bytes ∧ bytes.length = L
      ∧ fieldFrom f pre (bytes ++ tail) = .ok (pre ++ c, L)

def EnvRT (fs : List FDef) : Prop :=
  ∀ (pre rst post : Vals) (R L : Nat) (tail : List Nat),
    wfFields fs = true → inRangeFields fs pre rst R = some L → tail.length = R →
    ∃ bytes, envTo fs (pre ++ rst ++ post) = .ok bytes ∧ bytes.length = L
      ∧ envFrom fs pre (bytes ++ tail) 0 = .ok (pre ++ rst, L)

/-! ## the envelope loop -/

theorem envRT_nil : EnvRT [] := by
  intro pre rst post R L tail _ hr _
  obtain ⟨rfl, rfl⟩ := inRangeFields_nil.1 hr
  exact ⟨[], envTo_nil _, rfl, by rw [envFrom, List.append_nil]⟩

theorem envRT_cons {f : FDef} {fs : List FDef} (hf : FieldRT f) (ih : EnvRT fs) : EnvRT (f :: fs) := by
  intro pre rst post R L tail hw hr htl
  rw [wfFields, Bool.and_eq_true] at hw
  cases hp : getPres f.pres pre with
  | error e => rw [inRangeFields, hp] at hr; cases hr
  | ok b =>
    cases b with
    | false =>
      rw [inRangeFields_cons_absent hp] at hr
      obtain ⟨bytes, he, hl, hd⟩ := ih pre rst post R L tail hw.2 hr htl
      have hv : getPres f.pres (pre ++ rst ++ post) = .ok false := by
        rw [List.append_assoc]; exact getPres_append _ _ _ _ hp
      obtain ⟨a1, a2⟩ := field_absent f hw.1 pre (pre ++ rst ++ post) (bytes ++ tail) hp hv
      refine ⟨bytes, envTo_cons_ok a1 he, hl, ?_⟩
      rw [envFrom_cons, a2]
      simp only [List.drop_zero, hd, Nat.zero_add]
    | true =>
      obtain ⟨l, lr, hrs, hrf, rfl⟩ := (inRangeFields_cons_present hp).1 hr
      -- `rst = c ++ r'` with `c` what `f` stores
      have hsplit := List.take_append_drop f.nStored rst
      generalize rst.take f.nStored = c at hrs hrf hsplit
      generalize rst.drop f.nStored = r' at hrs hsplit
      subst hsplit
      obtain ⟨br, he, hl, hd⟩ := ih (pre ++ c) r' post R lr tail hw.2 hrs htl
      obtain ⟨bf, hfe, hfl, hfd⟩ := hf pre c (r' ++ post) (lr + R) l (br ++ tail) hw.1 hp hrf
        (by rw [List.length_append, hl, htl])
      have e : pre ++ (c ++ r') ++ post = pre ++ c ++ (r' ++ post) := by simp only [List.append_assoc]
      refine ⟨bf ++ br, ?_, by rw [List.length_append, hfl, hl], ?_⟩
      · rw [e]; refine envTo_cons_ok hfe ?_; rw [← e, ← List.append_assoc pre]; exact he
      · rw [envFrom_cons, List.append_assoc, hfd]
        simp only
        rw [← hfl, List.drop_left, hd, List.append_assoc]

/-! ## sequences -/

theorem seqRT (proc : List Nat → Except Err (Vals × Nat)) (enc : Vals → Except Err (List Nat))
    (chk : Vals → Nat → Option Nat)
    (H : ∀ (iv : Vals) (r l : Nat) (tail : List Nat), chk iv r = some l → tail.length = r →
        ∃ b, enc iv = .ok b ∧ b.length = l ∧ proc (b ++ tail) = .ok (iv, l))
    (items : List Val) (L : Nat) (h : inRangeItems chk items = some L) :
    ∃ bytes, seqEnc enc items = .ok bytes ∧ bytes.length = L ∧
      ∀ (p : List Nat) (acc : List Val) (fuel : Nat), fuel ≥ L →
        seqLoop proc fuel (p ++ bytes) p.length acc = .ok (acc ++ items) := by
  induction items generalizing L with
  | nil =>
    cases h
    exact ⟨[], rfl, rfl, fun p acc fuel _ => by
      rw [seqLoop_done (by rw [List.append_nil]; exact Nat.le_refl _), List.append_nil]⟩
  | cons it rest ih =>
    obtain ⟨iv, lr, l, rfl, hr, hc, hl1, rfl⟩ := inRangeItems_cons.1 h
    obtain ⟨br, her, hlr, hloop⟩ := ih lr hr
    obtain ⟨b, hb, hbl, hproc⟩ := H iv lr l br hc hlr
    refine ⟨b ++ br, by simp only [seqEnc, hb, her], by rw [List.length_append, hbl, hlr], ?_⟩
    intro p acc fuel hfuel
    obtain ⟨fuel, rfl⟩ : ∃ f', fuel = f' + 1 := ⟨fuel - 1, by omega⟩
    rw [seqLoop_step (by rw [List.length_append, List.length_append]; omega), List.drop_left, hproc]
    simp only
    rw [if_neg (by omega)]
    have := hloop (p ++ b) (acc ++ [.dict iv]) fuel (by omega)
    rwa [List.length_append, hbl, List.append_assoc, List.append_assoc] at this

/-! ## the field kinds -/

/-- the dict that an encoder sees agrees with the decoded prefix on presence -/
theorem getPres_mid {p : Pres} {pre : Vals} (c post : Vals) (hp : getPres p pre = .ok true) :
    getPres p (pre ++ c ++ post) = .ok true := by
  rw [List.append_assoc]; exact getPres_append _ _ _ _ hp

theorem fieldRT_int (name pres len bo sg off mult) : FieldRT (.int name pres len bo sg off mult) := by
  intro pre c post rest L tail hw hp hr htl
  obtain ⟨x, rfl, hnm, hex, hfit, rfl⟩ := inRangeField_int.1 hr
  simp only [wfField, Bool.and_eq_true, decide_eq_true_eq] at hw
  obtain ⟨hlen, hmult⟩ := hw
  have hbs := intToBytes_of_fits L bo sg _ hfit
  obtain ⟨hdec, hbl, _⟩ := intFromBytes_intToBytes _ _ _ _ _ hbs (fun _ => by omega)
  generalize bytesOf L bo _ = bs at hbs hdec hbl
  refine ⟨bs, ?_, hbl, ?_⟩
  · rw [fieldTo]
    refine fieldToCore_present (getPres_mid _ _ hp) ?_ (fun _ => hbl)
    simp only [intEnc, Vals.getInt, Vals.get_mid pre post name _ hnm, hmult, if_false]
    exact hbs
  · rw [fieldFrom]
    refine (fieldFromCore_present hp).2 ⟨by rw [if_neg (by omega)], by rw [List.length_append, hbl]; omega, ?_⟩
    rw [List.take_left' hbl, intDec, hdec, hex, Vals.set_of_not_mem _ _ _ hnm]

theorem fieldRT_buf (name pres ld) : FieldRT (.buf name pres ld) := by
  intro pre c post rest L tail _ hp hr htl
  obtain ⟨b, rfl, hnm, _, hgl, rfl⟩ := inRangeField_buf.1 hr
  refine ⟨b, ?_, rfl, ?_⟩
  · rw [fieldTo]
    refine fieldToCore_present (getPres_mid _ _ hp) ?_ (fun hs => selfLen_of_getLen hgl hs)
    simp only [Vals.getBytes, Vals.get_mid pre post name _ hnm]
  · rw [fieldFrom]
    refine (fieldFromCore_present hp).2 ⟨by rw [List.length_append, htl]; exact hgl, by simp, ?_⟩
    rw [List.take_left, Vals.set_of_not_mem _ _ _ hnm]

theorem fieldRT_spare (name pres ld filler) : FieldRT (.spare name pres ld filler) := by
  intro pre c post rest L tail hw hp hr htl
  obtain ⟨rfl, hg0, hgl⟩ := inRangeField_spare.1 hr
  simp only [wfField, Bool.and_eq_true, decide_eq_true_eq] at hw
  have hflen : (fillerBytes filler L).length = L := by rw [fillerBytes_length, hw.1, Nat.mul_one]
  refine ⟨fillerBytes filler L, ?_, hflen, ?_⟩
  · rw [fieldTo]
    refine fieldToCore_present (getPres_mid _ _ hp) ?_ (fun hs => by rw [hflen]; exact selfLen_of_getLen hg0 hs)
    have := getLen_append ld pre ([] ++ post) 0 L hg0
    rw [← List.append_assoc] at this
    simp only [this]
  · rw [fieldFrom]
    refine (fieldFromCore_present hp).2 ⟨by rw [List.length_append, hflen, htl]; exact hgl, by simp [hflen], ?_⟩
    rw [List.append_nil]

theorem fieldRT_bits (pres len little fs) : FieldRT (.bits pres len little fs) := by
  intro pre c post rest L tail hw hp hr htl
  obtain ⟨offs, hd, hir⟩ := inRangeField_bits.1 hr
  obtain ⟨e1, e2, e3⟩ := bits_roundtrip offs (L * 8) (pre ++ c ++ post) pre c 0 (bitsDerive_ok hd).2.1 hir
    (inRangeBits_get offs pre c post hir)
  have hbs := intToBytes_of_fits L .big false _ (packVals_fits L _ e2)
  obtain ⟨hdec, hbl, hib⟩ := intFromBytes_intToBytes _ _ _ _ _ hbs nofun
  generalize bytesOf L .big _ = bs at hbs hdec hbl hib
  refine ⟨bs, ?_, hbl, ?_⟩
  · simp only [fieldTo, hd]
    refine fieldToCore_present (getPres_mid _ _ hp) ?_ (fun _ => hbl)
    simp only [bitsEncBytes, e1, Nat.zero_or]
    exact hbs
  · simp only [fieldFrom, hd]
    refine (fieldFromCore_present hp).2 ⟨rfl, by rw [List.length_append, hbl]; omega, ?_⟩
    -- int.from_bytes(data, 'big') of the encoded blob is the blob
    have hu : leToNat bs.reverse = packVals offs c := by
      rw [intFromBytes_eq] at hdec
      simp only [Bool.false_eq_true, false_and, if_false, uOf] at hdec
      exact Int.ofNat_inj.mp hdec
    have := e3 0
    rw [Nat.zero_mul, Nat.zero_add] at this
    simp only [List.take_left' hbl, hu, this]

/-! ## nested envelopes and sequences, given the round trip of their members -/

theorem fieldRT_env (name pres ld cl fs) (hfs : EnvRT fs) : FieldRT (.env name pres ld cl fs) := by
  intro pre c post rest L tail hw hp hr htl
  obtain ⟨inner, rfl, hnm, hin, hgl⟩ := inRangeField_env.1 hr
  simp only [wfField, Bool.and_eq_true, decide_eq_true_eq] at hw
  obtain ⟨bytes, he, hl, hd⟩ := hfs [] inner [] 0 L [] hw.1.2 hin rfl
  simp only [List.nil_append, List.append_nil] at he hd
  refine ⟨bytes, ?_, hl, ?_⟩
  · rw [fieldTo]
    refine fieldToCore_present (getPres_mid _ _ hp) ?_ (fun hs => by rw [hl]; exact selfLen_of_getLen hgl hs)
    simp only [Vals.getDict, Vals.get_mid pre post name _ hnm, he]
  · rw [fieldFrom]
    refine (fieldFromCore_present hp).2
      ⟨by rw [List.length_append, hl, htl]; exact hgl, by rw [List.length_append, hl]; omega, ?_⟩
    rw [← hl, List.take_left, hd]
    simp only [tailCheck, hl, ne_eq, not_true_eq_false, and_false, if_false, Vals.set_of_not_mem _ _ _ hnm]

theorem fieldRT_seq (name pres ld item) (hitem : EnvRT item) : FieldRT (.seq name pres ld item) := by
  intro pre c post rest L tail hw hp hr htl
  obtain ⟨items, rfl, hnm, hin, hgl⟩ := inRangeField_seq.1 hr
  simp only [wfField, Bool.and_eq_true, decide_eq_true_eq] at hw
  obtain ⟨bytes, he, hl, hloop⟩ := seqRT (fun x => envFrom item [] x 0) (fun v => envTo item v)
    (fun iv r => inRangeFields item [] iv r)
    (fun iv r l tl h1 h2 => by
      obtain ⟨b, e1, e2, e3⟩ := hitem [] iv [] r l tl hw.1.1 h1 h2
      simp only [List.nil_append, List.append_nil] at e1 e3
      exact ⟨b, e1, e2, e3⟩) items L hin
  refine ⟨bytes, ?_, hl, ?_⟩
  · rw [fieldTo]
    refine fieldToCore_present (getPres_mid _ _ hp) ?_ (fun hs => by rw [hl]; exact selfLen_of_getLen hgl hs)
    simp only [Vals.getList, Vals.get_mid pre post name _ hnm, he]
  · rw [fieldFrom]
    refine (fieldFromCore_present hp).2
      ⟨by rw [List.length_append, hl, htl]; exact hgl, by rw [List.length_append, hl]; omega, ?_⟩
    have := hloop [] [] bytes.length (by omega)
    simp only [List.nil_append, List.length_nil] at this
    rw [← hl, List.take_left, this]
    simp only [Vals.set_of_not_mem _ _ _ hnm]

/-! ## every definition, any nesting depth -/

/-- by the induction principle of the definition language: fields, and lists of fields -/
theorem envRT (fs : List FDef) : EnvRT fs :=
  FDef.rec_1 (motive_1 := FieldRT) fieldRT_int fieldRT_buf fieldRT_spare fieldRT_bits fieldRT_env fieldRT_seq
    envRT_nil (fun _ _ => envRT_cons) fs

/-- The round trip of a whole definition with `tail` following the message: the value encodes, the encoding has
the declared length, and the field loop reads it back and stops in front of `tail`. -/
theorem roundtrip (d : EnvDef) (v : Vals) (tail : List Nat) (hw : wfFields d.fs = true)
    (hr : InRange d v tail.length) :
    ∃ b, toBytes d v = .ok b ∧ declLen d v tail.length = some b.length
      ∧ envFrom d.fs [] (b ++ tail) 0 = .ok (v, b.length) := by
  unfold InRange at hr
  cases hL : declLen d v tail.length with
  | none => rw [hL] at hr; cases hr
  | some L =>
    obtain ⟨b, he, hl, hd⟩ := envRT d.fs [] v [] tail.length L tail hw hL rfl
    rw [List.nil_append, List.append_nil] at he
    exact ⟨b, he, by rw [hl], by rw [hl]; exact hd⟩

end OsmoVerif.Codec
