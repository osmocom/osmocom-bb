/- C16: whatever decodes successfully is an in-range value whose declared length is the number of octets
consumed; for a definition without spare parts (no Spare fields, no spare or padding bits) re-encoding it
reproduces the consumed octets exactly (all field kinds, any nesting). -/
import OsmoVerif.Lemmas.CodecRT
namespace OsmoVerif.Codec

/-- what a present field decodes: it stores `c` behind `pre`, `c` is in range and declares the `k` octets
consumed; when the field has no spare parts, encoding any dict that continues `pre ++ c` gives back the
consumed octets -/
def FieldDI (f : FDef) : Prop :=
  ∀ (pre pre' : Vals) (data : List Nat) (k : Nat),
    wfField f = true → getPres f.pres pre = .ok true → Fresh f.storedNames pre →
    isBytes data = true → fieldFrom f pre data = .ok (pre', k) →
    ∃ c, pre' = pre ++ c ∧ c.length = f.nStored ∧ (∀ x ∈ c.keys, x ∈ f.storedNames) ∧ k ≤ data.length
      ∧ inRangeField f pre c (data.length - k) = some k
      ∧ (noSpareField f = true → ∀ post, fieldTo f (pre ++ c ++ post) = .ok (data.take k))

def EnvDI (fs : List FDef) : Prop :=
  ∀ (pre v' : Vals) (data : List Nat) (n : Nat),
    wfFields fs = true → Fresh (namesOf fs) pre → isBytes data = true →
    envFrom fs pre data 0 = .ok (v', n) →
    ∃ rst, v' = pre ++ rst ∧ n ≤ data.length ∧ inRangeFields fs pre rst (data.length - n) = some n
      ∧ (noSpareFields fs = true → ∀ post, envTo fs (pre ++ rst ++ post) = .ok (data.take n))

/-! ## the envelope loop -/

theorem envDI_nil : EnvDI [] := by
  intro pre v' data n _ _ _ h
  rw [envFrom] at h
  cases h
  exact ⟨[], (List.append_nil _).symm, Nat.zero_le _, inRangeFields_nil.2 ⟨rfl, rfl⟩, fun _ _ => envTo_nil _⟩

theorem envDI_cons {f : FDef} {fs : List FDef} (hf : FieldDI f) (ih : EnvDI fs) : EnvDI (f :: fs) := by
  intro pre v' data n hw hfr hib h
  rw [wfFields, Bool.and_eq_true] at hw
  rw [namesOf_cons] at hfr
  obtain ⟨p1, k, k', hff, hrest, rfl⟩ := envFrom_cons_ok h
  rcases fieldFrom_pres f hff with ⟨hp, rfl, rfl⟩ | hp
  · -- absent
    rw [List.drop_zero] at hrest
    obtain ⟨rst, e1, e2, e3, e4⟩ := ih p1 v' data k' hw.2 hfr.right hib hrest
    refine ⟨rst, e1, by omega, ?_, fun hs post => ?_⟩
    · rw [inRangeFields_cons_absent hp, Nat.zero_add]; exact e3
    · rw [noSpareFields, Bool.and_eq_true] at hs
      have hv : getPres f.pres (p1 ++ rst ++ post) = .ok false := by
        rw [List.append_assoc]; exact getPres_append _ _ _ _ hp
      have := envTo_cons_ok (field_absent f hw.1 p1 _ [] hp hv).1 (e4 hs.2 post)
      rwa [Nat.zero_add]
  · -- present
    obtain ⟨c, rfl, hcl, hck, hkl, hrf, hex⟩ := hf pre p1 data k hw.1 hp hfr.left hib hff
    obtain ⟨rst, e1, e2, e3, e4⟩ := ih (pre ++ c) v' (data.drop k) k' hw.2 (hfr.right_append hck)
      (isBytes_drop _ _ hib) hrest
    rw [List.length_drop] at e2 e3
    refine ⟨c ++ rst, by rw [e1, List.append_assoc], by omega, ?_, fun hs post => ?_⟩
    · rw [Nat.sub_sub] at e3
      exact inRangeFields_cons_of hp (by rw [← hrf]; congr 1; omega) hcl e3
    · rw [noSpareFields, Bool.and_eq_true] at hs
      have h1 := hex hs.1 (rst ++ post)
      have h2 := e4 hs.2 post
      have e : pre ++ (c ++ rst) ++ post = pre ++ c ++ (rst ++ post) := by simp only [List.append_assoc]
      rw [e, List.take_add]
      refine envTo_cons_ok h1 ?_
      rw [← e, ← List.append_assoc pre]; exact h2

/-! ## sequences -/

/-- `E` stands for "the item has no spare parts" -/
theorem seqDI (proc : List Nat → Except Err (Vals × Nat)) (enc : Vals → Except Err (List Nat))
    (chk : Vals → Nat → Option Nat) (E : Prop)
    (H : ∀ (x : List Nat) (v : Vals) (k : Nat), isBytes x = true → proc x = .ok (v, k) →
        k ≤ x.length ∧ chk v (x.length - k) = some k ∧ (E → enc v = .ok (x.take k)))
    (fuel : Nat) (data : List Nat) (off : Nat) (acc res : List Val) (hib : isBytes data = true)
    (hoff : off ≤ data.length) (h : seqLoop proc fuel data off acc = .ok res) :
    ∃ items, res = acc ++ items ∧ inRangeItems chk items = some (data.length - off)
      ∧ (E → seqEnc enc items = .ok (data.drop off)) := by
  -- past the end the loop returns what it has
  have hdone : ∀ fuel off acc, data.length ≤ off → off ≤ data.length → seqLoop proc fuel data off acc = .ok res →
      ∃ items, res = acc ++ items ∧ inRangeItems chk items = some (data.length - off)
        ∧ (E → seqEnc enc items = .ok (data.drop off)) := by
    intro fuel off acc h1 h2 h
    rw [seqLoop_done h1] at h; cases h
    exact ⟨[], (List.append_nil _).symm, by rw [Nat.sub_eq_zero_of_le h1]; rfl,
      fun _ => by rw [List.drop_eq_nil_of_le h1]; rfl⟩
  induction fuel generalizing off acc with
  | zero =>
    by_cases hlt : off < data.length
    · rw [seqLoop_zero hlt] at h; cases h
    · exact hdone 0 off acc (by omega) hoff h
  | succ fuel ih =>
    by_cases hlt : off < data.length
    · rw [seqLoop_step hlt] at h
      cases hp : proc (List.drop off data) with
      | error e => rw [hp] at h; cases h
      | ok r =>
        obtain ⟨v, k⟩ := r
        simp only [hp] at h
        split at h
        · cases h
        · rename_i hk
          obtain ⟨hkl, hc, hex⟩ := H _ v k (isBytes_drop _ _ hib) hp
          rw [List.length_drop] at hkl hc
          obtain ⟨items, e1, e2, e3⟩ := ih (off + k) _ (by omega) h
          refine ⟨.dict v :: items, by rw [e1, List.append_assoc]; rfl, ?_, fun hE => ?_⟩
          · exact inRangeItems_cons.2 ⟨v, _, k, rfl, e2, by rw [← hc]; congr 1; omega, by omega, by omega⟩
          · simp only [seqEnc, hex hE, e3 hE]
            rw [← List.drop_drop, List.take_append_drop]
    · exact hdone _ off acc (by omega) hoff h

/-! ## the field kinds -/

theorem fieldDI_int (name pres len bo sg off mult) : FieldDI (.int name pres len bo sg off mult) := by
  intro pre pre' data k hw hp hfr hib h
  simp only [wfField, Bool.and_eq_true, decide_eq_true_eq] at hw
  obtain ⟨hlen, hmult⟩ := hw
  rw [fieldFrom] at h
  obtain ⟨hg, hk, hb⟩ := (fieldFromCore_present hp).1 h
  rw [if_neg (by omega)] at hg
  obtain rfl : k = len := (Except.ok.inj hg).symm
  have hnm : name ∉ pre.keys := hfr.1 name (List.mem_singleton_self _)
  rw [intDec, Vals.set_of_not_mem _ _ _ hnm] at hb
  cases hb
  generalize hraw : intFromBytes bo sg (List.take k data) = raw
  -- the stored value scales back to the raw integer, which fits and re-encodes to the octets read
  have hdiv : Int.fdiv (raw * mult + off - off) mult = raw := by
    rw [Int.add_sub_cancel, Int.mul_fdiv_cancel _ hmult]
  have hfit := intFromBytes_fits bo sg (data.take k) (isBytes_take _ _ hib)
  have hre := intToBytes_intFromBytes bo sg (data.take k) (isBytes_take _ _ hib)
  rw [List.length_take_of_le hk, hraw] at hfit hre
  refine ⟨_, rfl, rfl, fun x hx => hx, hk, inRangeField_int.2 ⟨_, rfl, hnm, by rw [hdiv], by rw [hdiv]; exact hfit, rfl⟩,
    fun _ post => ?_⟩
  rw [fieldTo]
  refine fieldToCore_present (getPres_mid _ _ hp) ?_ (fun _ => List.length_take_of_le hk)
  simp only [intEnc, Vals.getInt, Vals.get_mid pre post name _ hnm, hmult, if_false, hdiv, hre]

theorem fieldDI_buf (name pres ld) : FieldDI (.buf name pres ld) := by
  intro pre pre' data k _ hp hfr hib h
  rw [fieldFrom] at h
  obtain ⟨hg, hk, hb⟩ := (fieldFromCore_present hp).1 h
  have hnm : name ∉ pre.keys := hfr.1 name (List.mem_singleton_self _)
  rw [Vals.set_of_not_mem _ _ _ hnm] at hb
  cases hb
  refine ⟨_, rfl, rfl, fun x hx => hx, hk, inRangeField_buf.2 ⟨_, rfl, hnm, isBytes_take _ _ hib, ?_, (List.length_take_of_le hk).symm⟩,
    fun _ post => ?_⟩
  · rw [List.length_take_of_le hk, Nat.add_sub_cancel' hk]; exact hg
  · rw [fieldTo]
    refine fieldToCore_present (getPres_mid _ _ hp) ?_
      (fun hs => by rw [List.length_take_of_le hk]; exact selfLen_of_getLen hg hs)
    simp only [Vals.getBytes, Vals.get_mid pre post name _ hnm]

theorem fieldDI_spare (name pres ld filler) : FieldDI (.spare name pres ld filler) := by
  intro pre pre' data k hw hp _ _ h
  simp only [wfField, Bool.and_eq_true, decide_eq_true_eq] at hw
  rw [fieldFrom] at h
  obtain ⟨hg, hk, hb⟩ := (fieldFromCore_present hp).1 h
  cases hb
  refine ⟨[], (List.append_nil _).symm, rfl, fun x hx => (nomatch hx), hk, inRangeField_spare.2 ⟨rfl, ?_, ?_⟩,
    fun hs => (nomatch hs)⟩
  · rw [getLen_spare_indep ld hw.2 pre 0 data.length]; exact hg
  · rw [Nat.add_sub_cancel' hk]; exact hg

theorem fieldDI_bits (pres len little fs) : FieldDI (.bits pres len little fs) := by
  intro pre pre' data k _ hp hfr hib h
  rw [fieldFrom] at h
  cases hd : bitsDerive len little fs with
  | error e => rw [hd] at h; cases h
  | ok r =>
    obtain ⟨l, offs⟩ := r
    simp only [hd] at h
    obtain ⟨hg, hk, hb⟩ := (fieldFromCore_present hp).1 h
    obtain rfl : l = k := Except.ok.inj hg
    obtain ⟨hl, hchain, hmap⟩ := bitsDerive_ok hd
    obtain ⟨hmem, hlen, hnodup⟩ := bitsOrdered_names little fs
    have hbn := bitNames_eq hmap
    obtain ⟨c, e1, e2, e3, e4⟩ := bitsDec_ok offs (l * 8) pre pre' _ hchain
      ⟨fun n hx => hfr.1 n ((hmem n).1 (hbn ▸ hx)), hbn ▸ hnodup hfr.2⟩ hb
    subst e1
    refine ⟨c, rfl, ?_, fun x hx => (hmem x).1 (hbn ▸ e2 ▸ hx), hk, inRangeField_bits.2 ⟨offs, hd, e3⟩,
      fun hs post => ?_⟩
    · have : c.length = c.keys.length := (List.length_map _).symm
      rw [this, e2, hbn, hlen]; rfl
    · simp only [noSpareField, Bool.and_eq_true, decide_eq_true_eq, List.all_eq_true] at hs
      -- all bits are covered: the chain ends at 0, so the values pack to the whole blob
      have hend : chainEnd (l * 8) offs = 0 := by
        have := chainEnd_sum offs (l * 8) hchain
        have hsum : (offs.map (·.1.bl)).sum = bitsTotal (bitsOrdered little fs) := by
          rw [← hmap, bitsTotal, List.map_map]; rfl
        rw [hsum, hs.2, ← hl] at this
        omega
      have hpack := e4 (fun x hx => hs.1 x.1 (mem_bitsOrdered.1 (hmap ▸ List.mem_map_of_mem hx)))
      have hdl : (List.take l data).length = l := List.length_take_of_le hk
      have hblob : leToNat (List.take l data).reverse < 2 ^ (l * 8) := by
        have := leToNat_lt (List.take l data).reverse (by rw [isBytes_reverse]; exact isBytes_take _ _ hib)
        rwa [List.length_reverse, hdl, show 256 = 2 ^ 8 from rfl, ← Nat.pow_mul, Nat.mul_comm] at this
      rw [hend, Nat.pow_zero, Nat.mod_one, Nat.add_zero, Nat.mod_eq_of_lt hblob] at hpack
      obtain ⟨r1, _, _⟩ := bits_roundtrip offs (l * 8) (pre ++ c ++ post) pre c 0 hchain e3
        (inRangeBits_get offs pre c post e3)
      have hre := intToBytes_intFromBytes .big false (data.take l) (isBytes_take _ _ hib)
      rw [hdl, intFromBytes_eq] at hre
      simp only [Bool.false_eq_true, false_and, if_false, uOf] at hre
      simp only [fieldTo, hd]
      refine fieldToCore_present (getPres_mid _ _ hp) ?_ (fun _ => hdl)
      simp only [bitsEncBytes, r1, Nat.zero_or, hpack]
      exact hre

theorem fieldDI_env (name pres ld cl fs) (hfs : EnvDI fs) : FieldDI (.env name pres ld cl fs) := by
  intro pre pre' data k hw hp hfr hib h
  simp only [wfField, Bool.and_eq_true, decide_eq_true_eq] at hw
  obtain ⟨⟨rfl, hwf⟩, hnd⟩ := hw
  rw [fieldFrom] at h
  obtain ⟨hg, hk, hb⟩ := (fieldFromCore_present hp).1 h
  have hnm : name ∉ pre.keys := hfr.1 name (List.mem_singleton_self _)
  cases ht : tailCheck true (List.take k data).length (envFrom fs [] (List.take k data) 0) with
  | error e => rw [ht] at hb; cases hb
  | ok r =>
    obtain ⟨inner, off⟩ := r
    simp only [ht, Vals.set_of_not_mem _ _ _ hnm] at hb
    cases hb
    obtain ⟨he, hoff⟩ := tailCheck_ok_iff.1 ht
    have hoff := hoff rfl
    obtain ⟨rst, e1, _, e3, e4⟩ := hfs [] inner (data.take k) off hwf (Fresh.of_nodup hnd)
      (isBytes_take _ _ hib) he
    rw [List.nil_append] at e1
    subst e1
    rw [hoff, Nat.sub_self] at e3
    rw [List.length_take_of_le hk] at hoff
    subst hoff
    refine ⟨_, rfl, rfl, fun x hx => hx, hk,
      inRangeField_env.2 ⟨_, rfl, hnm, e3, by rw [Nat.add_sub_cancel' hk]; exact hg⟩, fun hs post => ?_⟩
    have hin := e4 hs []
    rw [List.nil_append, List.append_nil, List.take_of_length_le (by rw [List.length_take_of_le hk]; exact Nat.le_refl _)] at hin
    rw [fieldTo]
    refine fieldToCore_present (getPres_mid _ _ hp) ?_
      (fun hsl => by rw [List.length_take_of_le hk]; exact selfLen_of_getLen hg hsl)
    simp only [Vals.getDict, Vals.get_mid pre post name _ hnm, hin]

theorem fieldDI_seq (name pres ld item) (hitem : EnvDI item) : FieldDI (.seq name pres ld item) := by
  intro pre pre' data k hw hp hfr hib h
  simp only [wfField, Bool.and_eq_true, decide_eq_true_eq] at hw
  obtain ⟨⟨hwf, hnd⟩, _⟩ := hw
  rw [fieldFrom] at h
  obtain ⟨hg, hk, hb⟩ := (fieldFromCore_present hp).1 h
  have hnm : name ∉ pre.keys := hfr.1 name (List.mem_singleton_self _)
  cases hs : seqLoop (fun x => envFrom item [] x 0) (List.take k data).length (List.take k data) 0 [] with
  | error e => rw [hs] at hb; cases hb
  | ok vseq =>
    simp only [hs, Vals.set_of_not_mem _ _ _ hnm] at hb
    cases hb
    obtain ⟨items, e1, e2, e3⟩ := seqDI (fun x => envFrom item [] x 0) (fun v => envTo item v)
      (fun iv r => inRangeFields item [] iv r) (noSpareFields item = true)
      (fun x v kk hx hpx => by
        obtain ⟨rst, e1, e2, e3, e4⟩ := hitem [] v x kk hwf (Fresh.of_nodup hnd) hx hpx
        rw [List.nil_append] at e1
        subst e1
        exact ⟨e2, e3, fun hE => by simpa using e4 hE []⟩)
      _ (data.take k) 0 [] vseq (isBytes_take _ _ hib) (Nat.zero_le _) hs
    rw [List.nil_append] at e1
    subst e1
    rw [Nat.sub_zero, List.length_take_of_le hk] at e2
    refine ⟨_, rfl, rfl, fun x hx => hx, hk,
      inRangeField_seq.2 ⟨_, rfl, hnm, e2, by rw [Nat.add_sub_cancel' hk]; exact hg⟩, fun hsp post => ?_⟩
    rw [fieldTo]
    refine fieldToCore_present (getPres_mid _ _ hp) ?_
      (fun hsl => by rw [List.length_take_of_le hk]; exact selfLen_of_getLen hg hsl)
    simp only [Vals.getList, Vals.get_mid pre post name _ hnm, e3 hsp, List.drop_zero]

/-! ## every definition, any nesting depth -/

theorem envDI (fs : List FDef) : EnvDI fs :=
  FDef.rec_1 (motive_1 := FieldDI) fieldDI_int fieldDI_buf fieldDI_spare fieldDI_bits fieldDI_env fieldDI_seq
    envDI_nil (fun _ _ => envDI_cons) fs

/-- What a definition decodes: an in-range value that declares the consumed length; the whole buffer when
lengths are checked; and, for a definition without spare parts, a value that encodes back to the consumed octets. -/
theorem decoded (d : EnvDef) (b : List Nat) (v : Vals) (n : Nat) (hw : WF d) (hb : isBytes b = true)
    (h : fromBytes d b = .ok (v, n)) :
    n ≤ b.length ∧ declLen d v (b.length - n) = some n ∧ (d.checkLen = true → b.length = n)
      ∧ (noSpareFields d.fs = true → toBytes d v = .ok (b.take n)) := by
  obtain ⟨he, hcl⟩ := fromBytes_ok_iff.1 h
  obtain ⟨rst, e1, e2, e3, e4⟩ := envDI d.fs [] v b n hw.1 (Fresh.of_nodup hw.2) hb he
  rw [List.nil_append] at e1
  subst e1
  exact ⟨e2, e3, hcl, fun hs => by simpa [toBytes] using e4 hs []⟩

end OsmoVerif.Codec
