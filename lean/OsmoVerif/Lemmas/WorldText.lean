/-
Text-level facts for the TRXC reply form (C05, trxcon compatibility): ASCII texts pass through
UTF-8 unchanged, `prepare_req` recovers verb and arguments of a well-formed command text
"CMD <VERB> <arg> … <arg>\0", the reply to such a text is "RSP <VERB> <status> <args>[ <result>]\0"
octet for octet, and the length of the command texts trxcon can emit.
-/
import OsmoVerif.Lemmas.WorldCmd
set_option linter.unusedSimpArgs false

namespace OsmoVerif.World
open OsmoVerif OsmoVerif.PyStr

/-! ### ASCII texts: UTF-8 is the identity -/

def Ascii (s : Str) : Prop := ∀ c ∈ s, c < 128

theorem decodeUtf8_ascii {s : Str} (h : Ascii s) : decodeUtf8 s = some s := by
  induction s with
  | nil => rfl
  | cons c r ih =>
    have hc : c < 128 := h c List.mem_cons_self
    have hr := ih (fun x hx => h x (List.mem_cons_of_mem _ hx))
    unfold decodeUtf8
    rw [if_pos hc, hr]; rfl

theorem encodeUtf8_ascii {s : Str} (h : Ascii s) : encodeUtf8 s = s := by
  induction s with
  | nil => rfl
  | cons c r ih =>
    have hc : c < 128 := h c List.mem_cons_self
    have hr := ih (fun x hx => h x (List.mem_cons_of_mem _ hx))
    simp only [encodeUtf8, List.flatMap_cons, encodeChar, hc, if_true] at hr ⊢
    rw [hr]; rfl

theorem ascii_append {a b : Str} (ha : Ascii a) (hb : Ascii b) : Ascii (a ++ b) := by
  intro c hc
  rcases List.mem_append.mp hc with h | h
  · exact ha c h
  · exact hb c h

/-! ### tokens, split and join -/

/-- a command word: non-empty, printable ASCII without the space -/
def Token (t : Str) : Prop := t ≠ [] ∧ ∀ c ∈ t, 32 < c ∧ c < 127

theorem Token.ascii {t : Str} (h : Token t) : Ascii t := fun c hc => by have := (h.2 c hc).2; omega

theorem splitSpace_cons_ne (c : Nat) (r : Str) (hc : c ≠ 32) :
    splitSpace (c :: r) = (c :: (splitSpace r).head!) :: (splitSpace r).tail := by
  simp only [splitSpace, hc, if_false]
  cases h : splitSpace r with
  | nil => exact absurd h (splitSpace_ne_nil r)
  | cons w ws => rfl

theorem splitSpace_word_sep (t : Str) (ht : ∀ c ∈ t, c ≠ 32) (rest : Str) :
    splitSpace (t ++ 32 :: rest) = t :: splitSpace rest := by
  induction t with
  | nil => simp [splitSpace]
  | cons c r ih =>
    have hc : c ≠ 32 := ht c List.mem_cons_self
    have := ih (fun x hx => ht x (List.mem_cons_of_mem _ hx))
    simp only [List.cons_append, splitSpace, hc, if_false, this]

theorem splitSpace_word (t : Str) (ht : ∀ c ∈ t, c ≠ 32) : splitSpace t = [t] := by
  induction t with
  | nil => rfl
  | cons c r ih =>
    have hc : c ≠ 32 := ht c List.mem_cons_self
    have := ih (fun x hx => ht x (List.mem_cons_of_mem _ hx))
    simp only [splitSpace, hc, if_false, this]

theorem splitSpace_joinSpace (t : Str) (ts : List Str) (h : ∀ x ∈ t :: ts, ∀ c ∈ x, c ≠ 32) :
    splitSpace (joinSpace (t :: ts)) = t :: ts := by
  induction ts generalizing t with
  | nil => exact splitSpace_word t (h t List.mem_cons_self)
  | cons u us ih =>
    simp only [joinSpace]
    rw [splitSpace_word_sep t (h t List.mem_cons_self),
      ih u (fun x hx => h x (List.mem_cons_of_mem _ hx))]

/-! ### strip -/

theorem stripBy_keep (p : Nat → Bool) (c d : Nat) (m : Str) (hc : p c = false) (hd : p d = false) :
    stripBy p (c :: (m ++ [d])) = c :: (m ++ [d]) := by
  unfold stripBy
  have h1 : (c :: (m ++ [d])).dropWhile p = c :: (m ++ [d]) := by
    simp only [List.dropWhile_cons, hc, Bool.false_eq_true, if_false]
  rw [h1]
  have h2 : (c :: (m ++ [d])).reverse = d :: (m.reverse ++ [c]) := by simp
  rw [h2]
  have h3 : (d :: (m.reverse ++ [c])).dropWhile p = d :: (m.reverse ++ [c]) := by
    simp only [List.dropWhile_cons, hd, Bool.false_eq_true, if_false]
  rw [h3, ← h2, List.reverse_reverse]

theorem stripBy_single (p : Nat → Bool) (c : Nat) (hc : p c = false) : stripBy p [c] = [c] := by
  simp [stripBy, List.dropWhile_cons, hc]

theorem stripBy_ends (p : Nat → Bool) (s : Str) (c d : Nat) (hh : s.head? = some c)
    (hl : s.getLast? = some d) (hc : p c = false) (hd : p d = false) : stripBy p s = s := by
  cases s with
  | nil => cases hh
  | cons x r =>
    simp only [List.head?_cons, Option.some.injEq] at hh
    subst hh
    rcases List.eq_nil_or_concat r with rfl | ⟨m, y, rfl⟩
    · exact stripBy_single p x hc
    · rw [List.concat_eq_append] at hl ⊢
      have : (x :: (m ++ [y])).getLast? = some y := by
        rw [← List.cons_append, List.getLast?_append]; rfl
      rw [this] at hl; cases hl
      exact stripBy_keep p x d m hc hd

theorem stripNul_trailing (s : Str) (c d : Nat) (hh : s.head? = some c) (hl : s.getLast? = some d)
    (hc : c ≠ 0) (hd : d ≠ 0) : stripNul (s ++ [0]) = s := by
  cases s with
  | nil => cases hh
  | cons x r =>
    simp only [List.head?_cons, Option.some.injEq] at hh
    subst hh
    unfold stripNul stripBy
    have hx : (x == 0) = false := by simpa using hc
    have hdd : (d == 0) = false := by simpa using hd
    have h1 : (x :: r ++ [0]).dropWhile (· == 0) = x :: r ++ [0] := by
      simp only [List.cons_append, List.dropWhile_cons, hx, Bool.false_eq_true, if_false]
    rw [h1]
    obtain ⟨m, hm⟩ : ∃ m, x :: r = m ++ [d] := by
      rcases List.eq_nil_or_concat (x :: r) with h | ⟨m, y, h⟩
      · cases h
      · rw [List.concat_eq_append] at h
        rw [h, List.getLast?_append] at hl
        cases hl
        exact ⟨m, h⟩
    rw [hm]
    have h2 : (m ++ [d] ++ [0]).reverse = 0 :: d :: m.reverse := by simp
    rw [h2]
    have h3 : (0 :: d :: m.reverse).dropWhile (· == 0) = d :: m.reverse := by
      simp only [List.dropWhile_cons, beq_self_eq_true, if_true, hdd, Bool.false_eq_true, if_false]
    rw [h3]; simp

/-! ### join -/

theorem joinSpace_ascii (ts : List Str) (h : ∀ t ∈ ts, Ascii t) : Ascii (joinSpace ts) := by
  induction ts with
  | nil => intro c hc; cases hc
  | cons t ts ih =>
    cases ts with
    | nil => exact h t List.mem_cons_self
    | cons u us =>
      simp only [joinSpace]
      apply ascii_append (h t List.mem_cons_self)
      intro c hc
      rcases List.mem_cons.mp hc with rfl | hc
      · decide
      · exact ih (fun x hx => h x (List.mem_cons_of_mem _ hx)) c hc

theorem joinSpace_head (t : Str) (ts : List Str) (ht : Token t) :
    ∃ c, (joinSpace (t :: ts)).head? = some c ∧ 32 < c ∧ c < 127 := by
  obtain ⟨hne, hc⟩ := ht
  cases t with
  | nil => exact absurd rfl hne
  | cons c r =>
    refine ⟨c, ?_, hc c List.mem_cons_self⟩
    cases ts <;> rfl

theorem joinSpace_last (t : Str) (ts : List Str) (h : ∀ x ∈ t :: ts, Token x) :
    ∃ d, (joinSpace (t :: ts)).getLast? = some d ∧ 32 < d ∧ d < 127 := by
  induction ts generalizing t with
  | nil =>
    obtain ⟨hne, hc⟩ := h t List.mem_cons_self
    rcases List.eq_nil_or_concat t with rfl | ⟨m, y, rfl⟩
    · exact absurd rfl hne
    · rw [List.concat_eq_append] at hc ⊢
      refine ⟨y, ?_, hc y (by simp)⟩
      simp only [joinSpace]
      rw [List.getLast?_append]; rfl
  | cons u us ih =>
    obtain ⟨d, hd, hb⟩ := ih u (fun x hx => h x (List.mem_cons_of_mem _ hx))
    refine ⟨d, ?_, hb⟩
    simp only [joinSpace] at hd ⊢
    simp [List.getLast?_append, List.getLast?_cons, hd]

/-! ### well-formed command texts -/

/-- the text `CMD <VERB> <arg> … <arg>\0` -/
def cmdText (V : Str) (args : List Str) : Str := lit "CMD " ++ joinSpace (V :: args) ++ [0]

/-- `str.strip()` removes no printable ASCII character: every code point of the stripped class is
at most 32 or at least 127 -/
theorem stripSpace_printable : ∀ c : Fin 127, 32 < c.val → isStripSpace c.val = false := by
  have h : ∀ x ∈ Gen.pyStripSpace, x ≤ 32 ∨ 127 ≤ x := by decide
  intro c hc
  cases hs : isStripSpace c.val with
  | false => rfl
  | true =>
    have := h c.val (List.contains_iff_mem.mp hs)
    have := c.isLt
    omega

theorem cmdText_drop (V : Str) (args : List Str) :
    (cmdText V args).drop 4 = joinSpace (V :: args) ++ [0] := rfl

theorem cmdText_startsWith (V : Str) (args : List Str) :
    startsWith (cmdText V args) (lit "CMD") = true := rfl

theorem request_cmdText (V : Str) (args : List Str) (h : ∀ x ∈ V :: args, Token x) :
    request (cmdText V args) = V :: args := by
  obtain ⟨c, hc, hc1, hc2⟩ := joinSpace_head V args (h V List.mem_cons_self)
  obtain ⟨d, hd, hd1, hd2⟩ := joinSpace_last V args h
  have hne : joinSpace (V :: args) ≠ [] := by intro e; rw [e] at hc; cases hc
  have hh : (joinSpace (V :: args) ++ [0]).head? = some c := by
    cases hj : joinSpace (V :: args) with
    | nil => exact absurd hj hne
    | cons x r => rw [hj] at hc; exact hc
  have hl : (joinSpace (V :: args) ++ [0]).getLast? = some 0 := by
    rw [List.getLast?_append]; rfl
  have hstrip : strip (joinSpace (V :: args) ++ [0]) = joinSpace (V :: args) ++ [0] :=
    stripBy_ends _ _ c 0 hh hl (stripSpace_printable ⟨c, hc2⟩ hc1) (by decide)
  unfold request
  rw [cmdText_drop, hstrip, stripNul_trailing _ c d hc hd (by omega) (by omega)]
  exact splitSpace_joinSpace V args (fun x hx ch hch => by have := (h x hx).2 ch hch; omega)

theorem cmdText_ascii (V : Str) (args : List Str) (h : ∀ x ∈ V :: args, Token x) :
    Ascii (cmdText V args) := by
  unfold cmdText
  refine ascii_append (ascii_append ?_ (joinSpace_ascii _ (fun t ht => (h t ht).ascii))) ?_
  · unfold Ascii; decide
  · unfold Ascii; decide

/-! ### decimal numbers are tokens -/

theorem natDigits_token (n : Nat) : Token (natDigits n) ∧ ∀ c ∈ natDigits n, 48 ≤ c ∧ c ≤ 57 := by
  have hd : ∀ c ∈ natDigits n, 48 ≤ c ∧ c ≤ 57 := by
    intro c hc
    obtain ⟨ch, hch, rfl⟩ := List.mem_map.mp hc
    have := Nat.isDigit_of_mem_toDigits (by decide) (by decide) hch
    simp only [Char.isDigit, Bool.and_eq_true, decide_eq_true_eq] at this
    have h1 : (48 : UInt32) ≤ ch.val := this.1
    have h2 : ch.val ≤ (57 : UInt32) := this.2
    exact ⟨UInt32.le_iff_toNat_le.mp h1, UInt32.le_iff_toNat_le.mp h2⟩
  refine ⟨⟨?_, fun c hc => by have := hd c hc; omega⟩, hd⟩
  intro e
  have : Nat.toDigits 10 n = [] := List.map_eq_nil_iff.mp e
  exact Nat.toDigits_ne_nil this

theorem intToStr_token (v : Int) : Token (intToStr v) := by
  unfold intToStr
  split
  · refine ⟨by simp, fun c hc => ?_⟩
    rcases List.mem_cons.mp hc with rfl | hc
    · decide
    · exact (natDigits_token _).1.2 c hc
  · exact (natDigits_token _).1

/-! ### result parameters -/

macro "res_finish" h:ident : tactic =>
  `(tactic| (
    simp only [arg_one, arg_two, bind, Except.bind, pure, Except.pure, map_eq] at $h:ident
    repeat' split at $h:ident
    all_goals first
      | (cases $h:ident; done)
      | contradiction
      | (cases $h:ident; exact True.intro)
      | (cases $h:ident; exact Or.inl rfl)))

/-- result parameters exist only for MEASURE (the power level) and NOMTXPOWER (the nominal power);
each is one decimal number -/
theorem parseCmd_results {w w' : World} {i : Nat} {req : List Str} {rc : Int} {ps : List Str}
    (h : parseCmd w i req = .ok (w', (rc, ps))) :
    ps = [] ∨ ((req.head? = some (lit "MEASURE") ∨ req.head? = some (lit "NOMTXPOWER")) ∧
      ∃ v, ps = [intToStr v]) := by
  rw [parseCmd_eq] at h
  split at h
  · cases h
  · cases h; exact .inl rfl
  · split at h
    · cases h
    · split at h
      · cases h
      next hc =>
        cases commonCmd_out hc with
        | reply _ _ => cases h; exact .inl rfl
        | nomtxpower => cases h; exact .inr ⟨.inr rfl, _, rfl⟩
        | patch _ _ _ _ => cases h; exact .inl rfl
        | power on =>
          simp only [applyAction, bind, Except.bind, pure, Except.pure] at h
          split at h
          · cases h
          · cases h; exact .inl rfl
        | measure _ f =>
          simp only [applyAction, bind, Except.bind, pure, Except.pure] at h
          split at h
          · cases h
          · cases h; exact .inr ⟨.inl rfl, _, rfl⟩

/-! ### the reply to a well-formed command text -/

/-- the text `RSP <VERB> <status> <arg> … <arg>[ <result>]\0` -/
def rspTextOf (V : Str) (status : Int) (args results : List Str) : Str :=
  lit "RSP " ++ joinSpace (V :: intToStr status :: (args ++ results)) ++ [0]

theorem handleRx_cmdText {w : World} {i : Nat} {t : Trx} (a p : Nat) (ht : w.trxs[i]? = some t)
    (V : Str) (args : List Str) (h : ∀ x ∈ V :: args, Token x)
    (hlen : (cmdText V args).length ≤ Gen.World.ctrlRecvSize) :
    ∃ status results w',
      handleRx w i a p (cmdText V args) =
        { world := w', out := [⟨t.ctrlPort, a, p, rspTextOf V status args results⟩] } ∧
      (results = [] ∨
        ((V = lit "MEASURE" ∨ V = lit "NOMTXPOWER") ∧ ∃ v, results = [intToStr v])) ∧
      (parseCmd w i (V :: args) = .ok (w', (status, results)) ∨
       (parseCmd w i (V :: args) = .error .valueError ∧ status = -1 ∧ results = [] ∧ w' = w)) := by
  have hd : decodeUtf8 ((cmdText V args).take Gen.World.ctrlRecvSize) = some (cmdText V args) := by
    rw [List.take_of_length_le hlen]; exact decodeUtf8_ascii (cmdText_ascii V args h)
  obtain ⟨rc, params, w', hh, hpc⟩ := handleRx_reply a p ht hd (cmdText_startsWith V args)
  rw [request_cmdText V args h] at hh hpc
  have hres : params = [] ∨
      ((V = lit "MEASURE" ∨ V = lit "NOMTXPOWER") ∧ ∃ v, params = [intToStr v]) := by
    rcases hpc with hok | ⟨_, _, rfl, _⟩
    · rcases parseCmd_results hok with h0 | ⟨hv, v, hp⟩
      · exact .inl h0
      · exact .inr ⟨hv.imp Option.some.inj Option.some.inj, v, hp⟩
    · exact .inl rfl
  refine ⟨rc, params, w', ?_, hres, hpc⟩
  rw [hh]
  have hasc : Ascii (rspText (V :: args) rc params) := by
    unfold rspText
    refine ascii_append (ascii_append (by unfold Ascii; decide) (joinSpace_ascii _ ?_))
      (by unfold Ascii; decide)
    intro x hx
    simp only [List.cons_append, List.mem_cons, List.mem_append] at hx
    rcases hx with rfl | rfl | hx | hx
    · exact (h _ List.mem_cons_self).ascii
    · exact (intToStr_token rc).ascii
    · exact (h x (List.mem_cons_of_mem _ hx)).ascii
    · rcases hres with rfl | ⟨_, v, rfl⟩
      · cases hx
      · cases List.mem_singleton.mp hx; exact (intToStr_token v).ascii
  rw [encodeUtf8_ascii hasc]
  rfl

/-! ### length of command texts -/

theorem joinSpace_length (t : Str) (ts : List Str) :
    (joinSpace (t :: ts)).length = t.length + (ts.map (·.length + 1)).sum := by
  induction ts generalizing t with
  | nil => simp [joinSpace]
  | cons u us ih =>
    simp only [joinSpace, List.length_append, List.length_cons, ih u, List.map_cons, List.sum_cons]
    omega

theorem cmdText_length (V : Str) (args : List Str) :
    (cmdText V args).length = 5 + V.length + (args.map (·.length + 1)).sum := by
  unfold cmdText
  rw [List.length_append, List.length_append, joinSpace_length]
  have : (lit "CMD ").length = 4 := rfl
  rw [this]; simp only [List.length_cons, List.length_nil]; omega

theorem sum_lengths_le (fs : List Str) (k : Nat) (h : ∀ f ∈ fs, f.length ≤ k) :
    (fs.map (·.length + 1)).sum ≤ fs.length * (k + 1) := by
  induction fs with
  | nil => simp
  | cons f fs ih =>
    have h1 := h f List.mem_cons_self
    have h2 := ih (fun x hx => h x (List.mem_cons_of_mem _ hx))
    simp only [List.map_cons, List.sum_cons, List.length_cons]
    rw [Nat.add_mul]
    omega

/-- a SETFH text whose mobile-allocation part — every frequency followed by one separator, as
trxcon's `snprintf("%u %u ")` loop writes it into `ma_buf[TRXC_BUF_SIZE − 24]` — takes at most 999
octets, with HSN and MAIO of at most three digits, is at most 1017 octets long (NUL included) -/
theorem setfh_text_length (hsn maio : Str) (freqs : List Str) (hh : hsn.length ≤ 3)
    (hm : maio.length ≤ 3) (hma : (freqs.map (·.length + 1)).sum ≤ 999) :
    (cmdText (lit "SETFH") (hsn :: maio :: freqs)).length ≤ 1017 := by
  rw [cmdText_length]
  have : (lit "SETFH").length = 5 := rfl
  simp only [this, List.map_cons, List.sum_cons]
  omega

/-! ### the commands trxcon emits (trx_if.c: `trx_if_cmd_*`, formats `%u` / `%d`) -/

inductive TrxconCmd
  | echo
  | poweroff
  | poweron
  | rxtune (khz : Nat)
  | txtune (khz : Nat)
  | measure (khz : Nat)
  | setslot (tn cfg : Nat)
  | setta (ta : Int)
  /-- `CMD SETFH <hsn> <maio> <rx1> <tx1> … <rxN> <txN>` -/
  | setfh (hsn maio : Nat) (pairs : List (Nat × Nat))

namespace TrxconCmd

def verb : TrxconCmd → Str
  | echo => lit "ECHO"
  | poweroff => lit "POWEROFF"
  | poweron => lit "POWERON"
  | rxtune _ => lit "RXTUNE"
  | txtune _ => lit "TXTUNE"
  | measure _ => lit "MEASURE"
  | setslot _ _ => lit "SETSLOT"
  | setta _ => lit "SETTA"
  | setfh _ _ _ => lit "SETFH"

/-- `rx1 tx1 … rxN txN` as decimal texts -/
def freqTexts : List (Nat × Nat) → List Str
  | [] => []
  | (rx, tx) :: rest => natDigits rx :: natDigits tx :: freqTexts rest

def args : TrxconCmd → List Str
  | echo => []
  | poweroff => []
  | poweron => []
  | rxtune k => [natDigits k]
  | txtune k => [natDigits k]
  | measure k => [natDigits k]
  | setslot tn cfg => [natDigits tn, natDigits cfg]
  | setta ta => [intToStr ta]
  | setfh hsn maio pairs => natDigits hsn :: natDigits maio :: freqTexts pairs

/-- the datagram: `CMD <VERB>[ <args>]\0` in ASCII -/
def text (c : TrxconCmd) : Str := cmdText c.verb c.args

theorem verb_token (c : TrxconCmd) : Token c.verb := by
  cases c <;> (dsimp only [verb]; unfold Token; decide +kernel)

theorem verb_ne_nomtxpower (c : TrxconCmd) : c.verb ≠ lit "NOMTXPOWER" := by
  cases c <;> exact fun h => absurd (lit_inj h) (by simp)

theorem freqTexts_token (ps : List (Nat × Nat)) : ∀ x ∈ freqTexts ps, Token x := by
  induction ps with
  | nil => intro x hx; cases hx
  | cons p ps ih =>
    obtain ⟨rx, tx⟩ := p
    intro x hx
    simp only [freqTexts, List.mem_cons] at hx
    rcases hx with rfl | rfl | hx
    · exact (natDigits_token _).1
    · exact (natDigits_token _).1
    · exact ih x hx

theorem args_token (c : TrxconCmd) : ∀ x ∈ c.args, Token x := by
  intro x hx
  cases c <;> simp only [args, List.mem_cons, List.not_mem_nil, or_false] at hx
  case rxtune k => cases hx; exact (natDigits_token _).1
  case txtune k => cases hx; exact (natDigits_token _).1
  case measure k => cases hx; exact (natDigits_token _).1
  case setslot tn cfg => rcases hx with rfl | rfl <;> exact (natDigits_token _).1
  case setta ta => cases hx; exact intToStr_token _
  case setfh hsn maio ps =>
    rcases hx with rfl | rfl | hx
    · exact (natDigits_token _).1
    · exact (natDigits_token _).1
    · exact freqTexts_token ps x hx

theorem tokens (c : TrxconCmd) : ∀ x ∈ c.verb :: c.args, Token x := by
  intro x hx
  rcases List.mem_cons.mp hx with rfl | hx
  · exact verb_token c
  · exact args_token c x hx

end TrxconCmd

theorem natDigits_length_le {n k : Nat} (hk : 0 < k) (h : n < 10 ^ k) : (natDigits n).length ≤ k := by
  unfold natDigits
  rw [List.length_map]
  exact (Nat.length_toDigits_le_iff (by decide) hk).mpr h

theorem freqTexts_length (ps : List (Nat × Nat)) : (TrxconCmd.freqTexts ps).length = 2 * ps.length := by
  induction ps with
  | nil => rfl
  | cons p ps ih => obtain ⟨rx, tx⟩ := p; simp only [TrxconCmd.freqTexts, List.length_cons, ih]; omega

theorem freqTexts_digits (ps : List (Nat × Nat)) (k : Nat) (hk : 0 < k)
    (h : ∀ p ∈ ps, p.1 < 10 ^ k ∧ p.2 < 10 ^ k) : ∀ f ∈ TrxconCmd.freqTexts ps, f.length ≤ k := by
  induction ps with
  | nil => intro f hf; cases hf
  | cons p ps ih =>
    obtain ⟨rx, tx⟩ := p
    intro f hf
    simp only [TrxconCmd.freqTexts, List.mem_cons] at hf
    have hp := h (rx, tx) List.mem_cons_self
    rcases hf with rfl | rfl | hf
    · exact natDigits_length_le hk hp.1
    · exact natDigits_length_le hk hp.2
    · exact ih (fun q hq => h q (List.mem_cons_of_mem _ hq)) f hf

/-- SETFH as trxcon composes it: HSN, MAIO below 1000 (they are `uint8_t`), `n` pairs of
frequencies of at most `k` digits with `2·n·(k+1) ≤ 999` (what fits `ma_buf`): at most 1017 octets -/
theorem trxcon_setfh_length (hsn maio : Nat) (pairs : List (Nat × Nat)) (k : Nat) (hk : 0 < k)
    (hh : hsn < 1000) (hm : maio < 1000) (hf : ∀ p ∈ pairs, p.1 < 10 ^ k ∧ p.2 < 10 ^ k)
    (hfit : 2 * pairs.length * (k + 1) ≤ 999) :
    (TrxconCmd.setfh hsn maio pairs).text.length ≤ 1017 := by
  unfold TrxconCmd.text TrxconCmd.verb TrxconCmd.args
  apply setfh_text_length
  · exact natDigits_length_le (by decide) hh
  · exact natDigits_length_le (by decide) hm
  · have := sum_lengths_le _ k (freqTexts_digits pairs k hk hf)
    rw [freqTexts_length] at this
    omega
end OsmoVerif.World
