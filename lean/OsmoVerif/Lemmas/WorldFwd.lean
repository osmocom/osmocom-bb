/-
The burst path of the world model against `Spec/WorldRouting` (C02 routing, C10 forwarded metadata,
C18 burst loss), on top of the normal forms of `Lemmas/WorldBurst.lean`: `forwardMsg` is the fold
`handleSeq` of `handleDataMsg` over `Spec.recipients` (`forwardMsg_eq`); one call is decided by
`Spec.suppressed` (`FwdCall.eq`) and emits what `CallSpec` says; a call of an unmuted receiver is the
planned step decided by `Spec.dropDue` (`handleDataMsg_planStep`), which gives the drop plan of a
stream; training-sequence detection and the codec facts C10 needs.
-/
import OsmoVerif.Lemmas.WorldBurst
import OsmoVerif.Lemmas.WorldWiring
import OsmoVerif.Lemmas.WorldSane
import OsmoVerif.Spec.WorldRouting

namespace OsmoVerif.World
open OsmoVerif

/-! ### the burst path in the vocabulary of `Spec/WorldRouting` -/

theorem toDataPeer_dataDgram (t : Trx) (p : List Nat) : Spec.toDataPeer t (dataDgram t p) = true := by
  simp only [Spec.toDataPeer, dataDgram, Trx.dataPort, Trx.dataRemote, Bool.and_eq_true, beq_iff_eq]
  refine ⟨⟨?_, ?_⟩, trivial⟩ <;> omega

/-! ### a stream of bursts handed to one receiver; a call of an unmuted receiver is a planned step (C18) -/

/-- one entry of the stream: sender index, the sender's message, the message `trans()` made of it -/
abbrev Burst := Nat × Trxd.TxMsg × Trxd.RxMsg

/-- `handle_data_msg` of transceiver `k` for every burst of the stream, world threaded; the
result lists the datagrams emitted per burst -/
def handleStream (k : Nat) : World → List Burst → Except Exc (World × List (List Dgram))
  | w, [] => .ok (w, [])
  | w, (j, s, m) :: rest =>
    match handleDataMsg w k j s m with
    | .error e => .error e
    | .ok (w, ds) =>
      match handleStream k w rest with
      | .error e => .error e
      | .ok (w, outs) => .ok (w, ds :: outs)

/-- one burst with the suppression decision prescribed: `true` = the NOPE branch and one drop
consumed, `false` = forwarded normally (completion branch) -/
def planStep (k : Nat) (w : World) (drop : Bool) (b : Burst) : Except Exc (World × List Dgram) :=
  match w.trxs[k]?, w.trxs[b.1]? with
  | some self, some src =>
    if drop then
      match suppressOut self b.2.2 with
      | .ok ds => .ok (decDrop w k, ds)
      | .error e => .error e
    else passOn w self src b.2.1 b.2.2
  | _, _ => .error .indexError

/-- the stream with the decision for every burst prescribed by a plan -/
def planStream (k : Nat) : World → List (Bool × Burst) → Except Exc (World × List (List Dgram))
  | w, [] => .ok (w, [])
  | w, (d, b) :: rest =>
    match planStep k w d b with
    | .error e => .error e
    | .ok (w, ds) =>
      match planStream k w rest with
      | .error e => .error e
      | .ok (w, outs) => .ok (w, ds :: outs)

/-- a call for an unmuted receiver with well-formed drop parameters is the step whose decision is
`Spec.dropDue` -/
theorem handleDataMsg_planStep {w : World} {k : Nat} {tk : Trx} {m : Trxd.RxMsg} {fn : Int} (j : Nat)
    (s : Trxd.TxMsg) (hk : w.trxs[k]? = some tk) (hm : tk.rfMuted = false) (hn : m.nopeInd = false)
    (hfn : m.fn = some fn) (hwf : Spec.DropWF tk) :
    handleDataMsg w k j s m = planStep k w (Spec.dropDue tk fn) (j, s, m) := by
  obtain ⟨ha, hp⟩ := hwf
  have hd : dropDecision w k tk m =
      if Spec.dropDue tk fn then .ok (true, decDrop w k) else .ok (false, w) := by
    have hp0 : tk.dropPeriod ≠ 0 := by omega
    -- Python's `fn % period == 0` is divisibility for a positive period
    have hdvd : Int.fmod fn tk.dropPeriod = 0 ↔ tk.dropPeriod ∣ fn := by
      rw [Int.fmod_eq_emod_of_nonneg fn (by omega : 0 ≤ tk.dropPeriod), Int.dvd_iff_emod_eq_zero]
    simp only [dropDecision, hm, hn, hfn, hp0, Spec.dropDue, Bool.false_eq_true, if_false, not_false_eq_true,
      if_true, Bool.and_eq_true, decide_eq_true_eq, hdvd]
    by_cases h0 : tk.dropAmount = 0
    · have : ¬ (0 < tk.dropAmount) := by omega
      simp only [h0, if_true]
      simp
    · have : 0 < tk.dropAmount := by omega
      simp only [h0, if_false, this, true_and]
  rw [handleDataMsg_eq, planStep, hk]
  cases w.trxs[j]? with
  | none => rfl
  | some src =>
    dsimp only
    rw [hd]
    cases Spec.dropDue tk fn <;> rfl

/-! ### what does not read the drop counters; `FreqOk` -/

theorem Static.poweredOn {w0 w : World} (h : Static w0 w) (k : Nat) :
    Spec.poweredOn w k = Spec.poweredOn w0 k := by
  unfold Spec.poweredOn
  cases h0 : w0.trxs[k]? with
  | none => rw [h.none k h0]
  | some t => obtain ⟨d, hd⟩ := h.2.2 k t h0; rw [hd]

theorem Static.rxFreqAt {w0 w : World} (h : Static w0 w) (k fn : Nat) :
    Spec.rxFreqAt w k fn = Spec.rxFreqAt w0 k fn := by
  unfold Spec.rxFreqAt
  cases h0 : w0.trxs[k]? with
  | none => rw [h.none k h0]
  | some t => obtain ⟨d, hd⟩ := h.2.2 k t h0; rw [hd]; rfl

theorem Static.txFreqAt {w0 w : World} (h : Static w0 w) (k fn : Nat) :
    Spec.txFreqAt w k fn = Spec.txFreqAt w0 k fn := by
  unfold Spec.txFreqAt
  cases h0 : w0.trxs[k]? with
  | none => rw [h.none k h0]
  | some t => obtain ⟨d, hd⟩ := h.2.2 k t h0; rw [hd]; rfl

theorem Static.isRecipient {w0 w : World} (h : Static w0 w) (j fn k : Nat) :
    Spec.isRecipient w j fn k = Spec.isRecipient w0 j fn k := by
  unfold Spec.isRecipient
  rw [h.poweredOn, h.rxFreqAt, h.txFreqAt]

theorem Static.freqOk {w0 w : World} (h : Static w0 w) (fn : Nat) (hok : Spec.FreqOk w0 fn) :
    Spec.FreqOk w fn := by
  intro k hk
  rw [h.rxFreqAt, h.txFreqAt]
  exact hok k (by have := h.2.1; omega)

theorem getFreq_of_freqOk {w : World} {fn : Nat} (hok : Spec.FreqOk w fn) {t : Trx} (ht : t ∈ w.trxs) :
    (∃ f, t.getTxFreq fn = .ok f) ∧ ∃ f, t.getRxFreq fn = .ok f := by
  obtain ⟨k, hk⟩ := List.getElem?_of_mem ht
  have h := hok k (List.getElem?_eq_some_iff.1 hk).1
  unfold Spec.rxFreqAt Spec.txFreqAt at h
  rw [hk] at h
  dsimp only at h
  unfold Trx.getTxFreq Trx.getRxFreq
  constructor
  · cases hf : t.hop.getTxFreq fn with
    | ok f => exact ⟨f, rfl⟩
    | error e => rw [hf] at h; cases h.2
  · cases hf : t.hop.getRxFreq fn with
    | ok f => exact ⟨f, rfl⟩
    | error e => rw [hf] at h; cases h.1

theorem txFreqAt_of_getTxFreq {w : World} {j fn : Nat} {src : Trx} {f : Option Int}
    (hj : w.trxs[j]? = some src) (h : src.getTxFreq fn = .ok f) : Spec.txFreqAt w j fn = some f := by
  unfold Spec.txFreqAt
  unfold Trx.getTxFreq at h
  rw [hj]
  dsimp only
  cases hf : src.hop.getTxFreq fn with
  | ok f' => rw [hf] at h; cases h; rfl
  | error e => rw [hf] at h; cases h

/-! ### `forwardMsg` as a fold of `handleDataMsg` -/

/-- hand the burst to the transceivers `ks`, one after the other (world threaded, outputs
concatenated): per transceiver `rx_msg.trans(ver = trx.data_if._hdr_ver)`, then `handle_data_msg` -/
def handleSeq (j : Nat) (msg : Trxd.TxMsg) : World → List Nat → Except Exc (World × List Dgram)
  | w, [] => .ok (w, [])
  | w, k :: ks =>
    match w.trxs[k]? with
    | none => .error .indexError
    | some trx =>
      match msg.trans (some trx.hdrVer) with
      | .error e => .error (ofTrxdExc e)
      | .ok rx =>
        match handleDataMsg w k j msg rx with
        | .error e => .error e
        | .ok (w, ds) =>
          match handleSeq j msg w ks with
          | .error e => .error e
          | .ok (w, ds') => .ok (w, ds ++ ds')

theorem handleSeq_cons_ok {j : Nat} {m : Trxd.TxMsg} {w w' : World} {k : Nat} {ks : List Nat}
    {out : List Dgram} (h : handleSeq j m w (k :: ks) = .ok (w', out)) :
    ∃ r rx w1 dk ds, w.trxs[k]? = some r ∧ m.trans (some r.hdrVer) = .ok rx ∧
      handleDataMsg w k j m rx = .ok (w1, dk) ∧ handleSeq j m w1 ks = .ok (w', ds) ∧ out = dk ++ ds := by
  simp only [handleSeq] at h
  split at h
  · cases h
  · rename_i r hr
    split at h
    · cases h
    · rename_i rx hrx
      split at h
      · cases h
      · rename_i w1 dk hh
        split at h
        · cases h
        · rename_i ds hrest
          cases h
          exact ⟨r, rx, w1, dk, ds, hr, hrx, hh, hrest, rfl⟩

theorem isRecipient_iff (w : World) (j fn k : Nat) (trx : Trx) (txf : Option Int)
    (hk : w.trxs[k]? = some trx) (htx : Spec.txFreqAt w j fn = some txf) :
    Spec.isRecipient w j fn k = true ↔
      k ≠ j ∧ trx.running = true ∧ trx.getRxFreq fn = .ok txf := by
  unfold Spec.isRecipient Spec.poweredOn Spec.rxFreqAt Trx.getRxFreq
  rw [hk, htx]
  cases hf : trx.hop.getRxFreq fn with
  | error e => simp [hf]
  | ok f => simp [hf, and_assoc]

/-- the reads of one round of the loop, in the vocabulary of the specification -/
theorem fwdRead_eq {w : World} {j fn k : Nat} {trx : Trx} {txf : Option Int} (msg : Trxd.TxMsg)
    (hk : w.trxs[k]? = some trx) (hrx : ∃ f, trx.getRxFreq fn = .ok f)
    (htx : Spec.txFreqAt w j fn = some txf) :
    Sched.fwdRead w j msg fn txf k =
      if Spec.isRecipient w j fn k then
        match msg.trans (some trx.hdrVer) with
        | .error e => .error (ofTrxdExc e)
        | .ok rx => .ok (some rx)
      else .ok none := by
  obtain ⟨f, hf⟩ := hrx
  have hrec := isRecipient_iff w j fn k trx txf hk htx
  unfold Sched.fwdRead
  by_cases hsel : Spec.isRecipient w j fn k = true
  · obtain ⟨h1, h2, h3⟩ := hrec.1 hsel
    rw [if_pos hsel, if_neg h1, hk]
    dsimp only
    rw [if_neg (fun h => h h2), h3]
    dsimp only
    rw [if_neg (fun h => h rfl)]
    rfl
  · rw [if_neg hsel]
    by_cases h1 : k = j
    · rw [if_pos h1]
    rw [if_neg h1, hk]
    dsimp only
    by_cases h2 : trx.running = true
    · rw [if_neg (fun h => h h2), hf]
      dsimp only
      rw [if_pos (fun e => hsel (hrec.2 ⟨h1, h2, by rw [hf, e]⟩))]
    · rw [if_pos h2]

theorem go_eq (j fn : Nat) (txf : Option Int) (msg : Trxd.TxMsg) (ks : List Nat) :
    ∀ (w : World) (acc : List Dgram), (∀ k ∈ ks, k < w.trxs.length) → Spec.FreqOk w fn →
      Spec.txFreqAt w j fn = some txf →
      forwardMsg.go j fn txf msg w acc ks =
        match handleSeq j msg w (ks.filter (Spec.isRecipient w j fn)) with
        | .error e => .error e
        | .ok (w', ds) => .ok (w', acc ++ ds) := by
  induction ks with
  | nil => intro w acc _ _ _; simp [forwardMsg.go, handleSeq]
  | cons k ks ih =>
    intro w acc hlen hok htx
    have hlen' : ∀ k ∈ ks, k < w.trxs.length := fun k' h => hlen k' (List.mem_cons_of_mem _ h)
    obtain ⟨trx, htrx⟩ := getElem?_of_lt (hlen k (List.mem_cons_self ..))
    rw [forwardMsg_go_cons, List.filter_cons,
      fwdRead_eq msg htrx (getFreq_of_freqOk hok (List.mem_of_getElem? htrx)).2 htx]
    by_cases hsel : Spec.isRecipient w j fn k = true
    · rw [if_pos hsel, if_pos hsel]
      simp only [handleSeq, htrx]
      cases msg.trans (some trx.hdrVer) with
      | error e => rfl
      | ok rx =>
        dsimp only
        cases hh : handleDataMsg w k j msg rx with
        | error e => rfl
        | ok p =>
          obtain ⟨w', ds⟩ := p
          have hst := (handleDataMsg_frame hh).static
          dsimp only
          rw [ih w' (acc ++ ds) (fun k' h => by rw [hst.2.1]; exact hlen' k' h) (hst.freqOk fn hok)
            (by rw [hst.txFreqAt]; exact htx), funext (hst.isRecipient j fn)]
          cases handleSeq j msg w' (List.filter (Spec.isRecipient w j fn) ks) with
          | error e => rfl
          | ok p => simp only [List.append_assoc]
    · rw [if_neg hsel, if_neg hsel]
      exact ih w acc hlen' hok htx

/-- what the forwarder hands on: the sender's message, without burst bits when the sender is muted -/
def fwdInput (src : Trx) (msg : Trxd.TxMsg) : Trxd.TxMsg :=
  if src.rfMuted then { msg with burst := none } else msg

/-- `forwardMsg` is `handleDataMsg` for exactly the transceivers of `Spec.recipients`, in list
order, with the world threaded through the calls -/
theorem forwardMsg_eq (w : World) (j : Nat) (msg : Trxd.TxMsg) (src : Trx) (fnI : Int)
    (hj : w.trxs[j]? = some src) (hfn : msg.fn = some fnI) (hok : Spec.FreqOk w fnI.toNat) :
    forwardMsg w j msg = handleSeq j (fwdInput src msg) w (Spec.recipients w j fnI.toNat) := by
  obtain ⟨txf, htxf⟩ := (getFreq_of_freqOk hok (List.mem_of_getElem? hj)).1
  obtain ⟨ver, fn', tn, pwr, burst⟩ := msg
  dsimp only at hfn
  subst hfn
  simp only [forwardMsg, hj, htxf]
  rw [go_eq j fnI.toNat txf _ _ w [] (fun k hk => List.mem_range.1 hk) hok (txFreqAt_of_getTxFreq hj htxf)]
  unfold Spec.recipients fwdInput
  generalize handleSeq j _ w _ = r
  cases r with
  | error e => rfl
  | ok p => simp only [List.nil_append]

/-! ### codec facts used by the burst path (from the definitions of `Model/Trxd.lean`) -/

/-- the regenerated `ubit2sbit` table: octet 0 ↦ +127, every other octet ↦ −127 -/
theorem tabUbit2sbit_eq : Gen.Trxd.tabUbit2sbit = (List.range 256).map Spec.softOf := by decide +kernel

theorem trans_burst (s : Trxd.TxMsg) (v : Int) (bits : List Nat) (hb : s.burst = some bits)
    (h : ∀ b ∈ bits, b < 256) :
    s.trans (some v) = .ok { Trxd.RxMsg.fresh with fn := s.fn, tn := s.tn, ver := v,
                                                   burst := some (bits.map Spec.softOf) } := by
  unfold Trxd.TxMsg.trans
  rw [hb]
  dsimp only
  rw [Trxd.ubit2sbit, tabUbit2sbit_eq, Trxd.translate_range_map Spec.softOf bits h]

/-- `TxMsg.trans(ver)` of a message without burst bits: a NOPE indication -/
theorem trans_noburst (s : Trxd.TxMsg) (v : Int) (hb : s.burst = none) :
    s.trans (some v) = .ok { Trxd.RxMsg.fresh with fn := s.fn, tn := s.tn, ver := v, nopeInd := true } := by
  unfold Trxd.TxMsg.trans
  rw [hb]

/-! ### one forwarding call against the property-level description -/

/-- datagrams the DATA socket of `t` emits for the outcome of `gen_msg` (ValueError: nothing) -/
def dgramsOf (t : Trx) (g : Except Trxd.Exc Trxd.Bytes) : List Dgram :=
  match g with
  | .ok b => [dataDgram t b]
  | .error _ => []

theorem sendMsg_dgramsOf (t : Trx) (m : Trxd.RxMsg) (l : Bool) (ds : List Dgram)
    (h : sendMsg t m l = .ok ds) : ds = dgramsOf t (m.genMsg l) := by
  rcases sendMsg_ok h with ⟨b, hb, hd⟩ | ⟨hb, hd⟩
  · rw [hd, hb]; rfl
  · rw [hd, hb]; rfl

/-- version-1 fields of a forwarded burst: modulation by burst length, TSC / TSC set by
`TrainingSeqGMSK.pick` (0, 0 when nothing matches or the modulation is not GMSK) -/
def V1Meta (r : Trx) (bits : List Nat) (m : Trxd.RxMsg) : Prop :=
  1 ≤ r.hdrVer →
    m.modType = Trxd.Modulation.pickByBl bits.length ∧
    m.tsc = some (tscOf (Trxd.Modulation.pickByBl bits.length) bits).1 ∧
    m.tscSet = some (tscOf (Trxd.Modulation.pickByBl bits.length) bits).2

/-- what recipient `r` emits for the burst `s` (frame `fn`, bits `bits`) transmitted by `src` -/
structure CallSpec (r src : Trx) (s : Trxd.TxMsg) (fn : Int) (bits : List Nat) (dk : List Dgram) :
    Prop where
  supp_v0 : Spec.suppressed src r fn = true → r.hdrVer < 1 → dk = []
  supp_v1 : Spec.suppressed src r fn = true → 1 ≤ r.hdrVer →
    ∃ cm, Spec.IsNope r.hdrVer s.fn s.tn cm ∧ dk = dgramsOf r (cm.genMsg false)
  fwd : Spec.suppressed src r fn = false →
    ∃ cm, Spec.FwdMeta src r s.fn s.tn s.pwr bits cm ∧ V1Meta r bits cm ∧
      dk = dgramsOf r (cm.genMsg true)

/-- effect of the call on the world: a simulated loss decrements the counter of `k`, a mute leaves
everything alone, a forwarded burst only advances the randomness stream -/
def CallWorld (w : World) (k : Nat) (r src : Trx) (fn : Int) (w' : World) : Prop :=
  (src.rfMuted = true ∨ r.rfMuted = true → w' = w) ∧
  (src.rfMuted = false → r.rfMuted = false → Spec.dropDue r fn = true → w' = decDrop w k) ∧
  (Spec.suppressed src r fn = false → DrawOnly w w')

theorem suppressOut_spec (r : Trx) (rx : Trxd.RxMsg) (ds : List Dgram)
    (h : suppressOut r rx = .ok ds) :
    (rx.ver < 1 → ds = []) ∧
    (1 ≤ rx.ver → ∃ cm, Spec.IsNope rx.ver rx.fn rx.tn cm ∧ ds = dgramsOf r (cm.genMsg false)) := by
  unfold suppressOut at h
  split at h
  · rename_i hv
    injection h with h
    exact ⟨fun _ => h.symm, fun h1 => by omega⟩
  · rename_i hv
    exact ⟨fun h1 => absurd h1 hv, fun _ => ⟨nopeMsg rx, ⟨rfl, rfl, rfl, rfl, rfl, rfl, rfl, rfl⟩, sendMsg_dgramsOf _ _ _ _ h⟩⟩

theorem Completed.fwdMeta {r src : Trx} {s : Trxd.TxMsg} {bits : List Nat} {rx cm : Trxd.RxMsg}
    (hc : Completed r src s rx cm) (hb : s.burst = some bits) (hfn : rx.fn = s.fn) (htn : rx.tn = s.tn)
    (hver : rx.ver = r.hdrVer) (hbu : rx.burst = some (bits.map Spec.softOf)) :
    Spec.FwdMeta src r s.fn s.tn s.pwr bits cm ∧ V1Meta r bits cm := by
  refine ⟨⟨hc.fn_eq.trans hfn, hc.tn_eq.trans htn, hc.ver_eq.trans hver, hc.nope_eq,
    hc.burst_eq.trans hbu, hc.rssi_ok, hc.toa_ok, fun hv => hc.ci_ok (hver ▸ hv)⟩, fun hv => ?_⟩
  obtain ⟨bits', hb', h⟩ := hc.v1_ok (hver ▸ hv)
  rw [hb] at hb'; cases hb'
  exact h

theorem suppressed_of_dropDue {src r : Trx} {fn : Int} (h : Spec.dropDue r fn = true) :
    Spec.suppressed src r fn = true := by
  simp only [Spec.suppressed, h, Bool.or_true]

/-- recipient `k` (= `r`) of world `w` is handed the burst `s` (frame `fn`, octets `bits`) of sender
`j` (= `src`) by the forwarder — `rx` is `rx_msg.trans(ver = r's header version)` of the message
the forwarder hands on — and the call returns normally with world `w'` and datagrams `dk` -/
structure FwdCall (w : World) (k j : Nat) (s : Trxd.TxMsg) (r src : Trx) (fn : Int)
    (bits : List Nat) (rx : Trxd.RxMsg) (w' : World) (dk : List Dgram) : Prop where
  hk : w.trxs[k]? = some r
  hj : w.trxs[j]? = some src
  hwf : Spec.DropWF r
  hfn : s.fn = some fn
  hb : s.burst = some bits
  hbits : ∀ b ∈ bits, b < 256
  hrx : (fwdInput src s).trans (some r.hdrVer) = .ok rx
  h : handleDataMsg w k j (fwdInput src s) rx = .ok (w', dk)

section
variable {w : World} {k j : Nat} {s : Trxd.TxMsg} {r src : Trx} {fn : Int} {bits : List Nat}
  {rx : Trxd.RxMsg} {w' : World} {dk : List Dgram}

/-- what `trans()` makes of the message handed on: a NOPE indication iff the sender is muted -/
theorem FwdCall.rx_eq (c : FwdCall w k j s r src fn bits rx w' dk) :
    rx.ver = r.hdrVer ∧ rx.fn = s.fn ∧ rx.tn = s.tn ∧ rx.nopeInd = src.rfMuted ∧
    (src.rfMuted = false → fwdInput src s = s ∧ rx.burst = some (bits.map Spec.softOf)) := by
  have hrx := c.hrx
  unfold fwdInput at hrx ⊢
  cases hm : src.rfMuted
  · rw [hm, if_neg Bool.false_ne_true, trans_burst s _ bits c.hb c.hbits] at hrx
    cases hrx
    exact ⟨rfl, rfl, rfl, rfl, fun _ => ⟨rfl, rfl⟩⟩
  · rw [hm, if_pos rfl, trans_noburst _ _ rfl] at hrx
    cases hrx
    exact ⟨rfl, rfl, rfl, rfl, fun h => nomatch h⟩

/-- one call of the forwarding loop, decided by `Spec.suppressed`: the NOPE branch (a simulated loss
consumes a drop, a mute does not) or the completion branch -/
theorem FwdCall.eq (c : FwdCall w k j s r src fn bits rx w' dk) :
    handleDataMsg w k j (fwdInput src s) rx =
      if Spec.suppressed src r fn then
        match suppressOut r rx with
        | .ok ds => .ok (if src.rfMuted || r.rfMuted then w else decDrop w k, ds)
        | .error e => .error e
      else passOn w r src s rx := by
  obtain ⟨_, hfn', _, hnope, hin⟩ := c.rx_eq
  unfold Spec.suppressed
  cases hsm : src.rfMuted
  · rw [(hin hsm).1]
    rw [hsm] at hnope
    cases hrm : r.rfMuted
    · rw [handleDataMsg_planStep j s c.hk hrm hnope (by rw [hfn', c.hfn]) c.hwf, planStep, c.hk, c.hj]
      cases Spec.dropDue r fn <;> rfl
    · rw [handleDataMsg_muted w k j s rx r src c.hk c.hj (.inl hrm)]
      rfl
  · rw [hsm] at hnope
    rw [handleDataMsg_muted w k j _ rx r src c.hk c.hj (.inr hnope)]
    rfl

/-- the output and the effect on the world of one call are as the properties demand -/
theorem FwdCall.spec (c : FwdCall w k j s r src fn bits rx w' dk) :
    CallSpec r src s fn bits dk ∧ CallWorld w k r src fn w' := by
  have h := c.h
  rw [c.eq] at h
  obtain ⟨hver, hfn', htn', _, hin⟩ := c.rx_eq
  cases hs : Spec.suppressed src r fn
  · rw [hs, if_neg Bool.false_ne_true] at h
    obtain ⟨⟨hsm, hrm⟩, hd⟩ : (src.rfMuted = false ∧ r.rfMuted = false) ∧ Spec.dropDue r fn = false := by
      simpa only [Spec.suppressed, Bool.or_eq_false_iff] using hs
    obtain ⟨cm, hsend, hdo, hc⟩ := passOn_ok h
    obtain ⟨m1, m2⟩ := hc.fwdMeta c.hb hfn' htn' hver (hin hsm).2
    refine ⟨⟨fun hn => Bool.noConfusion (hs.symm.trans hn), fun hn => Bool.noConfusion (hs.symm.trans hn),
      fun _ => ⟨cm, m1, m2, sendMsg_dgramsOf _ _ _ _ hsend⟩⟩,
      fun hn => ?_, fun _ _ hn => Bool.noConfusion (hd.symm.trans hn), fun _ => hdo.drawOnly⟩
    rcases hn with hn | hn
    · exact Bool.noConfusion (hsm.symm.trans hn)
    · exact Bool.noConfusion (hrm.symm.trans hn)
  · rw [hs, if_pos rfl] at h
    split at h
    · rename_i ds hso
      cases h
      obtain ⟨s0, s1⟩ := suppressOut_spec r rx _ hso
      rw [hver, hfn', htn'] at s1
      rw [hver] at s0
      refine ⟨⟨fun _ => s0, fun _ => s1, fun hn => Bool.noConfusion (hs.symm.trans hn)⟩,
        fun hn => ?_, fun h1 h2 _ => by rw [h1, h2]; rfl, fun hn => Bool.noConfusion (hs.symm.trans hn)⟩
      have : (src.rfMuted || r.rfMuted) = true := by
        rcases hn with hn | hn
        · rw [hn]; rfl
        · rw [hn, Bool.or_true]
      rw [this]; rfl
    · cases h
end

/-! ### the sequence of calls made by `forwardMsg` -/

/-- `handleSeq`: one call per listed transceiver; every call sees its own and the sender's
record exactly as they were at the start (earlier calls touch other transceivers only) -/
theorem handleSeq_calls (j : Nat) (m : Trxd.TxMsg) (w0 : World) (P : Nat → List Dgram → Prop)
    (step : ∀ (w : World) (k : Nat) (r : Trx) (rx : Trxd.RxMsg) (w' : World) (dk : List Dgram),
      w.trxs[k]? = w0.trxs[k]? → w.trxs[j]? = w0.trxs[j]? → w.trxs[k]? = some r →
      m.trans (some r.hdrVer) = .ok rx → handleDataMsg w k j m rx = .ok (w', dk) → P k dk) :
    ∀ (ks : List Nat) (w : World), ks.Nodup → j ∉ ks →
      (∀ i, i ∈ ks ∨ i = j → w.trxs[i]? = w0.trxs[i]?) →
      ∀ (w' : World) (out : List Dgram), handleSeq j m w ks = .ok (w', out) →
        ∃ calls : List (Nat × List Dgram), calls.map Prod.fst = ks ∧
          out = (calls.map Prod.snd).flatten ∧ ∀ c ∈ calls, P c.1 c.2 := by
  intro ks
  induction ks with
  | nil => intro w _ _ _ w' out h; cases h; exact ⟨[], rfl, rfl, fun c hc => by cases hc⟩
  | cons k ks ih =>
    intro w hnd hj hsame w' out h
    rw [List.nodup_cons] at hnd
    obtain ⟨r, rx, w1, dk, ds, hr, hrx, hh, hrest, rfl⟩ := handleSeq_cons_ok h
    have hkj : k ≠ j := fun e => hj (by rw [← e]; exact List.mem_cons_self ..)
    have hPk : P k dk := step w k r rx w1 dk (hsame k (.inl (List.mem_cons_self ..)))
      (hsame j (.inr rfl)) hr hrx hh
    have hsame' : ∀ i, i ∈ ks ∨ i = j → w1.trxs[i]? = w0.trxs[i]? := by
      intro i hi
      have hik : i ≠ k := by
        rcases hi with hi | hi
        · exact fun e => hnd.1 (by rw [← e]; exact hi)
        · rw [hi]; exact fun e => hkj e.symm
      rw [handleDataMsg_others hh i hik]
      exact hsame i (hi.elim (fun h => .inl (List.mem_cons_of_mem _ h)) .inr)
    obtain ⟨calls, c1, c2, c3⟩ := ih w1 hnd.2 (fun h => hj (List.mem_cons_of_mem _ h)) hsame' _ _ hrest
    refine ⟨(k, dk) :: calls, by rw [List.map_cons, c1], by rw [List.map_cons, List.flatten_cons, c2], ?_⟩
    intro c hc
    rcases List.mem_cons.1 hc with hc | hc
    · rw [hc]; exact hPk
    · exact c3 c hc

/-! ### counting datagrams per DATA peer -/

theorem toDataPeer_iff {w : World} (hd : Spec.DistinctDataPorts w) {i k : Nat} {ti tk : Trx}
    (hi : w.trxs[i]? = some ti) (hk : w.trxs[k]? = some tk) (b : List Nat) :
    Spec.toDataPeer ti (dataDgram tk b) = true ↔ i = k := by
  constructor
  · intro h
    simp only [Spec.toDataPeer, dataDgram, Trx.dataPort, Bool.and_eq_true, beq_iff_eq] at h
    refine (List.getElem?_inj ?_ hd).1 ?_
    · rw [List.length_map]; exact (List.getElem?_eq_some_iff.1 hi).1
    · rw [List.getElem?_map, List.getElem?_map, hi, hk, Option.map_some, Option.map_some, ← h.2,
        show ti.basePort + 2 * ti.childIdx + 2 = tk.basePort + 2 * tk.childIdx + 2 by omega]
  · intro e
    subst e
    rw [hi] at hk; cases hk
    exact toDataPeer_dataDgram ti b

theorem deliveredTo_oneToPeer {w : World} (hd : Spec.DistinctDataPorts w) {i k : Nat} {ti tk : Trx}
    (hi : w.trxs[i]? = some ti) (hk : w.trxs[k]? = some tk) {dk : List Dgram} (h : OneToPeer tk dk) :
    Spec.deliveredTo ti dk = if i = k then dk.length else 0 := by
  rcases h with rfl | ⟨b, rfl⟩
  · exact (ite_self 0).symm
  · simp only [Spec.deliveredTo, List.countP_cons, List.countP_nil, toDataPeer_iff hd hi hk b, Nat.zero_add,
      List.length_singleton]

theorem deliveredTo_calls {w : World} (hd : Spec.DistinctDataPorts w) {i : Nat} {ti : Trx}
    (hi : w.trxs[i]? = some ti) :
    ∀ calls : List (Nat × List Dgram),
      (∀ c ∈ calls, ∃ r, w.trxs[c.1]? = some r ∧ OneToPeer r c.2) →
      (i ∉ calls.map Prod.fst → Spec.deliveredTo ti (calls.map Prod.snd).flatten = 0) ∧
      ((calls.map Prod.fst).Nodup → ∀ dk, (i, dk) ∈ calls →
        Spec.deliveredTo ti (calls.map Prod.snd).flatten = dk.length) := by
  intro calls
  induction calls with
  | nil => intro _; exact ⟨fun _ => rfl, fun _ dk h => by cases h⟩
  | cons c calls ih =>
    intro hall
    obtain ⟨r, hr, hone⟩ := hall c (List.mem_cons_self ..)
    obtain ⟨ih0, ih1⟩ := ih (fun c' hc' => hall c' (List.mem_cons_of_mem _ hc'))
    have hsplit : Spec.deliveredTo ti ((c :: calls).map Prod.snd).flatten =
        (if i = c.1 then c.2.length else 0) + Spec.deliveredTo ti (calls.map Prod.snd).flatten := by
      rw [← deliveredTo_oneToPeer hd hi hr hone]
      simp only [Spec.deliveredTo, List.map_cons, List.flatten_cons, List.countP_append]
    rw [hsplit, List.map_cons, List.mem_cons, List.nodup_cons]
    constructor
    · intro hni
      rw [if_neg (fun e => hni (.inl e)), ih0 (fun h => hni (.inr h))]
    · intro hnd dk hmem
      rcases List.mem_cons.1 hmem with hc | hc
      · subst hc
        rw [if_pos rfl, ih0 hnd.1]
        rfl
      · rw [if_neg (fun e => hnd.1 (by rw [← e]; exact List.mem_map.2 ⟨(i, dk), hc, rfl⟩)), ih1 hnd.2 dk hc,
          Nat.zero_add]

/-! ### `forwardMsg` against the property-level description -/

theorem recipients_nodup (w : World) (j fn : Nat) : (Spec.recipients w j fn).Nodup :=
  List.Nodup.sublist List.filter_sublist List.nodup_range

theorem mem_recipients (w : World) (j fn k : Nat) :
    k ∈ Spec.recipients w j fn ↔ k < w.trxs.length ∧ Spec.isRecipient w j fn k = true := by
  simp only [Spec.recipients, List.mem_filter, List.mem_range]

theorem sender_not_recipient (w : World) (j fn : Nat) : j ∉ Spec.recipients w j fn := by
  intro h
  have := ((mem_recipients w j fn j).1 h).2
  simp [Spec.isRecipient] at this

/-- the standing hypotheses of a forwarding step: transceiver `j` (= `src`) of world `w` transmits
the burst `s` (frame `fn`, octets `bits`), every frequency resolves in that frame, the drop
parameters are well-formed, and `forward_msg` returns normally with world `w'` and output `out` -/
structure FwdStep (w : World) (j : Nat) (s : Trxd.TxMsg) (src : Trx) (fn : Int) (bits : List Nat)
    (w' : World) (out : List Dgram) : Prop where
  hj : w.trxs[j]? = some src
  hfn : s.fn = some fn
  hb : s.burst = some bits
  hbits : ∀ b ∈ bits, b < 256
  hok : Spec.FreqOk w fn.toNat
  hwf : ∀ t ∈ w.trxs, Spec.DropWF t
  h : forwardMsg w j s = .ok (w', out)

section
variable {w : World} {j : Nat} {s : Trxd.TxMsg} {src : Trx} {fn : Int} {bits : List Nat}
  {w' : World} {out : List Dgram}

/-- the calls `forwardMsg` makes: exactly one per member of `Spec.recipients`, in list order; the
output is the concatenation of the calls' outputs, each of which is as `CallSpec` demands -/
theorem FwdStep.calls (c : FwdStep w j s src fn bits w' out) :
    ∃ calls : List (Nat × List Dgram),
      calls.map Prod.fst = Spec.recipients w j fn.toNat ∧
      out = (calls.map Prod.snd).flatten ∧
      ∀ c ∈ calls, ∃ r, w.trxs[c.1]? = some r ∧ CallSpec r src s fn bits c.2 ∧ OneToPeer r c.2 := by
  have h := c.h
  rw [forwardMsg_eq w j s src fn c.hj c.hfn c.hok] at h
  refine handleSeq_calls j (fwdInput src s) w
    (fun k dk => ∃ r, w.trxs[k]? = some r ∧ CallSpec r src s fn bits dk ∧ OneToPeer r dk) ?_
    _ w (recipients_nodup ..) (sender_not_recipient _ _ _) (fun _ _ => rfl) w' out h
  intro w1 k r rx w2 dk hk1 hj1 hr hrx hh
  have hr0 : w.trxs[k]? = some r := by rw [← hk1]; exact hr
  obtain ⟨cs, _⟩ := FwdCall.spec ⟨hr, by rw [hj1]; exact c.hj, c.hwf r (List.mem_of_getElem? hr0),
    c.hfn, c.hb, c.hbits, hrx, hh⟩
  obtain ⟨r', _, hr', _, hone, _⟩ := handleDataMsg_ok hh
  rw [hr] at hr'; cases hr'
  exact ⟨r, hr0, cs, hone⟩

/-- per transceiver: the datagrams of the output that go to its DATA peer are exactly the output
of its own call (none when it is not a recipient) -/
theorem FwdStep.delivered (c : FwdStep w j s src fn bits w' out) (hd : Spec.DistinctDataPorts w)
    (k : Nat) (tk : Trx) (hk : w.trxs[k]? = some tk) :
    (k ∉ Spec.recipients w j fn.toNat → Spec.deliveredTo tk out = 0) ∧
    (k ∈ Spec.recipients w j fn.toNat →
      ∃ dk, CallSpec tk src s fn bits dk ∧ OneToPeer tk dk ∧ Spec.deliveredTo tk out = dk.length ∧
        ∀ d ∈ dk, d ∈ out) := by
  obtain ⟨calls, c1, c2, c3⟩ := c.calls
  obtain ⟨d0, d1⟩ := deliveredTo_calls hd hk calls
    (fun c hc => by obtain ⟨r, hr, _, hone⟩ := c3 c hc; exact ⟨r, hr, hone⟩)
  rw [← c1, c2]
  refine ⟨d0, fun hm => ?_⟩
  obtain ⟨c, hc, hck⟩ := List.mem_map.1 hm
  obtain ⟨r, hr, hcs, hone⟩ := c3 c hc
  rw [hck, hk] at hr; cases hr
  exact ⟨c.2, hcs, hone, d1 (by rw [c1]; exact recipients_nodup ..) c.2 (by rw [← hck]; exact hc),
    fun d hd' => List.mem_flatten.2 ⟨c.2, List.mem_map.2 ⟨c, hc, rfl⟩, hd'⟩⟩
end

/-- `DATAInterface.send_msg`: one datagram iff the message validates -/
theorem dgramsOf_genMsg (r : Trx) (m : Trxd.RxMsg) (l : Bool) :
    (m.validate = .ok () ∧ ∃ b, m.genMsg l = .ok b ∧ dgramsOf r (m.genMsg l) = [dataDgram r b]) ∨
    (m.validate ≠ .ok () ∧ dgramsOf r (m.genMsg l) = []) := by
  cases hv : m.validate with
  | ok u =>
    obtain ⟨b, hb⟩ := Trxd.RxMsg.genMsg_ok m l ((Trxd.RxMsg.validate_iff m).1 hv)
    exact .inl ⟨rfl, b, hb, by rw [hb]; rfl⟩
  | error e =>
    refine .inr ⟨(fun h => nomatch h), ?_⟩
    simp only [Trxd.RxMsg.genMsg, hv, bind, Except.bind]
    rfl

/-- legacy mode only appends the two padding octets of version 0 -/
theorem genMsg_legacy (m : Trxd.RxMsg) :
    m.genMsg true = match m.genMsg false with
      | .ok b => .ok (if m.ver = 0 then b ++ [0, 0] else b)
      | .error e => .error e := by
  simp only [Trxd.RxMsg.genMsg, bind, Except.bind, pure, Except.pure, Trxd.appendLegacy]
  cases m.validate with
  | error e => rfl
  | ok u =>
    dsimp only
    cases Trxd.genCommon m.ver m.fn m.tn with
    | error e => rfl
    | ok b0 =>
      dsimp only
      cases m.appendHdrTo b0 with
      | error e => rfl
      | ok b1 =>
        dsimp only
        cases m.appendBurstTo b1 with
        | error e => rfl
        | ok b2 => simp

/-! ### the NOPE indication -/

section
open OsmoVerif.Trxd OsmoVerif.Spec.TrxdRanges
/-- octets of a NOPE.ind on a version-1 link: header, RSSI 110, ToA256 0, MTS 0x80, C/I −30 -/
theorem isNope_genMsg (cm : RxMsg) (fn tn : Int) (l : Bool) (h : Spec.IsNope 1 (some fn) (some tn) cm)
    (f0 : 0 ≤ fn) (f1 : fn < 2715648) (t0 : 0 ≤ tn) (t1 : tn ≤ 7) :
    cm.validate = .ok () ∧ cm.genMsg l = .ok (Spec.nopeOctets fn.toNat tn.toNat) := by
  obtain ⟨ver, fn', tn', rssi, toa, mod, nope, set, tsc, ci, burst⟩ := cm
  obtain ⟨h1, h2, h3, h4, h5, h6, h7, h8⟩ := h
  dsimp only at h1 h2 h3 h4 h5 h6 h7 h8
  subst h1 h2 h3 h4 h5 h6 h7 h8
  have hin : InRangeRx ⟨1, some fn, some tn, some (-110), some 0, mod, true, set, tsc, some (-30), none⟩ := by
    refine ⟨.inr rfl, ?_, ?_, ?_, ?_, ?_, ?_⟩
    · show 0 ≤ fn ∧ fn ≤ 2715647; omega
    · exact ⟨t0, t1⟩
    · show (-120 : Int) ≤ -110 ∧ (-110 : Int) ≤ -47; decide
    · show (-32768 : Int) ≤ 0 ∧ (0 : Int) ≤ 32767; decide
    · intro h; cases h
    · intro _
      refine ⟨?_, ?_⟩
      · show (-1280 : Int) ≤ -30 ∧ (-30 : Int) ≤ 1280; decide
      · simp only [if_true]
  refine ⟨(RxMsg.validate_iff _).2 hin, ?_⟩
  obtain ⟨f, hf, hg⟩ := RxMsg.genMsg_layout _ l hin (by intro b hb; cases hb)
  rw [hg]
  have hc : ¬ ¬ ((0 : Int) ≤ 1 ∧ 0 ≤ fn ∧ 0 ≤ tn) := by omega
  simp only [RxMsg.fields?, hc, if_false, if_true, Option.some.injEq] at hf
  subst hf
  simp [Spec.nopeOctets, Spec.TrxdLayout.layoutRx, Spec.TrxdLayout.hdr, Spec.TrxdLayout.be32,
    Spec.TrxdLayout.s16be, Spec.TrxdLayout.mtsOctet, Spec.TrxdLayout.pad]
end

/-! ### the drop plan of a stream (C18) -/

theorem planStep_trx {w w1 : World} {k : Nat} {tk : Trx} {d : Bool} {b : Burst} {ds : List Dgram}
    (hk : w.trxs[k]? = some tk) (h : planStep k w d b = .ok (w1, ds)) :
    w1.trxs[k]? = some { tk with dropAmount := tk.dropAmount - if d then 1 else 0 } := by
  unfold planStep at h
  rw [hk] at h
  cases hj : w.trxs[b.1]? with
  | none => rw [hj] at h; cases h
  | some src =>
    rw [hj] at h
    cases d with
    | true =>
      simp only [if_true] at h
      split at h
      · cases h
        rw [decDrop_getElem?, if_pos rfl, hk]
        rfl
      · cases h
    | false =>
      simp only [Bool.false_eq_true, if_false, Int.sub_zero] at h ⊢
      obtain ⟨_, _, hdo, _⟩ := passOn_ok h
      rw [hdo.trxs]
      exact hk

theorem dropPlanFrom_cons (n : Nat) (p : Int) (seen : Nat) (fn : Int) (fns : List Int) :
    Spec.dropPlanFrom n p seen (fn :: fns) =
      (decide (p ∣ fn) && decide (seen < n)) ::
        Spec.dropPlanFrom n p (if p ∣ fn then seen + 1 else seen) fns := by
  rw [Spec.dropPlanFrom]
  split <;> simp [*]

theorem drop_exact_aux (k : Nat) (n : Nat) (p : Int) (hp : 1 ≤ p) :
    ∀ (stream : List Burst) (fns : List Int) (w : World) (tk : Trx) (seen : Nat),
      w.trxs[k]? = some tk → tk.rfMuted = false → tk.dropPeriod = p →
      tk.dropAmount = ((n - seen : Nat) : Int) →
      (∀ b ∈ stream, b.2.2.nopeInd = false) →
      stream.map (fun b => b.2.2.fn) = fns.map some →
      handleStream k w stream = planStream k w ((Spec.dropPlanFrom n p seen fns).zip stream) := by
  intro stream
  induction stream with
  | nil =>
    intro fns w tk seen _ _ _ _ _ _
    simp only [handleStream, List.zip_nil_right, planStream]
  | cons b rest ih =>
    intro fns w tk seen hk hm hper hamt hnope hfns
    obtain ⟨j, s, m⟩ := b
    cases fns with
    | nil => simp at hfns
    | cons fn fns =>
      simp only [List.map_cons, List.cons.injEq] at hfns
      -- the model's test `0 < burst_drop_amount ∧ period ∣ fn` is the plan's `period ∣ fn ∧ seen < n`
      have hd : Spec.dropDue tk fn = (decide (p ∣ fn) && decide (seen < n)) := by
        have : (0 < tk.dropAmount) ↔ seen < n := by omega
        simp only [Spec.dropDue, this, hper, Bool.and_comm]
      rw [dropPlanFrom_cons, List.zip_cons_cons]
      simp only [handleStream, planStream]
      rw [handleDataMsg_planStep j s hk hm (hnope _ (List.mem_cons_self ..)) hfns.1 ⟨by omega, by omega⟩, hd]
      cases hstep : planStep k w (decide (p ∣ fn) && decide (seen < n)) (j, s, m) with
      | error e => rfl
      | ok r =>
        obtain ⟨w1, ds⟩ := r
        dsimp only
        rw [ih fns w1 _ (if p ∣ fn then seen + 1 else seen) (planStep_trx hk hstep) hm hper ?_
          (fun b hb => hnope b (List.mem_cons_of_mem _ hb)) hfns.2]
        dsimp only
        by_cases h1 : p ∣ fn <;> by_cases h2 : seen < n <;> simp only [h1, h2, decide_true, decide_false,
          Bool.and_self, Bool.and_false, Bool.false_and, if_true, if_false, Bool.false_eq_true] <;> omega

/-! ### the drop plan (pure list facts about `Spec.dropPlan`) -/

theorem dropPlanFrom_length (n : Nat) (p : Int) : ∀ (fns : List Int) (seen : Nat),
    (Spec.dropPlanFrom n p seen fns).length = fns.length := by
  intro fns
  induction fns with
  | nil => intro _; rfl
  | cons fn fns ih => intro seen; rw [dropPlanFrom_cons, List.length_cons, ih, List.length_cons]

/-- burst `i` is suppressed iff its frame number is a multiple of the period and fewer than `n`
earlier bursts of the stream were (counting `seen` from before the stream) -/
theorem dropPlanFrom_getElem (n : Nat) (p : Int) : ∀ (fns : List Int) (seen i : Nat),
    (Spec.dropPlanFrom n p seen fns)[i]? = some true ↔
      ∃ fn, fns[i]? = some fn ∧ p ∣ fn ∧ seen + (fns.take i).countP (fun f => decide (p ∣ f)) < n := by
  intro fns
  induction fns with
  | nil => intro seen i; simp [Spec.dropPlanFrom]
  | cons fn fns ih =>
    intro seen i
    rw [dropPlanFrom_cons]
    cases i with
    | zero => simp
    | succ i =>
      rw [List.getElem?_cons_succ, ih, List.getElem?_cons_succ, List.take_succ_cons, List.countP_cons]
      by_cases hd : p ∣ fn <;> simp [hd, Nat.add_assoc, Nat.add_comm 1]

/-- number of suppressed bursts: `n`, or all multiples of the period if there are fewer -/
theorem dropPlanFrom_count (n : Nat) (p : Int) : ∀ (fns : List Int) (seen : Nat),
    (Spec.dropPlanFrom n p seen fns).count true =
      min (n - seen) (fns.countP (fun f => decide (p ∣ f))) := by
  intro fns
  induction fns with
  | nil => intro seen; simp [Spec.dropPlanFrom]
  | cons fn fns ih =>
    intro seen
    rw [dropPlanFrom_cons, List.count_cons, ih, List.countP_cons]
    by_cases hd : p ∣ fn <;> by_cases hlt : seen < n <;> simp [hd, hlt] <;> omega

/-! ### effect of a planned stream on the drop counter -/

theorem planStream_counter (k : Nat) : ∀ (plan : List (Bool × Burst)) (w : World) (tk : Trx)
    (w' : World) (outs : List (List Dgram)), w.trxs[k]? = some tk →
    planStream k w plan = .ok (w', outs) →
    w'.trxs[k]? = some { tk with dropAmount := tk.dropAmount - ((plan.map Prod.fst).count true : Nat) } ∧
    outs.length = plan.length := by
  intro plan
  induction plan with
  | nil =>
    intro w tk w' outs hk h
    cases h
    exact ⟨by rw [hk]; simp, rfl⟩
  | cons x plan ih =>
    intro w tk w' outs hk h
    obtain ⟨d, b⟩ := x
    simp only [planStream] at h
    split at h
    · cases h
    · rename_i w1 ds hstep
      split at h
      · cases h
      · rename_i w2 outs' hrest
        cases h
        obtain ⟨a, b⟩ := ih _ _ _ _ (planStep_trx hk hstep) hrest
        refine ⟨?_, by simp only [List.length_cons, b]⟩
        rw [a]
        cases d
        · simp
        · simp only [List.map_cons, List.count_cons_self, if_true]
          congr 2
          omega

/-! ### mute (C18) -/

/-- a muted sender: the forwarder strips the burst, every recipient's call takes the NOPE branch
and the world is untouched -/
theorem handleSeq_noburst (j : Nat) (m : Trxd.TxMsg) (hm : m.burst = none) :
    ∀ (ks : List Nat) (w w' : World) (out : List Dgram),
      handleSeq j m w ks = .ok (w', out) → w' = w := by
  intro ks
  induction ks with
  | nil => intro w w' out h; cases h; rfl
  | cons k ks ih =>
    intro w w' out h
    obtain ⟨r, rx, w1, dk, ds, hr, hrx, hh, hrest, _⟩ := handleSeq_cons_ok h
    rw [trans_noburst m _ hm] at hrx
    cases hrx
    cases (handleDataMsg_muted_ok hh hr (.inr rfl)).1
    exact ih _ _ _ hrest

/-! ### FAKE_DROP argument handling (C18) -/

open OsmoVerif.PyStr in
/-- a FAKE_DROP argument that is not a number: `int()` raises ValueError before any assignment -/
theorem ctrl_fake_drop1_nan (a : Str) (ha : toInt a = .error .valueError) :
    ctrlCmdHandler [lit "FAKE_DROP", a] = .error .valueError := by
  rw [ctrlCmdHandler_fake_drop1, ha]
  rfl

/-! ### training sequence detection (C10) -/

abbrev TsEntry := String × Nat × String × List Nat × Nat

/-- the matching predicate of `TrainingSeqGMSK.pick` -/
def tsMatch (burst : List Nat) (e : TsEntry) : Bool :=
  (e.2.2.1 == "NORMAL" && e.2.2.2.1 == sliceFrom burst (3 + 57 + 1) 26) ||
  (e.2.2.1 == "ACCESS" && e.2.2.2.1 == sliceFrom burst 8 41) ||
  (e.2.2.1 == "SYNC" && e.2.2.2.1 == sliceFrom burst (3 + 39) 64)

theorem trainSeqPick_eq (burst : List Nat) :
    trainSeqPick burst = (Gen.World.trainSeqs.find? (tsMatch burst)).map (fun e => (e.2.1, e.2.2.2.2)) := by
  unfold trainSeqPick
  have : (fun (x : TsEntry) => match x with
      | (_, _, bt, seq, _) =>
        (bt == "NORMAL" && seq == sliceFrom burst (3 + 57 + 1) 26) ||
        (bt == "ACCESS" && seq == sliceFrom burst 8 41) ||
        (bt == "SYNC" && seq == sliceFrom burst (3 + 39) 64)) = tsMatch burst := by
    funext x; obtain ⟨a, b, c, d, e⟩ := x; rfl
  simp only [this]
  cases Gen.World.trainSeqs.find? (tsMatch burst) with
  | none => rfl
  | some e => obtain ⟨a, b, c, d, f⟩ := e; rfl

theorem tsMatch_iff (burst : List Nat) (e : TsEntry) : tsMatch burst e = true ↔ Spec.presentAt e burst := by
  obtain ⟨nm, tsc, bt, seq, set⟩ := e
  simp only [tsMatch, Spec.presentAt, Spec.tsPos, sliceFrom, Bool.or_eq_true, Bool.and_eq_true, beq_iff_eq]
  by_cases h1 : bt = "NORMAL"
  · subst h1; simp [eq_comm]
  by_cases h2 : bt = "SYNC"
  · subst h2; simp [eq_comm]
  by_cases h3 : bt = "ACCESS"
  · subst h3; simp [eq_comm]
  simp [h1, h2, h3]

/-- whatever `pick` returns is a table sequence that is present at its position in the burst -/
theorem trainSeqPick_present (burst : List Nat) (t s : Nat) (h : trainSeqPick burst = some (t, s)) :
    ∃ e ∈ Gen.World.trainSeqs, e.2.1 = t ∧ e.2.2.2.2 = s ∧ Spec.presentAt e burst := by
  rw [trainSeqPick_eq] at h
  cases hf : Gen.World.trainSeqs.find? (tsMatch burst) with
  | none => rw [hf] at h; cases h
  | some e =>
    rw [hf] at h
    simp only [Option.map_some, Option.some.injEq, Prod.mk.injEq] at h
    exact ⟨e, List.mem_of_find?_eq_some hf, h.1, h.2, (tsMatch_iff burst e).1 (List.find?_some hf)⟩

/-- if a table sequence is present at its position, `pick` finds one (the first in enumeration
order); if it is the only one present, exactly that one -/
theorem trainSeqPick_of_present (burst : List Nat) (e : TsEntry) (he : e ∈ Gen.World.trainSeqs)
    (hp : Spec.presentAt e burst) :
    (∃ e' ∈ Gen.World.trainSeqs, Spec.presentAt e' burst ∧ trainSeqPick burst = some (e'.2.1, e'.2.2.2.2)) ∧
    ((∀ e' ∈ Gen.World.trainSeqs, Spec.presentAt e' burst → e' = e) →
      trainSeqPick burst = some (e.2.1, e.2.2.2.2)) := by
  have hsome : (Gen.World.trainSeqs.find? (tsMatch burst)).isSome := by
    rw [List.find?_isSome]
    exact ⟨e, he, (tsMatch_iff burst e).2 hp⟩
  obtain ⟨e', he'⟩ := Option.isSome_iff_exists.1 hsome
  have hm := List.mem_of_find?_eq_some he'
  have hp' := (tsMatch_iff burst e').1 (List.find?_some he')
  have hr : trainSeqPick burst = some (e'.2.1, e'.2.2.2.2) := by rw [trainSeqPick_eq, he']; rfl
  refine ⟨⟨e', hm, hp', hr⟩, fun hu => ?_⟩
  rw [hr, hu e' hm hp']

/-- every table entry is of a burst type with a training-sequence position, as long as that
position prescribes, and has a TSC in 0..7 and TSC set 0 -/
theorem trainSeqs_table : ∀ e ∈ Gen.World.trainSeqs,
    (Spec.tsPos e.2.2.1).map Prod.snd = some e.2.2.2.1.length ∧ e.2.1 ≤ 7 ∧ e.2.2.2.2 = 0 := by
  decide +kernel

/-- a table sequence preceded by as many bits as its burst type prescribes is present at its position -/
theorem presentAt_append {e : TsEntry} (he : e ∈ Gen.World.trainSeqs) {pos len : Nat}
    (hpos : Spec.tsPos e.2.2.1 = some (pos, len)) (a b : List Nat) (ha : a.length = pos) :
    Spec.presentAt e (a ++ e.2.2.2.1 ++ b) := by
  have h' := (trainSeqs_table e he).1
  rw [hpos] at h'
  cases h'
  unfold Spec.presentAt
  rw [hpos]
  dsimp only
  rw [← ha, List.append_assoc, List.drop_left, List.take_left]

/-! ### modulation by burst length, table facts (C10) -/

/-- `Modulation.pick_by_bl`: the FIRST enum member with that burst length -/
theorem pickByBl_first (b : Int) (mod : Trxd.Modulation) (h : Trxd.Modulation.pickByBl b = some mod) :
    (mod.bl : Int) = b ∧ ∀ m' : Trxd.Modulation, m'.val < mod.val → (m'.bl : Int) ≠ b := by
  unfold Trxd.Modulation.pickByBl at h
  obtain ⟨hp, as, bs, hl, hbefore⟩ := List.find?_eq_some_iff_append.1 h
  refine ⟨by simpa using hp, fun m' hlt => ?_⟩
  have hm' : m' ∈ as := by
    have hall : m' ∈ Trxd.Modulation.all := List.mem_finRange m'
    rw [hl] at hall
    rcases List.mem_append.1 hall with h1 | h1
    · exact h1
    · exfalso
      -- `all` is strictly increasing, so everything from `mod` on is ≥ mod
      have hsorted : (Trxd.Modulation.all).Pairwise (· < ·) := by decide
      rw [hl] at hsorted
      have := (List.pairwise_append.1 hsorted).2.1
      rcases List.mem_cons.1 h1 with h2 | h2
      · rw [h2] at hlt; exact Nat.lt_irrefl _ hlt
      · have := (List.pairwise_cons.1 this).1 m' h2
        exact Nat.lt_irrefl _ (Nat.lt_trans hlt this)
  simpa using hbefore m' hm'

theorem pickByBl_none (b : Int) (h : Trxd.Modulation.pickByBl b = none) :
    ∀ m : Trxd.Modulation, (m.bl : Int) ≠ b := by
  unfold Trxd.Modulation.pickByBl at h
  intro m
  have := List.find?_eq_none.1 h m (List.mem_finRange m)
  simpa using this

/-- 148 symbols: GMSK; 444: 8-PSK -/
theorem pickByBl_values :
    Trxd.Modulation.pickByBl 148 = some Trxd.Modulation.gmsk ∧
    (Trxd.Modulation.pickByBl 148).map Trxd.Modulation.name = some "ModGMSK" ∧
    (Trxd.Modulation.pickByBl 444).map Trxd.Modulation.name = some "Mod8PSK" := by decide

/-! ### validation of the forwarded message, exact routing -/

theorem tscOf_range (mod : Option Trxd.Modulation) (bits : List Nat) :
    (tscOf mod bits).2 = 0 ∧ 0 ≤ (tscOf mod bits).1 ∧ (tscOf mod bits).1 ≤ 7 := by
  unfold tscOf
  split
  · cases h : trainSeqPick bits with
    | none => exact ⟨rfl, by decide, by decide⟩
    | some p =>
      obtain ⟨t, s⟩ := p
      obtain ⟨e, he, h1, h2, _⟩ := trainSeqPick_present bits t s h
      obtain ⟨_, h3, h4⟩ := trainSeqs_table e he
      dsimp only
      rw [← h1, ← h2, h4]
      exact ⟨rfl, by omega, by omega⟩
  · exact ⟨rfl, by decide, by decide⟩

open OsmoVerif.Spec.TrxdRanges in
/-- a forwarded message whose simulated metadata stay inside the protocol ranges validates -/
theorem fwdMeta_validate (src r : Trx) (fn tn : Int) (pwr : Option Int) (bits : List Nat)
    (cm : Trxd.RxMsg) (hm : Spec.FwdMeta src r (some fn) (some tn) pwr bits cm)
    (hv1 : V1Meta r bits cm) (hok : Spec.RadioOk src r pwr bits.length)
    (f0 : 0 ≤ fn) (f1 : fn < 2715648) (n0 : 0 ≤ tn) (n1 : tn ≤ 7) : cm.validate = .ok () := by
  obtain ⟨hver, hlen, hr0, hr1, ht0, ht1, hci⟩ := hok
  obtain ⟨v, hv, hva, hvb⟩ := hm.rssi_ok
  obtain ⟨d, hd, hd0, hd1⟩ := hm.toa_ok
  have hvr : -120 ≤ v ∧ v ≤ -47 := by
    cases hf : r.fakeRssi with
    | false =>
      obtain ⟨a, ha, hv'⟩ := hva hf
      have h01 := hr0 hf
      rw [ha] at h01
      dsimp only at h01
      omega
    | true =>
      have := hvb hf
      have := hr1 hf
      omega
  have hbl : (bits.map Spec.softOf).length = bits.length := List.length_map _
  rw [Trxd.RxMsg.validate_iff]
  refine ⟨by rw [hm.ver_eq]; exact hver, by rw [hm.fn_eq]; exact ⟨f0, by omega⟩,
    by rw [hm.tn_eq]; exact ⟨n0, n1⟩, by rw [hv]; exact hvr, by rw [hd]; exact ⟨by omega, by omega⟩,
    fun _ => by rw [hm.bits_eq]; show _ ∨ _; rw [hbl]; exact hlen, fun hc1 => ?_⟩
  have h1 : r.hdrVer = 1 := by rw [← hm.ver_eq]; exact hc1
  obtain ⟨c, hc, c0, c1⟩ := hm.ci_ok (by omega)
  obtain ⟨m1, m2, m3⟩ := hv1 (by omega)
  obtain ⟨q0, q1, q2⟩ := tscOf_range (Trxd.Modulation.pickByBl bits.length) bits
  have hci' := hci h1
  obtain ⟨mod, hmod⟩ : ∃ mod, Trxd.Modulation.pickByBl bits.length = some mod := by
    rcases hlen with h | h
    · rw [h]; exact ⟨_, pickByBl_values.1⟩
    · rw [h]; exact ⟨⟨1, by decide⟩, by decide⟩
  have hmbl : mod.bl = bits.length := by exact_mod_cast (pickByBl_first _ _ hmod).1
  rw [hmod] at q0 q1 q2
  refine ⟨by rw [hc]; exact ⟨by omega, by omega⟩, ?_⟩
  rw [hm.nope_eq]
  simp only [Bool.false_eq_true, if_false, InRangeMts, m1, hmod, m3, m2, hm.bits_eq, q0]
  refine ⟨?_, ⟨q1, q2⟩, ?_⟩
  · split <;> exact ⟨by decide, by decide⟩
  · show modLen mod.coding = some _
    rw [Trxd.modLen_coding, hbl, hmbl]

/-! ### the TRXC handlers establish the well-formedness hypotheses -/

/-- the well-formedness hypotheses of the burst-path theorems -/
def SimWF (t : Trx) : Prop := Spec.DropWF t ∧ Spec.ThrNonneg t

theorem simWF_default (addr port idx : Nat) (mgt clk : Bool) :
    SimWF { addr := addr, basePort := port, childIdx := idx, childMgt := mgt, hasClock := clk } := by
  simp only [SimWF, Spec.DropWF, Spec.ThrNonneg]
  decide

theorem patch_apply_simWF {p : Patch} {t : Trx} (hp : PatchSane p) (hwf : SimWF t) : SimWF (p.apply t) := by
  obtain ⟨⟨d0, d1⟩, t0, t1, t2⟩ := hwf
  cases p with
  | toa b th => exact ⟨⟨d0, d1⟩, hp, t1, t2⟩
  | rssi b th => exact ⟨⟨d0, d1⟩, t0, hp, t2⟩
  | ci b th => exact ⟨⟨d0, d1⟩, t0, t1, hp⟩
  | drop n per => exact ⟨hp, t0, t1, t2⟩
  | _ => exact ⟨⟨d0, d1⟩, t0, t1, t2⟩

/-! ### DATA ports of a built world -/

/-- (remote address, DATA port) of a transceiver -/
def portKey (t : Trx) : Nat × Nat := (t.addr, t.basePort + 2 * t.childIdx + 2)

/-- the (address, DATA port) pairs of a built world are those of BTS, MS and the `--trx`
definitions, in order -/
theorem build_keys {seed : Nat} {extra : List (Nat × Nat × Nat)} {w : World}
    (h : build seed extra = .ok w) :
    w.trxs.map portKey = ([(addrBts, btsPort, 0), (addrBb, bbPort, 0)] ++ extra).map Spec.defKey :=
  (WorldPower.build_induction
    (P := fun ds ts =>
      ts.map portKey = ([(addrBts, btsPort, 0), (addrBb, bbPort, 0)] ++ ds).map Spec.defKey)
    rfl
    (fun ds ts a p hP _ => by
      rw [← List.append_assoc, List.map_append, List.map_append, hP]; rfl)
    (fun ds ts a p c q hP _ _ _ => by
      rw [map_modify_eq portKey (WorldPower.addChild ts.length) (fun _ => rfl), ← List.append_assoc,
        List.map_append, List.map_append, hP]; rfl) h).1

end OsmoVerif.World

/-! ### concrete worlds for the non-vacuity examples of Props/C02, C10, C18 -/

namespace OsmoVerif.World.Examples
open OsmoVerif OsmoVerif.World

/-- BTS-side transceiver, powered on, tuned -/
def bts : Trx := { addr := 1, basePort := 5700, childIdx := 0, childMgt := true, hasClock := true,
                   running := true, rxFreq := some 890000000, txFreq := some 935000000 }
/-- MS-side transceiver tuned to the BTS, TRXDv1 -/
def ms : Trx := { addr := 2, basePort := 6700, childIdx := 0, childMgt := false, hasClock := true,
                  running := true, rxFreq := some 935000000, txFreq := some 890000000, hdrVer := 1 }
/-- a second MS, tuned like the first but powered off -/
def msIdle : Trx := { ms with basePort := 7700, running := false }
/-- a third MS, powered on but listening elsewhere -/
def msDetuned : Trx := { ms with basePort := 8700, rxFreq := some 936000000 }
/-- a fourth MS: tuned, running, version 0, two simulated burst losses pending on even frames -/
def msDrop : Trx := { ms with basePort := 9700, hdrVer := 0, dropAmount := 2, dropPeriod := 2 }
/-- a fifth MS: tuned, running, version 1, muted -/
def msMuted : Trx := { ms with basePort := 10700, rfMuted := true }
/-- a sixth MS: tuned, running, version 1, FAKE_RSSI / FAKE_TOA / FAKE_CI windows -/
def msFake : Trx := { ms with basePort := 11700, fakeRssi := true, rssiBase := -80, rssiThr := 5,
                              toaBase := 100, toaThr := 20, ciBase := 100, ciThr := 10 }

def world : World := { trxs := [bts, ms, msIdle, msDetuned, msDrop, msMuted, msFake], seed := 7 }

def nbBits : List Nat :=
  Spec.nbLayout (List.replicate 57 1) 0 [0,1,0,0,0,1,1,1,1,0,1,1,0,1,0,0,0,1,0,0,0,1,1,1,1,0] 1
    (List.replicate 57 0)
def burst (fn : Int) : Trxd.TxMsg :=
  { ver := 0, fn := some fn, tn := some 2, pwr := some 10, burst := some nbBits }

def outOf (r : Except Exc (World × List Dgram)) : List Dgram :=
  match r with | .ok (_, out) => out | .error _ => []

def hop2 : Option (Hopping.HoppingParams (Int × Int)) :=
  match Hopping.pyInit 5 0 [(890000000, 935000000), (891000000, 936000000)] with
  | .ok hp => some hp
  | .error _ => none
def btsHop : Trx := { bts with fh := hop2 }
def worldHop : World := { trxs := [btsHop, ms, msDetuned] }

theorem exists_of_isOk {ε α : Type} (x : Except ε α) (h : x.isOk = true) : ∃ v, x = .ok v := by
  cases x with
  | ok v => exact ⟨v, rfl⟩
  | error e => cases h

/-- frame numbers of a stream of five bursts from the BTS -/
def streamFns : List Int := [51, 52, 54, 55, 56]

/-- what `trans(ver = 0)` makes of the example burst -/
def rxOf (fn : Int) : Trxd.RxMsg :=
  { Trxd.RxMsg.fresh with fn := some fn, tn := some 2, ver := 0, burst := some (nbBits.map Spec.softOf) }

/-- the stream handed to `msDrop` (transceiver 4) -/
def stream : List Burst := streamFns.map (fun fn => (0, burst fn, rxOf fn))

/-- the example world meets the standing hypotheses of the routing theorems for a burst of the BTS
in frame 52 (evaluated once for the examples of Props/C02) -/
theorem world_hyps : Spec.FreqOk world 52 ∧ Spec.DistinctDataPorts world ∧
    (∀ t ∈ world.trxs, Spec.DropWF t) ∧ (∀ b ∈ nbBits, b < 256) ∧
    (∀ k ∈ Spec.recipients world 0 52, ∀ r, world.trxs[k]? = some r →
      Spec.RadioOk bts r (burst 52).pwr nbBits.length) ∧
    (forwardMsg world 0 (burst 52)).isOk = true := by
  refine ⟨?_, ?_, ?_, ?_, ?_, ?_⟩ <;> decide +kernel

/-- the example stream meets the hypotheses of the drop-plan theorems (evaluated once for the
examples of Props/C18) -/
theorem stream_hyps : world.trxs[4]? = some msDrop ∧ msDrop.rfMuted = false ∧
    msDrop.dropAmount = (2 : Nat) ∧ msDrop.dropPeriod = 2 ∧ (∀ b ∈ stream, b.2.2.nopeInd = false) ∧
    stream.map (fun b => b.2.2.fn) = streamFns.map some ∧
    (handleStream 4 world stream).isOk = true := by
  refine ⟨rfl, rfl, rfl, rfl, ?_, ?_, ?_⟩ <;> decide +kernel

end OsmoVerif.World.Examples
