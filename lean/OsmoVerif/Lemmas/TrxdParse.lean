/-
Helper lemmas for C14 (parser half): `TxMsg.parse_msg` / `RxMsg.parse_msg` of `OsmoVerif.Model.Trxd` on
ARBITRARY octet strings.  The model is failure tagged (`b[i]` -> IndexError, `struct.unpack` on a slice
of the wrong size -> struct.error, the `HDR_LEN` property on an unhandled version -> IndexError, a
table lookup in `bytes.translate` -> IndexError); these lemmas show which tags are reachable:
only `ValueError`, and exactly for the datagrams described by `TxMalformed` / `RxMalformed`
(literal numbers of the TRXD layout, not taken from the code).
-/
import OsmoVerif.Lemmas.Trxd
namespace OsmoVerif.Trxd

theorem index_ok (b : Bytes) (i : Nat) (h : i < b.length) : index b i = .ok b[i] := by
  simp only [index, List.getElem?_eq_getElem h]

theorem slice_length {α} (b : List α) (i j : Nat) (h : j ≤ b.length) : (slice b i j).length = j - i := by
  simp only [slice, List.length_drop, List.length_take]; omega

/-- the version nibble of a datagram (`msg[0] >> 4`), `none` for the empty datagram -/
def verNibble (b : Bytes) : Option Nat := b[0]?.map (· >>> 4)

theorem verNibble_cons (o0 : Nat) (rest : Bytes) : verNibble (o0 :: rest) = some (o0 / 16) := by
  simp only [verNibble, List.getElem?_cons_zero, Option.map_some, Nat.shiftRight_eq_div_pow]

theorem ok_or_valueError {α : Type} (p : Except Exc α) (herr : ∀ e, p = .error e → e = .valueError) :
    (∃ m, p = .ok m) ∨ p = .error .valueError := by
  cases p with
  | ok m => exact Or.inl ⟨m, rfl⟩
  | error e => cases herr e rfl; exact Or.inr rfl

/-! ### TxMsg.parse_msg -/

/-- a Tx datagram the layout cannot hold: shorter than the 6 header octets, or a version nibble other
than 0 / 1 -/
def TxMalformed (b : Bytes) : Prop := b.length < 6 ∨ ∀ v ∈ verNibble b, ¬ v < 2
instance (b : Bytes) : Decidable (TxMalformed b) := by unfold TxMalformed; infer_instance

/-- `TxMsg().parse_msg(b)` on ANY octet list: `ValueError` exactly when the datagram is malformed, a
message of the version in its first octet otherwise.  `hdr[5]` is behind the `HDR_LEN` check, `HDR_LEN`'s
own IndexError is behind the version check. -/
theorem TxMsg.parseMsg_cases (b : Bytes) :
    (TxMsg.parseMsg b = .error .valueError ∧ TxMalformed b) ∨
    (∃ m, TxMsg.parseMsg b = .ok m ∧ ¬ TxMalformed b ∧ verNibble b = some m.ver.toNat ∧
      (m.ver = 0 ∨ m.ver = 1)) := by
  by_cases h6 : b.length < 6
  · exact Or.inl ⟨TxMsg.parseMsg_short b h6, Or.inl h6⟩
  · obtain ⟨o0, f0, f1, f2, f3, rest, rfl⟩ := exists_cons5 b (by omega)
    obtain ⟨p, bits, rfl⟩ := List.exists_cons_of_length_pos (l := rest)
      (by simp only [List.length_cons] at h6; omega)
    unfold TxMalformed
    simp only [TxMsg.parseMsg_cons, verNibble_cons, Option.mem_def, Option.some.injEq, forall_eq']
    by_cases hv : o0 / 16 < 2
    · rw [if_pos hv]
      exact Or.inr ⟨_, rfl, fun h => h.elim h6 (absurd hv), by simp only [Int.toNat_natCast],
        by show ((o0 / 16 : Nat) : Int) = 0 ∨ ((o0 / 16 : Nat) : Int) = 1; omega⟩
    · rw [if_neg hv]
      exact Or.inl ⟨rfl, Or.inr hv⟩

theorem TxMsg.parseMsg_err (b : Bytes) (e : Exc) (h : TxMsg.parseMsg b = .error e) : e = .valueError := by
  rcases TxMsg.parseMsg_cases b with ⟨he, _⟩ | ⟨m, hm, _⟩
  · rw [he] at h; cases h; rfl
  · rw [hm] at h; cases h

/-! ### RxMsg.parse_msg -/

theorem RxMsg.parseMts_ver (m : RxMsg) (mts : Nat) : (m.parseMts mts).ver = m.ver := by
  rw [parseMts_parts]

/-- an Rx datagram the layout cannot hold: shorter than the header of its version (8 octets for
version 0, 11 for version 1), a version nibble other than 0 / 1, or (version 0, which has no modulation
field) a burst whose length fits no modulation with or without the two legacy octets -/
def RxMalformed (b : Bytes) : Prop :=
  b.length < 8 ∨ (∀ v ∈ verNibble b, ¬ v < 2) ∨ (verNibble b = some 1 ∧ b.length < 11) ∨
  (verNibble b = some 0 ∧ 8 < b.length ∧ RxMsg.guessMod ((b.length - 8 : Nat) : Int) = none)
instance (b : Bytes) : Decidable (RxMalformed b) := by unfold RxMalformed; infer_instance

/-- for a datagram with the 8 octets every Rx header has: what is left of `RxMalformed` -/
theorem rxMalformed_cons (o0 f0 f1 f2 f3 r t0 t1 : Nat) (soft : Bytes) :
    RxMalformed (o0 :: f0 :: f1 :: f2 :: f3 :: r :: t0 :: t1 :: soft) ↔
      ¬ o0 / 16 < 2 ∨ (o0 / 16 = 1 ∧ soft.length < 3) ∨
      (o0 / 16 = 0 ∧ soft ≠ [] ∧ RxMsg.guessMod (soft.length : Int) = none) := by
  have hl : soft.length + 1 + 1 + 1 + 1 + 1 + 1 + 1 + 1 - 8 = soft.length := by omega
  have hne : soft ≠ [] ↔ 0 < soft.length := List.length_pos_iff.symm
  unfold RxMalformed
  simp only [verNibble_cons, Option.mem_def, Option.some.injEq, forall_eq', List.length_cons, hl, hne]
  constructor
  · rintro (h | h | ⟨h, h'⟩ | ⟨h, h', hg⟩)
    · omega
    · exact Or.inl h
    · exact Or.inr (Or.inl ⟨h, by omega⟩)
    · exact Or.inr (Or.inr ⟨h, by omega, hg⟩)
  · rintro (h | ⟨h, h'⟩ | ⟨h, h', hg⟩)
    · exact Or.inr (Or.inl h)
    · exact Or.inr (Or.inr (Or.inl ⟨h, by omega⟩))
    · exact Or.inr (Or.inr (Or.inr ⟨h, by omega, hg⟩))

/-- `self.parse_msg(b)` of an `RxMsg` on ANY octet string (elements < 256): `ValueError` exactly when
the datagram is malformed, a message of the version in its first octet otherwise. -/
theorem RxMsg.parseMsgFrom_cases (self : RxMsg) (b : Bytes) (hb : ∀ x ∈ b, x < 256) :
    (self.parseMsgFrom b = .error .valueError ∧ RxMalformed b) ∨
    (∃ m, self.parseMsgFrom b = .ok m ∧ ¬ RxMalformed b ∧ verNibble b = some m.ver.toNat ∧
      (m.ver = 0 ∨ m.ver = 1)) := by
  by_cases h8 : b.length < 8
  · exact Or.inl ⟨RxMsg.parseMsgFrom_short self b h8, Or.inl h8⟩
  obtain ⟨o0, f0, f1, f2, f3, rest, rfl⟩ := exists_cons5 b (by omega)
  obtain ⟨r, t0, t1, soft, rfl⟩ := exists_cons3 rest (by simp only [List.length_cons] at h8; omega)
  have hsoft : ∀ x ∈ soft, x < 256 := fun x hx => hb x (List.mem_append_right [o0, f0, f1, f2, f3, r, t0, t1] hx)
  rw [rxMalformed_cons, verNibble_cons]
  by_cases hv : o0 / 16 < 2
  · rcases (by omega : o0 / 16 = 0 ∨ o0 / 16 = 1) with h0 | h1
    · -- version 0: the burst, if any, must have a length some modulation has
      rw [RxMsg.parseMsgFrom_v0 _ h0, h0]
      by_cases hs : soft = []
      · rw [if_pos hs]
        refine Or.inr ⟨_, rfl, ?_, rfl, Or.inl rfl⟩
        rintro (h | ⟨h, _⟩ | ⟨_, h, _⟩)
        · omega
        · omega
        · exact h hs
      · rw [if_neg hs, RxMsg.parseBurst_v0 hsoft rfl]
        cases hg : RxMsg.guessMod (soft.length : Int) with
        | none => exact Or.inl ⟨rfl, Or.inr (Or.inr ⟨rfl, hs, rfl⟩)⟩
        | some mod =>
          refine Or.inr ⟨_, rfl, ?_, rfl, Or.inl rfl⟩
          rintro (h | ⟨h, _⟩ | ⟨_, _, h⟩)
          · omega
          · omega
          · cases h
    · -- version 1: the three further header octets must be there
      rw [h1]
      by_cases h11 : soft.length < 3
      · rw [RxMsg.parseMsgFrom_v1_short _ h1 (by simp only [List.length_cons]; omega)]
        exact Or.inl ⟨rfl, Or.inr (Or.inl ⟨rfl, h11⟩)⟩
      · have hnm : ¬ (¬ 1 < 2 ∨ (1 = 1 ∧ soft.length < 3) ∨
            (1 = 0 ∧ soft ≠ [] ∧ RxMsg.guessMod (soft.length : Int) = none)) := by
          rintro (h | ⟨_, h⟩ | ⟨h, _⟩) <;> omega
        obtain ⟨mts, c0, c1, soft', rfl⟩ := exists_cons3 soft (by omega)
        have hsoft' : ∀ x ∈ soft', x < 256 := fun x hx => hsoft x (List.mem_append_right [mts, c0, c1] hx)
        rw [RxMsg.parseMsgFrom_v1 _ h1]
        by_cases hs : soft' = []
        · rw [if_pos hs]
          exact Or.inr ⟨_, rfl, hnm, by simp only [RxMsg.parseMts_ver]; rfl,
            Or.inr (by simp only [RxMsg.parseMts_ver])⟩
        · rw [if_neg hs, RxMsg.parseBurst_v1 hsoft' (by simp only [RxMsg.parseMts_ver]; decide)]
          exact Or.inr ⟨_, rfl, hnm, by simp only [RxMsg.parseMts_ver]; rfl,
            Or.inr (by simp only [RxMsg.parseMts_ver])⟩
  · rw [RxMsg.parseMsgFrom_badver _ hv]
    exact Or.inl ⟨rfl, Or.inl hv⟩

theorem RxMsg.parseMsgFrom_err (self : RxMsg) (b : Bytes) (hb : ∀ x ∈ b, x < 256) (e : Exc)
    (h : self.parseMsgFrom b = .error e) : e = .valueError := by
  rcases RxMsg.parseMsgFrom_cases self b hb with ⟨he, _⟩ | ⟨m, hm, _⟩
  · rw [he] at h; cases h; rfl
  · rw [hm] at h; cases h

/-! ### the burst lengths version 0 accepts, as literal numbers -/

theorem pickByBl_none_iff (n : Nat) :
    (Modulation.pickByBl (n : Int) = none ↔ n ∉ [148, 444, 148, 592, 740, 296]) ∧
    (Modulation.pickByBl ((n : Int) - 2) = none ↔ n ∉ [150, 446, 150, 594, 742, 298]) := by
  have hbl : Modulation.all.map (·.bl) = [148, 444, 148, 592, 740, 296] := by decide
  have hbl2 : Modulation.all.map (·.bl + 2) = [150, 446, 150, 594, 742, 298] := by decide
  have e1 : ∀ k : Nat, ((k : Int) = (n : Int)) ↔ k = n := fun k => by omega
  have e2 : ∀ k : Nat, ((k : Int) = (n : Int) - 2) ↔ k + 2 = n := fun k => by omega
  rw [← hbl, ← hbl2]
  simp only [Modulation.pickByBl, List.find?_eq_none, beq_iff_eq, List.mem_map, not_exists, not_and, e1, e2]
  exact ⟨trivial, trivial⟩

/-- version 0 guesses the modulation from the burst length: exactly the five burst lengths of the
modulations, each with or without the two legacy octets, are accepted -/
theorem guessMod_none_iff (n : Nat) :
    RxMsg.guessMod (n : Int) = none ↔ n ∉ [148, 150, 296, 298, 444, 446, 592, 594, 740, 742] := by
  have h : RxMsg.guessMod (n : Int) = none ↔
      Modulation.pickByBl (n : Int) = none ∧ Modulation.pickByBl ((n : Int) - 2) = none := by
    unfold RxMsg.guessMod
    cases Modulation.pickByBl (n : Int) <;> simp only [reduceCtorEq, true_and, false_and]
  simp only [h, pickByBl_none_iff, List.mem_cons, List.not_mem_nil, or_false, not_or]
  constructor <;> intro h <;> simp only [h, not_false_eq_true, and_self]

end OsmoVerif.Trxd
