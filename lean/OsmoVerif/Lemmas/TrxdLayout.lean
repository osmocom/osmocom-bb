/-
Lemmas for the Python half of C04: every datagram the parsers accept is interpreted per the protocol
layout (`Spec/TrxdLayoutRead.lean`).
-/
import OsmoVerif.Lemmas.Trxd
namespace OsmoVerif.Trxd
open OsmoVerif OsmoVerif.Spec.TrxdLayout

/-- C04 (Tx half): every datagram `TxMsg.parse_msg` accepts is interpreted per the protocol layout -/
theorem TxMsg.parse_inv_layout (b : Bytes) (m : TxMsg) (h : TxMsg.parseMsg b = .ok m) :
    ∃ f, readTx b = some f ∧ m.ver = f.ver ∧ m.fn = some (f.fn : Int) ∧ m.tn = some (f.tn : Int) ∧
      m.pwr = some (f.pwr : Int) ∧ (f.ver = 0 ∨ f.ver = 1) ∧
      m.burst = (if f.bits = [] then none else some (f.bits.take (txKeep f.bits.length))) := by
  by_cases h6 : b.length < 6
  · rw [TxMsg.parseMsg_short b h6] at h; cases h
  · obtain ⟨o0, f0, f1, f2, f3, rest, rfl⟩ := exists_cons5 b (by omega)
    obtain ⟨p, bits, rfl⟩ := List.exists_cons_of_length_pos (l := rest)
      (by simp only [List.length_cons] at h6; omega)
    rw [TxMsg.parseMsg_cons] at h
    split at h
    · rename_i hv
      cases h
      exact ⟨⟨o0 / 16, be32val f0 f1 f2 f3, o0 % 8, p, bits⟩, rfl, rfl, rfl, rfl, rfl,
        by show o0 / 16 = 0 ∨ o0 / 16 = 1; omega, rfl⟩
    · cases h

/-- the parsed modulation / TSC set agree with bits 6..3 of the MTS octet (an unassigned coding
7, 14 or 15 leaves the modulation unset) -/
def MtsModOk (mts : Nat) (mod : Option Modulation) (set : Option Int) : Prop :=
  match mod, set with
  | some mod, some set => 0 ≤ set ∧ (modOf mod.coding set.toNat).map Mod.bits = some (mts / 8 % 16)
  | none, some _ => mts / 8 % 16 = 7 ∨ mts / 8 % 16 = 14 ∨ mts / 8 % 16 = 15
  | _, none => False

instance (mts : Nat) (mod : Option Modulation) (set : Option Int) : Decidable (MtsModOk mts mod set) := by
  unfold MtsModOk; split <;> infer_instance

/-- what `parse_mts` reads from an MTS octet, in protocol terms: bit 7 = NOPE, bits 2..0 = TSC,
bits 6..3 = modulation and TSC set -/
theorem mtsParts_spec : ∀ mts : Fin 256,
    (mtsParts mts.val).1 = decide (mts.val / 128 = 1) ∧
    ((mtsParts mts.val).1 = false →
      (mtsParts mts.val).2.2.2 = some ((mts.val % 8 : Nat) : Int) ∧
      MtsModOk mts.val (mtsParts mts.val).2.1 (mtsParts mts.val).2.2.1) := by
  decide +kernel

theorem pickByBl_bl (x : Int) (mod : Modulation) (h : Modulation.pickByBl x = some mod) : (mod.bl : Int) = x := by
  unfold Modulation.pickByBl at h
  have := List.find?_some h
  simpa using this

theorem guessMod_bl (n : Nat) (mod : Modulation) (h : RxMsg.guessMod (n : Int) = some mod) :
    n = mod.bl ∨ n = mod.bl + 2 := by
  unfold RxMsg.guessMod at h
  cases h1 : Modulation.pickByBl (n : Int) with
  | some m1 =>
    simp only [h1, Option.some.injEq] at h
    subst h
    have := pickByBl_bl _ _ h1
    omega
  | none =>
    simp only [h1] at h
    have := pickByBl_bl _ _ h
    omega

theorem parseMts_spec (m : RxMsg) (mts : Nat) (h : mts < 256) :
    (m.parseMts mts).nopeInd = decide (mts / 128 = 1) ∧
    ((m.parseMts mts).nopeInd = false →
      (m.parseMts mts).tsc = some ((mts % 8 : Nat) : Int) ∧
      MtsModOk mts (m.parseMts mts).modType (m.parseMts mts).tscSet) ∧
    (m.parseMts mts).ver = m.ver ∧ (m.parseMts mts).fn = m.fn ∧ (m.parseMts mts).tn = m.tn ∧
    (m.parseMts mts).rssi = m.rssi ∧ (m.parseMts mts).toa256 = m.toa256 ∧ (m.parseMts mts).ci = m.ci ∧
    (m.parseMts mts).burst = m.burst := by
  have := mtsParts_spec ⟨mts, h⟩
  simp only at this
  rw [parseMts_parts]
  exact ⟨this.1, this.2, rfl, rfl, rfl, rfl, rfl, rfl, rfl⟩

/-- C04 (Rx half): every datagram `RxMsg().parse_msg` accepts is interpreted per the protocol layout -/
theorem RxMsg.parse_inv_layout (b : Bytes) (hb : ∀ x ∈ b, x < 256) (m : RxMsg)
    (h : RxMsg.parseMsg b = .ok m) :
    ∃ f, readRx b = some f ∧ m.ver = f.ver ∧ (f.ver = 0 ∨ f.ver = 1) ∧
      m.fn = some (f.fn : Int) ∧ m.tn = some (f.tn : Int) ∧ m.rssi = some f.rssi ∧ m.toa256 = some f.toa256 ∧
      (f.ver = 1 → ∃ mts, f.mts = some mts ∧ m.ci = f.ci ∧ m.nopeInd = decide (mts / 128 = 1) ∧
        (m.nopeInd = false → m.tsc = some ((mts % 8 : Nat) : Int) ∧ MtsModOk mts m.modType m.tscSet) ∧
        m.burst = (if f.soft = [] then none else some (f.soft.map softVal))) ∧
      (f.ver = 0 →
        (f.soft = [] ∧ m.burst = none) ∨
        (∃ mod, (f.soft.length = mod.bl ∨ f.soft.length = mod.bl + 2) ∧ m.modType = some mod ∧
          m.burst = some ((f.soft.take mod.bl).map softVal))) := by
  unfold RxMsg.parseMsg at h
  by_cases h8 : b.length < 8
  · rw [RxMsg.parseMsgFrom_short _ b h8] at h; cases h
  obtain ⟨o0, f0, f1, f2, f3, rest, rfl⟩ := exists_cons5 b (by omega)
  obtain ⟨r, t0, t1, soft, rfl⟩ := exists_cons3 rest (by simp only [List.length_cons] at h8; omega)
  have hsoft : ∀ x ∈ soft, x < 256 := fun x hx => hb x (List.mem_append_right [o0, f0, f1, f2, f3, r, t0, t1] hx)
  have hv : o0 / 16 < 2 := Decidable.byContradiction fun hv => by
    rw [RxMsg.parseMsgFrom_badver _ hv] at h; cases h
  rcases (by omega : o0 / 16 = 0 ∨ o0 / 16 = 1) with h0 | h1
  · -- version 0: header of 8 octets
    rw [RxMsg.parseMsgFrom_v0 _ h0] at h
    have hne : ¬ (o0 / 16 = 1) := by omega
    refine ⟨⟨o0 / 16, be32val f0 f1 f2 f3, o0 % 8, -(r : Int), s16val t0 t1, none, none, soft⟩,
      by simp only [readRx, hne, if_false], ?_⟩
    by_cases hs : soft = []
    · rw [if_pos hs] at h
      cases h
      exact ⟨by simp only [h0]; rfl, Or.inl h0, rfl, rfl, rfl, rfl, fun h1 => absurd h1 hne,
        fun _ => Or.inl ⟨hs, rfl⟩⟩
    · rw [if_neg hs, RxMsg.parseBurst_v0 hsoft rfl] at h
      cases hg : RxMsg.guessMod (soft.length : Int) with
      | none => rw [hg] at h; cases h
      | some mod =>
        rw [hg] at h
        cases h
        exact ⟨by simp only [h0]; rfl, Or.inl h0, rfl, rfl, rfl, rfl, fun h1 => absurd h1 hne,
          fun _ => Or.inr ⟨mod, guessMod_bl _ _ hg, rfl, rfl⟩⟩
  · -- version 1: header of 11 octets
    by_cases h11 : soft.length < 3
    · rw [RxMsg.parseMsgFrom_v1_short _ h1 (by simp only [List.length_cons]; omega)] at h; cases h
    obtain ⟨mts, c0, c1, soft', rfl⟩ := exists_cons3 soft (by omega)
    have hsoft' : ∀ x ∈ soft', x < 256 := fun x hx => hsoft x (List.mem_append_right [mts, c0, c1] hx)
    rw [RxMsg.parseMsgFrom_v1 _ h1] at h
    obtain ⟨hn, htm, e1, e2, e3, e4, e5, _, _⟩ := parseMts_spec
      { RxMsg.fresh with ver := 1, tn := some ((o0 % 8 : Nat) : Int), fn := some ((be32val f0 f1 f2 f3 : Nat) : Int),
                         rssi := some (-(r : Int)), toa256 := some (s16val t0 t1) } mts
      (hsoft mts (List.mem_cons_self ..))
    refine ⟨⟨1, be32val f0 f1 f2 f3, o0 % 8, -(r : Int), s16val t0 t1, some mts, some (s16val c0 c1), soft'⟩,
      by simp only [readRx, h1, if_true], ?_⟩
    have h01 : ¬ ((1 : Nat) = 0) := by omega
    by_cases hs : soft' = []
    · rw [if_pos hs] at h
      cases h
      exact ⟨e1, Or.inr rfl, e2, e3, e4, e5, fun _ => ⟨mts, rfl, rfl, hn, htm, by simp only [hs, if_true]⟩,
        fun h0 => absurd h0 h01⟩
    · rw [if_neg hs, RxMsg.parseBurst_v1 hsoft' (by rw [e1]; show ¬ (1 : Int) = 0; decide)] at h
      cases h
      exact ⟨e1, Or.inr rfl, e2, e3, e4, e5, fun _ => ⟨mts, rfl, rfl, hn, htm, by simp only [hs, if_false]⟩,
        fun h0 => absurd h0 h01⟩

end OsmoVerif.Trxd
