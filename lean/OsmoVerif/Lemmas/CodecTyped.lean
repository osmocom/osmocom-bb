/- C16: with length references confined to non-negative integer fields (`RefsOK`), decoding never leaves
the model: no `unmodelled` outcome, hence every decoding failure is a `DecodeError`. -/
import OsmoVerif.Lemmas.CodecErr
namespace OsmoVerif.Codec

/-- every name of `S` that is present in the dict holds a non-negative int -/
def Typed (S : List String) (vals : Vals) : Prop :=
  ∀ n ∈ S, ∀ x, vals.get n = .ok x → ∃ i : Int, 0 ≤ i ∧ x = .int i

theorem typed_nil (S : List String) : Typed S [] :=
  fun _ _ _ h => nomatch h

theorem typed_set {S : List String} {vals : Vals} {m : String} {x : Val} (h : Typed S vals)
    (hx : m ∈ S → ∃ i : Int, 0 ≤ i ∧ x = .int i) : Typed S (vals.set m x) := by
  intro n hn y hy
  by_cases e : n = m
  · subst e
    rw [Vals.get_set_self] at hy
    cases hy
    exact hx hn
  · rw [Vals.get_set_ne _ _ _ _ e] at hy
    exact h n hn y hy

/-- a length callback that reads a non-negative int cannot leave the model -/
theorem getLen_typed {S : List String} {vals : Vals} {ld : LenD} {dlen : Nat} {e : Err} (h : Typed S vals)
    (hr : ld.refs.all (S.contains ·) = true) (he : getLen ld vals dlen = .error e) : e ≠ .unmodelled := by
  cases ld with
  | fixed n => cases he
  | rest => cases he
  | thresh t a b => cases he
  | ofField f =>
    simp only [LenD.refs, List.all_cons, List.all_nil, Bool.and_true, List.contains_iff_mem] at hr
    simp only [getLen] at he
    cases hg : Vals.get vals f with
    | error e' => rw [hg] at he; cases he; rw [Vals.get_error_key _ _ _ hg]; decide
    | ok x =>
      obtain ⟨i, hi, rfl⟩ := h f hr x hg
      simp only [hg] at he
      rw [if_neg (by omega)] at he
      cases he
  | table f tbl =>
    simp only [LenD.refs, List.all_cons, List.all_nil, Bool.and_true, List.contains_iff_mem] at hr
    simp only [getLen] at he
    cases hg : Vals.get vals f with
    | error e' => rw [hg] at he; cases he; rw [Vals.get_error_key _ _ _ hg]; decide
    | ok x =>
      obtain ⟨i, hi, rfl⟩ := h f hr x hg
      simp only [hg] at he
      clear hg
      induction tbl with
      | nil => cases he; decide
      | cons kv rest ih =>
        rw [tableGet] at he
        split at he
        · cases he
        · exact ih he

theorem bitsDec_typed (S : List String) {offs : List (BitF × Nat)} {pre pre' : Vals} {blob : Nat}
    (ht : Typed S pre) (h : bitsDec offs pre blob = .ok pre') : Typed S pre' := by
  induction offs generalizing pre with
  | nil => cases h; exact ht
  | cons fo rest ih =>
    simp only [bitsDec] at h
    split at h
    · exact ih ht h
    · rename_i name _
      have ht' : Typed S (pre.set name (.int (((blob >>> fo.2) % 2 ^ fo.1.bl : Nat) : Int))) :=
        typed_set ht (fun _ => ⟨_, by omega, rfl⟩)
      split at h
      · split at h
        · cases h
        · exact ih ht' h
      · exact ih ht' h

theorem wrapDec_nu {e : Err} (h : e ≠ .unmodelled) : wrapDec e ≠ .unmodelled := by
  rcases wrapDec_cases e with h' | ⟨h', _⟩ <;> rw [h']
  · decide
  · exact h

/-! ## statements -/

/-- a field never yields `unmodelled` and keeps the typing invariant of its envelope -/
def FieldNU (S : List String) (f : FDef) : Prop :=
  wfField f = true → refsOKField S f = true → (∀ m ∈ f.storedNames, m ∈ S → m ∈ f.natNames) →
  ∀ pre, Typed S pre →
    (∀ data e, fieldFrom f pre data = .error e → e ≠ .unmodelled)
    ∧ (∀ data p' k, fieldFrom f pre data = .ok (p', k) → Typed S p')

/-- the field loop of an envelope whose nat-names are among `S` -/
def ListNU (S : List String) (fs : List FDef) : Prop :=
  wfFields fs = true → refsOKFields S fs = true →
  (∀ f ∈ fs, ∀ m ∈ f.storedNames, m ∈ S → m ∈ f.natNames) →
  ∀ pre, Typed S pre → ∀ data off e, envFrom fs pre data off = .error e → e ≠ .unmodelled

def EnvNU (fs : List FDef) : Prop :=
  wfFields fs = true → refsOKFields (natNamesOf fs) fs = true → (namesOf fs).Nodup →
  ∀ data off e, envFrom fs [] data off = .error e → e ≠ .unmodelled

theorem listNU_nil (S : List String) : ListNU S [] :=
  fun _ _ _ _ _ _ _ _ h => by rw [envFrom] at h; cases h

theorem listNU_cons {S : List String} {f : FDef} {fs : List FDef} (hf : FieldNU S f) (ih : ListNU S fs) :
    ListNU S (f :: fs) := by
  intro hw hr hn pre ht data off e h
  rw [wfFields, Bool.and_eq_true] at hw
  rw [refsOKFields, Bool.and_eq_true] at hr
  obtain ⟨h1, h2⟩ := hf hw.1 hr.1 (hn f (List.mem_cons_self ..)) pre ht
  rw [envFrom] at h
  cases hff : fieldFrom f pre (List.drop off data) with
  | error e' => rw [hff] at h; cases h; exact wrapDec_nu (h1 _ _ hff)
  | ok r =>
    rw [hff] at h
    exact ih hw.2 hr.2 (fun g hg => hn g (List.mem_cons_of_mem _ hg)) r.1 (h2 _ _ _ hff) data _ e h

theorem natNames_sub_stored (f : FDef) : ∀ m ∈ f.natNames, m ∈ f.storedNames := by
  cases f with
  | int name pres len bo sg off mult =>
    intro m hm
    rw [FDef.natNames] at hm
    split at hm
    · exact hm
    · cases hm
  | bits pres len little fs => exact fun m hm => hm
  | _ => exact fun m hm => nomatch hm

/-- in an envelope with unique stored names, a name that is both stored by `f` and a nat-name of the
envelope is a nat-name of `f` itself -/
theorem own_natNames (fs : List FDef) (hnd : (namesOf fs).Nodup) :
    ∀ f ∈ fs, ∀ m ∈ f.storedNames, m ∈ natNamesOf fs → m ∈ f.natNames := by
  induction fs with
  | nil => exact fun f hf => nomatch hf
  | cons g fs ih =>
    intro f hf m hm hS
    rw [namesOf_cons] at hnd
    obtain ⟨_, hnd2, hdisj⟩ := List.nodup_append.1 hnd
    rw [natNamesOf, List.flatMap_cons, List.mem_append] at hS
    have stored_of_nat : m ∈ List.flatMap FDef.natNames fs → m ∈ namesOf fs := fun h => by
      obtain ⟨g', hg', hmg⟩ := List.mem_flatMap.1 h
      exact List.mem_flatMap.2 ⟨g', hg', natNames_sub_stored g' m hmg⟩
    rcases List.mem_cons.1 hf with rfl | hf'
    · rcases hS with h | h
      · exact h
      · exact absurd rfl (hdisj m hm m (stored_of_nat h))
    · rcases hS with h | h
      · exact absurd rfl (hdisj m (natNames_sub_stored _ m h) m (List.mem_flatMap.2 ⟨f, hf', hm⟩))
      · exact ih hnd2 f hf' m hm h

theorem envNU_of_list {fs : List FDef} (h : ListNU (natNamesOf fs) fs) : EnvNU fs :=
  fun hw hr hnd data off e he => h hw hr (own_natNames fs hnd) [] (typed_nil _) data off e he

/-! ## the field kinds -/

section kinds
variable {S : List String}

theorem fieldFromCore_nu {pres glen body pre data e} (h : fieldFromCore pres glen body pre data = .error e)
    (hg : ∀ n e, glen pre n = .error e → e ≠ .unmodelled) (hb : ∀ d e, body pre d = .error e → e ≠ .unmodelled) :
    e ≠ .unmodelled :=
  fieldFromCore_error (P := (· ≠ .unmodelled)) (by decide) (by decide) hg hb h

theorem fieldFromCore_typed {pres glen body pre p' data k} (h : fieldFromCore pres glen body pre data = .ok (p', k))
    (ht : Typed S pre) (hb : ∀ d p', body pre d = .ok p' → Typed S p') : Typed S p' := by
  rcases fieldFromCore_ok h with ⟨_, rfl, _⟩ | hp
  · exact ht
  · exact hb _ _ ((fieldFromCore_present hp).1 h).2.2

theorem not_nat_stored {f : FDef} {name : String} (hn : ∀ m ∈ f.storedNames, m ∈ S → m ∈ f.natNames)
    (hs : name ∈ f.storedNames) (hnn : f.natNames = []) (hS : name ∈ S) : False := by
  have := hn name hs hS
  rw [hnn] at this
  cases this

theorem fieldNU_int (name pres len bo sg off mult) : FieldNU S (.int name pres len bo sg off mult) := by
  intro _ _ hn pre ht
  refine ⟨fun data e h => ?_, fun data p' k h => ?_⟩
  · rw [fieldFrom] at h
    exact fieldFromCore_nu h (fun _ _ h => by cases h) (fun _ _ h => by cases h)
  · rw [fieldFrom] at h
    refine fieldFromCore_typed h ht (fun d p' hb => ?_)
    cases hb
    refine typed_set ht (fun hS => ?_)
    -- the name is a nat-name: unsigned with non-negative offset and multiplier
    have := hn name (List.mem_singleton_self _) hS
    rw [FDef.natNames] at this
    split at this
    · rename_i hc
      obtain ⟨rfl, ho, hm⟩ := hc
      refine ⟨_, ?_, rfl⟩
      rw [intFromBytes_eq]
      simp only [Bool.false_eq_true, false_and, if_false]
      exact Int.add_nonneg (Int.mul_nonneg (Int.natCast_nonneg _) hm) ho
    · cases this

theorem fieldNU_buf (name pres ld) : FieldNU S (.buf name pres ld) := by
  intro _ hr hn pre ht
  rw [refsOKField] at hr
  refine ⟨fun data e h => ?_, fun data p' k h => ?_⟩
  · rw [fieldFrom] at h
    exact fieldFromCore_nu h (fun _ _ h => getLen_typed ht hr h) (fun _ _ h => by cases h)
  · rw [fieldFrom] at h
    refine fieldFromCore_typed h ht (fun d p' hb => ?_)
    cases hb
    exact typed_set ht (fun hS => (not_nat_stored hn (List.mem_singleton_self _) rfl hS).elim)

theorem fieldNU_spare (name pres ld filler) : FieldNU S (.spare name pres ld filler) := by
  intro _ hr _ pre ht
  rw [refsOKField] at hr
  refine ⟨fun data e h => ?_, fun data p' k h => ?_⟩
  · rw [fieldFrom] at h
    exact fieldFromCore_nu h (fun _ _ h => getLen_typed ht hr h) (fun _ _ h => by cases h)
  · rw [fieldFrom] at h
    exact fieldFromCore_typed h ht (fun d p' hb => by cases hb; exact ht)

theorem fieldNU_bits (pres len little fs) : FieldNU S (.bits pres len little fs) := by
  intro hw _ _ pre ht
  obtain ⟨l, offs, hd⟩ := wfField_bits_derive hw
  refine ⟨fun data e h => ?_, fun data p' k h => ?_⟩
  · simp only [fieldFrom, hd] at h
    exact fieldFromCore_nu h (fun _ _ h => by cases h) (fun _ _ h => bitsDec_error h ▸ by decide)
  · simp only [fieldFrom, hd] at h
    exact fieldFromCore_typed h ht (fun d p' hb => bitsDec_typed S ht hb)

theorem fieldNU_env (name pres ld cl fs) (hfs : EnvNU fs) : FieldNU S (.env name pres ld cl fs) := by
  intro hw hr hn pre ht
  simp only [wfField, Bool.and_eq_true, decide_eq_true_eq] at hw
  rw [refsOKField, Bool.and_eq_true] at hr
  refine ⟨fun data e h => ?_, fun data p' k h => ?_⟩
  · rw [fieldFrom] at h
    refine fieldFromCore_nu h (fun _ _ h => getLen_typed ht hr.1 h) (fun d e hb => ?_)
    cases htc : tailCheck cl d.length (envFrom fs [] d 0) with
    | error e' =>
      rw [htc] at hb; cases hb
      rcases tailCheck_error htc with h1 | rfl
      · exact hfs hw.1.2 hr.2 hw.2 _ _ _ h1
      · decide
    | ok r => rw [htc] at hb; cases hb
  · rw [fieldFrom] at h
    refine fieldFromCore_typed h ht (fun d p' hb => ?_)
    cases htc : tailCheck cl d.length (envFrom fs [] d 0) with
    | error e' => rw [htc] at hb; cases hb
    | ok r =>
      rw [htc] at hb; cases hb
      exact typed_set ht (fun hS => (not_nat_stored hn (List.mem_singleton_self _) rfl hS).elim)

theorem fieldNU_seq (name pres ld item) (hitem : EnvNU item) : FieldNU S (.seq name pres ld item) := by
  intro hw hr hn pre ht
  simp only [wfField, Bool.and_eq_true, decide_eq_true_eq] at hw
  rw [refsOKField, Bool.and_eq_true] at hr
  refine ⟨fun data e h => ?_, fun data p' k h => ?_⟩
  · rw [fieldFrom] at h
    refine fieldFromCore_nu h (fun _ _ h => getLen_typed ht hr.1 h) (fun d e hb => ?_)
    cases hs : seqLoop (fun x => envFrom item [] x 0) d.length d 0 [] with
    | error e' =>
      rw [hs] at hb; cases hb
      exact seqLoop_error (P := (· ≠ .unmodelled)) _ (fun x e h => hitem hw.1.1 hr.2 hw.1.2 _ _ _ h)
        (fun x v k hp => Nat.le_trans hw.2 (minLen_le item hp)) _ _ _ _ _ (Nat.le_refl _) hs
    | ok r => rw [hs] at hb; cases hb
  · rw [fieldFrom] at h
    refine fieldFromCore_typed h ht (fun d p' hb => ?_)
    cases hs : seqLoop (fun x => envFrom item [] x 0) d.length d 0 [] with
    | error e' => rw [hs] at hb; cases hb
    | ok r =>
      rw [hs] at hb; cases hb
      exact typed_set ht (fun hS => (not_nat_stored hn (List.mem_singleton_self _) rfl hS).elim)

end kinds

/-- for every set `S` of names at once: a nested envelope or sequence item is entered with its own nat-names -/
theorem listNU (fs : List FDef) : ∀ S, ListNU S fs :=
  FDef.rec_1 (motive_1 := fun f => ∀ S, FieldNU S f)
    (fun a b c d e f g _ => fieldNU_int a b c d e f g) (fun a b c _ => fieldNU_buf a b c)
    (fun a b c d _ => fieldNU_spare a b c d) (fun a b c d _ => fieldNU_bits a b c d)
    (fun a b c d fs ih _ => fieldNU_env a b c d fs (envNU_of_list (ih _)))
    (fun a b c item ih _ => fieldNU_seq a b c item (envNU_of_list (ih _)))
    listNU_nil (fun _ _ hf ih S => listNU_cons (hf S) (ih S)) fs

theorem envNU (fs : List FDef) : EnvNU fs := envNU_of_list (listNU fs _)

end OsmoVerif.Codec
