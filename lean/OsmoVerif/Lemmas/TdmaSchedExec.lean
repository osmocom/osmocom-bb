/- `tdma_sched_execute` with callbacks that re-enter the scheduler (scripts), on a well-formed state,
against the abstract `ExecOnTheFly` of `Spec/TdmaSched.lean`; then every operation (C08). -/
import OsmoVerif.Lemmas.TdmaSchedSort
import OsmoVerif.Lemmas.TdmaSchedOps
import OsmoVerif.Lemmas.TdmaSchedSpec

set_option linter.unusedVariables false

namespace OsmoVerif.TdmaSched
open OsmoVerif.Spec.TdmaSched (AItem)

/-! ### scripts -/

/-- a call made from inside a callback, as the same call made from outside -/
def Call.toOp : Call → Op
  | .schedule off cb p1 p2 p3 prio => .schedule off cb p1 p2 p3 prio
  | .scheduleSet off set p3 => .scheduleSet off set p3

def absCall (c : Call) : Spec.TdmaSched.Op Cb := absOp c.toOp

/-- admissible environment: every call of every script is an admissible operation (arguments
within the C parameter types, the scheduled callbacks report success, sets terminated) -/
def EnvOk (env : Env) : Prop := ∀ e ∈ env.scripts, ∀ c ∈ e.2, OpOk env c.toOp

instance (env : Env) : Decidable (EnvOk env) := by unfold EnvOk; infer_instance

/-- callbacks that never re-enter the scheduler -/
def NoReentry (env : Env) : Prop := ∀ e ∈ env.scripts, e.2 = []

instance (env : Env) : Decidable (NoReentry env) := by unfold NoReentry; infer_instance

/-- the calls the callback of an item makes, as the property sees them -/
def absScr (env : Env) (x : AItem Cb) : List (Spec.TdmaSched.Op Cb) :=
  match x.cb with
  | .fn id => (scriptOf env id).map absCall
  | _ => []

theorem lookup_mem {α β : Type} [BEq α] (a : α) (b : β) : ∀ (l : List (α × β)),
    l.lookup a = some b → ∃ e ∈ l, e.2 = b
  | [], h => nomatch h
  | (k, v) :: l, h => by
    simp only [List.lookup] at h
    split at h
    · exact ⟨(k, v), List.mem_cons_self .., Option.some.inj h⟩
    · obtain ⟨e, he, hb⟩ := lookup_mem a b l h
      exact ⟨e, List.mem_cons_of_mem _ he, hb⟩

theorem scriptOf_mem (env : Env) (id : Nat) (c : Call) (h : c ∈ scriptOf env id) :
    ∃ e ∈ env.scripts, c ∈ e.2 := by
  simp only [scriptOf] at h
  split at h
  · rename_i calls hl
    obtain ⟨e, he, hb⟩ := lookup_mem id calls env.scripts hl
    exact ⟨e, he, hb ▸ h⟩
  · nomatch h

theorem scriptOf_noReentry (env : Env) (h : NoReentry env) (id : Nat) : scriptOf env id = [] :=
  List.eq_nil_iff_forall_not_mem.mpr fun c hc =>
    let ⟨e, he, hce⟩ := scriptOf_mem env id c hc
    List.not_mem_nil (h e he ▸ hce)

theorem absScr_noReentry (env : Env) (h : NoReentry env) (x : AItem Cb) : absScr env x = [] := by
  simp only [absScr]
  split
  · rw [scriptOf_noReentry env h]; rfl
  · rfl

theorem noReentry_envOk (env : Env) (h : NoReentry env) : EnvOk env :=
  fun e he c hc => nomatch h e he ▸ hc

theorem absScr_isCall (env : Env) (y : AItem Cb) : ∀ op ∈ absScr env y, Spec.TdmaSched.isCall op = true := by
  intro op hop
  simp only [absScr] at hop
  split at hop
  · obtain ⟨c, _, rfl⟩ := List.mem_map.mp hop
    cases c <;> rfl
  · nomatch hop

/-! ### one call, one script, one callback -/

theorem runCall_refines (env : Env) (s : Sched) (c : Call) (hinv : Inv env s) (hok : OpOk env c.toOp) :
    ∃ s' rc, runCall s c = .ok (s', rc) ∧ Inv env s' ∧ s'.cur = s.cur ∧ Ext s s' ∧
      abs s' = (Spec.TdmaSched.step (abs s) (absCall c)).1 ∧
      rc = (Spec.TdmaSched.step (abs s) (absCall c)).2.rc := by
  cases c with
  | schedule off cb p1 p2 p3 prio =>
    obtain ⟨s', rc, he, hi, hc, ha, _, hx⟩ := schedule_spec hinv hok
    exact ⟨s', rc, he, hi, hc, hx, congrArg Prod.fst ha, congrArg Prod.snd ha⟩
  | scheduleSet off set p3 =>
    obtain ⟨s', rc, he, hi, hc, hx, ha⟩ := scheduleSet_refines hinv hok
    exact ⟨s', rc, he, hi, hc, hx, congrArg Prod.fst ha, congrArg Prod.snd ha⟩

theorem runScript_refines (env : Env) : ∀ (cs : List Call) (s : Sched), Inv env s →
    (∀ c ∈ cs, OpOk env c.toOp) →
    ∃ s' rets, runScript s cs = .ok (s', rets) ∧ Inv env s' ∧ s'.cur = s.cur ∧ Ext s s' ∧
      abs s' = (Spec.TdmaSched.run (abs s) (cs.map absCall)).1 ∧
      rets = (Spec.TdmaSched.run (abs s) (cs.map absCall)).2.map (·.rc)
  | [], s, hinv, _ => ⟨s, [], rfl, hinv, rfl, Ext.refl s, rfl, rfl⟩
  | c :: cs, s, hinv, hok => by
    obtain ⟨s1, rc, h1, hi1, hc1, hx1, ha1, hr1⟩ := runCall_refines env s c hinv (hok c (List.mem_cons_self ..))
    obtain ⟨s2, rets, h2, hi2, hc2, hx2, ha2, hr2⟩ := runScript_refines env cs s1 hi1
      (fun x hx => hok x (List.mem_cons_of_mem _ hx))
    refine ⟨s2, rc :: rets, ?_, hi2, hc2.trans hc1, hx1.trans hx2, ?_, ?_⟩
    · simp only [runScript, bind, Except.bind, h1, h2]; rfl
    · simp only [List.map_cons, Spec.TdmaSched.run, ← ha1, ha2]
    · simp only [List.map_cons, Spec.TdmaSched.run, ← ha1, hr2, hr1]

theorem callCb_ok (env : Env) (s : Sched) (it : Item) (hinv : Inv env s) (henv : EnvOk env)
    (hit : itemOk env it) :
    ∃ s' rc r, callCb env s it = .ok (s', rc, r) ∧ ¬ rc < 0 ∧ Inv env s' ∧ s'.cur = s.cur ∧ Ext s s' ∧
      abs s' = (Spec.TdmaSched.run (abs s) (absScr env (absItem it))).1 ∧
      r = (Spec.TdmaSched.run (abs s) (absScr env (absItem it))).2.map (·.rc) := by
  unfold itemOk at hit
  unfold callCb
  cases hcb : it.cb with
  | null => simp [hcb] at hit
  | endSet =>
    have : absScr env (absItem it) = [] := by simp only [absScr, absItem, hcb]
    exact ⟨s, 0, [], rfl, by decide, hinv, rfl, Ext.refl s, by rw [this]; rfl, by rw [this]; rfl⟩
  | fn id =>
    simp only [hcb] at hit
    obtain ⟨s', rets, h1, hi, hc, hx, ha, hr⟩ := runScript_refines env (scriptOf env id) s hinv
      (fun c hc => let ⟨e, he, hce⟩ := scriptOf_mem env id c hc; henv e he c hce)
    have : absScr env (absItem it) = (scriptOf env id).map absCall := by simp only [absScr, absItem, hcb]
    refine ⟨s', env.ret id it.p1 it.p2 it.p3, rets, ?_, Int.not_lt.mpr hit, hi, hc, hx, this ▸ ha, this ▸ hr⟩
    simp only [bind, Except.bind, h1]; rfl

/-- the callbacks of `items` invoked one after the other on the live scheduler (return values of
the callbacks ignored): the state they leave and what their scheduler calls returned -/
def foldCb (env : Env) : Sched → List Item → Except Fault (Sched × List (List Int))
  | s, [] => .ok (s, [])
  | s, it :: its => do
    let (s, _, r) ← callCb env s it
    let (s, rs) ← foldCb env s its
    return (s, r :: rs)

theorem foldCb_cons {env : Env} {s s1 sf : Sched} {it : Item} {its : List Item} {rc : Int} {r : List Int}
    {rs : List (List Int)} (h1 : callCb env s it = .ok (s1, rc, r)) (h2 : foldCb env s1 its = .ok (sf, rs)) :
    foldCb env s (it :: its) = .ok (sf, r :: rs) := by
  simp only [foldCb, bind, Except.bind, h1, h2]; rfl

theorem foldCb_refines (env : Env) (henv : EnvOk env) : ∀ (items : List Item) (s sf : Sched)
    (rets : List (List Int)), Inv env s → (∀ it ∈ items, itemOk env it) →
    foldCb env s items = .ok (sf, rets) →
    abs sf = (Spec.TdmaSched.run (abs s) ((items.map absItem).flatMap (absScr env))).1 ∧
    rets.flatten = (Spec.TdmaSched.run (abs s) ((items.map absItem).flatMap (absScr env))).2.map (·.rc) ∧
    rets.length = items.length
  | [], s, sf, rets, _, _, h => by
    cases h
    exact ⟨rfl, rfl, rfl⟩
  | it :: items, s, sf, rets, hinv, hok, h => by
    obtain ⟨s1, rc, r, h1, _, hi1, _, _, ha1, hr1⟩ := callCb_ok env s it hinv henv (hok it (List.mem_cons_self ..))
    simp only [foldCb, bind, Except.bind, h1] at h
    obtain ⟨⟨s2, rs⟩, h2, h⟩ := bind_ok h
    cases h
    obtain ⟨ha2, hr2, hl2⟩ := foldCb_refines env henv items s1 s2 rs hi1
      (fun x hx => hok x (List.mem_cons_of_mem _ hx)) h2
    simp only [List.map_cons, List.flatMap_cons, Spec.TdmaSched.run_append, List.flatten_cons,
      List.map_append, List.length_cons]
    rw [← ha1, ← hr1, ← ha2, ← hr2, hl2]
    exact ⟨rfl, rfl, rfl⟩

theorem callCb_noReentry (env : Env) (h : NoReentry env) {s s1 : Sched} {it : Item} {rc : Int} {r : List Int}
    (h1 : callCb env s it = .ok (s1, rc, r)) : s1 = s := by
  unfold callCb at h1
  split at h1
  · nomatch h1
  · cases h1; rfl
  · rw [scriptOf_noReentry env h] at h1
    cases h1; rfl

theorem foldCb_noReentry (env : Env) (h : NoReentry env) : ∀ (items : List Item) (s sf : Sched)
    (rets : List (List Int)), foldCb env s items = .ok (sf, rets) → sf = s
  | [], s, sf, rets, hf => by cases hf; rfl
  | it :: items, s, sf, rets, hf => by
    simp only [foldCb] at hf
    obtain ⟨⟨s1, rc, r⟩, h1, hf⟩ := bind_ok hf
    obtain ⟨⟨s2, rs⟩, h2, hf⟩ := bind_ok hf
    cases hf
    rw [foldCb_noReentry env h items s1 s2 rs h2, callCb_noReentry env h h1]

/-! ### the loop of `tdma_sched_execute` -/

theorem prefix_getD {α : Type} (l1 l2 : List α) (d : α) (h : l1 <+: l2) (j : Nat) (hj : j < l1.length) :
    l2.getD j d = l1.getD j d := by
  obtain ⟨t, rfl⟩ := h
  simp only [List.getD_eq_getElem?_getD, List.getElem?_append_left hj]

theorem live_getD (b : Bucket) (j : Nat) (hj : j < b.numItems) :
    (live b).getD j zeroItem = b.item.getD j zeroItem := by
  simp only [live, List.getD_eq_getElem?_getD, List.getElem?_take, hj, if_true]

theorem Ext.numItems_le {env : Env} {s s' : Sched} (h : Ext s s') (hi : Inv env s) (hi' : Inv env s') {j : Nat}
    {b b' : Bucket} (hb : s.bucket[j]? = some b) (hb' : s'.bucket[j]? = some b') :
    live b <+: live b' ∧ b.numItems ≤ b'.numItems := by
  obtain ⟨b'', h1, h2⟩ := h j b hb
  cases hb'.symm.trans h1
  exact ⟨h2, live_length (hi.bucketWF hb) ▸ live_length (hi'.bucketWF hb') ▸ h2.length_le⟩

/-- The loop from iteration `i` on (`rest` = `seq[i ..]`), started on a well-formed state whose current
bucket holds at least `i` and at least `n0` (= `num_items` when `seq[]` was computed) items; an entry of
`seq[]` is a slot below `n0` or its own position.  The loop runs to the end: with `num_items` the FINAL
number of items of the bucket (`bf`), it invokes the items in the slots `seq[i .. num_items)` of `bf`, and
leaves the state `sf` that the callbacks made (`foldCb`). -/
theorem execLoop_spec (env : Env) (henv : EnvOk env) (cur n0 : Nat) :
    ∀ (rest : List Nat) (i : Nat) (s : Sched) (ne : Int) (ran : List Item) (rets : List (List Int))
      (b : Bucket), i + rest.length = 8 → (∀ k si, rest[k]? = some si → si < n0 ∨ si = i + k) →
      Inv env s → s.cur = cur → s.bucket[cur]? = some b → i ≤ b.numItems → n0 ≤ b.numItems →
      ∃ sf bf ran' rets', execLoop env cur rest i s ne ran rets =
          .ok (sf, .done (ne + (ran'.length : Int)), ran ++ ran', rets ++ rets') ∧
        Inv env sf ∧ sf.cur = cur ∧ sf.bucket[cur]? = some bf ∧ Ext s sf ∧
        i + ran'.length = bf.numItems ∧
        ran' = (rest.take ran'.length).map (fun j => (live bf).getD j zeroItem) ∧
        foldCb env s ran' = .ok (sf, rets') := by
  intro rest
  induction rest with
  | nil =>
    intro i s ne ran rets b hlen hseq hinv hcur hb hib hnb
    have h8 : i = 8 := hlen
    have hnot : ¬ i < b.numItems := Nat.not_lt.mpr (h8 ▸ (hinv.bucketWF hb).2)
    refine ⟨s, b, [], [], ?_, hinv, hcur, hb, Ext.refl s, Nat.le_antisymm hib (Nat.not_lt.mp hnot), rfl, rfl⟩
    simp only [execLoop, bind, Except.bind, idx_of_get? hb, if_neg hnot, pure, Except.pure, List.length_nil,
      List.append_nil, Int.natCast_zero, Int.add_zero]
  | cons si rest ih =>
    intro i s ne ran rets b hlen hseq hinv hcur hb hib hnb
    have hbwf := hinv.bucketWF hb
    by_cases hlt : i < b.numItems
    · -- one more callback
      have hsin : si < b.numItems := by
        rcases hseq 0 si rfl with h | h
        · exact Nat.lt_of_lt_of_le h hnb
        · exact h ▸ hlt
      have hsil : si < b.item.length := hbwf.1 ▸ Nat.lt_of_lt_of_le hsin hbwf.2
      have hitem : itemOk env (b.item.getD si zeroItem) := by
        apply hinv.2 b (List.mem_of_getElem? hb)
        rw [← live_getD b si hsin, getD_eq_getElem' _ _ _ (live_length hbwf ▸ hsin)]
        exact List.getElem_mem _
      obtain ⟨s1, rc, r, h1, hrc, hi1, hc1, hx1, _, _⟩ := callCb_ok env s _ hinv henv hitem
      obtain ⟨b1, hb1⟩ := hi1.bucket_get (hcur ▸ hinv.1.2.1)
      obtain ⟨hp1, hle1⟩ := hx1.numItems_le hinv hi1 hb hb1
      obtain ⟨sf, bf, ran'', rets'', h2, hif, hcf, hbf, hxf, hcnt, hran, hfold⟩ :=
        ih (i + 1) s1 (ne + 1) (ran ++ [b.item.getD si zeroItem]) (rets ++ [r]) b1
          ((Nat.succ_add_eq_add_succ i rest.length).trans hlen)
          (fun k sj hk => Nat.add_right_comm i 1 k ▸ Nat.add_assoc i k 1 ▸ hseq (k + 1) sj hk)
          hi1 (hc1.trans hcur) hb1 (Nat.le_trans hlt hle1) (Nat.le_trans hnb hle1)
      obtain ⟨hpf, _⟩ := hxf.numItems_le hi1 hif hb1 hbf
      refine ⟨sf, bf, b.item.getD si zeroItem :: ran'', r :: rets'', ?_, hif, hcf, hbf, hx1.trans hxf,
        by rw [List.length_cons, ← Nat.add_assoc, Nat.add_right_comm]; exact hcnt, ?_,
        foldCb_cons h1 hfold⟩
      · simp only [execLoop, bind, Except.bind, idx_of_get? hb, if_pos hlt, idx_ok_getD b.item si zeroItem hsil,
          h1, if_neg hrc, h2, List.append_assoc, List.singleton_append, List.length_cons, Int.natCast_succ,
          Int.add_assoc, Int.add_comm 1]
      · rw [List.length_cons, List.take_succ_cons, List.map_cons, ← hran,
          prefix_getD _ _ zeroItem (hp1.trans hpf) si (live_length hbwf ▸ hsin), live_getD b si hsin]
    · -- i = num_items: the loop ends
      refine ⟨s, b, [], [], ?_, hinv, hcur, hb, Ext.refl s, Nat.le_antisymm hib (Nat.not_lt.mp hlt), rfl, rfl⟩
      simp only [execLoop, bind, Except.bind, idx_of_get? hb, if_neg hlt, pure, Except.pure, List.length_nil,
        List.append_nil, Int.natCast_zero, Int.add_zero]

/-! ### `tdma_sched_execute` -/

theorem map_range_getD {α : Type} (l : List α) (d : α) : ∀ n, n ≤ l.length →
    (List.range n).map (fun k => l.getD k d) = l.take n
  | 0, _ => rfl
  | n + 1, h => by
    rw [List.range_succ, List.map_append, map_range_getD l d n (Nat.le_of_succ_le h), List.map_singleton,
      getD_eq_getElem' l n d h, List.take_append_getElem]

theorem map_range'_getD {α : Type} (l : List α) (d : α) (n0 : Nat) (h : n0 ≤ l.length) :
    (List.range' n0 (l.length - n0)).map (fun k => l.getD k d) = l.drop n0 := by
  apply List.ext_getElem (by simp)
  intro j h1 h2
  simp only [List.length_map, List.length_range'] at h1
  simp only [List.getElem_map, List.getElem_range', List.getElem_drop, Nat.one_mul]
  exact getD_eq_getElem' l (n0 + j) d (by omega)

/-- the bucket of the current frame cleared: `bucket->num_items = 0` -/
def clearCur (s : Sched) (b : Bucket) : Sched :=
  { s with bucket := s.bucket.set s.cur { b with numItems := 0 } }

theorem clearCur_spec {env : Env} {s : Sched} {b : Bucket} (hinv : Inv env s)
    (hb : s.bucket[s.cur]? = some b) :
    Inv env (clearCur s b) ∧ abs (clearCur s b) = (Spec.TdmaSched.execute (abs s)).1 := by
  refine ⟨hinv.set _ ⟨(hinv.bucketWF hb).1, Nat.zero_le _⟩ nofun, ?_⟩
  funext d
  have hc := hinv.1.2.1
  have := abs_set s hinv.1.1 0 { b with numItems := 0 } d
  rw [Nat.add_zero, Nat.mod_eq_of_lt hc] at this
  exact this

/-- `tdma_sched_execute` on a well-formed state in an admissible environment: the callbacks invoked are
first the items of the bucket as it was at the start — each exactly once, ascending priorities — and
then the items appended to the bucket during the execution, in the order appended; the state is what
the callbacks made of it, with the current bucket cleared; the result is the number of callbacks. -/
theorem execute_spec {env : Env} {s : Sched} (hinv : Inv env s) (henv : EnvOk env) :
    ∃ b0 sf bf ran rets pre, s.bucket[s.cur]? = some b0 ∧
      execute env s = .ok (clearCur sf bf, (ran.length : Int), ran, rets) ∧
      Inv env sf ∧ sf.cur = s.cur ∧ sf.bucket[s.cur]? = some bf ∧ Ext s sf ∧
      foldCb env s ran = .ok (sf, rets) ∧ ran.length = bf.numItems ∧
      ran = pre ++ (live bf).drop b0.numItems ∧
      pre.Perm (live b0) ∧ pre.Pairwise (fun x y => x.prio ≤ y.prio) := by
  obtain ⟨b, hb⟩ := hinv.bucket_get hinv.1.2.1
  have hbwf := hinv.bucketWF hb
  obtain ⟨seq, hs1, hl8, hpt, hsorted, hdrop⟩ := bucketSort_spec b hbwf
  -- an entry of `seq[]` is a slot below `num_items` or its own position
  have hseq : ∀ k si, seq[k]? = some si → si < b.numItems ∨ si = 0 + k := by
    intro k si hk
    by_cases hkn : k < b.numItems
    · refine Or.inl (List.mem_range.mp (hpt.mem_iff.mp ?_))
      exact List.mem_of_getElem? ((List.getElem?_take_of_lt hkn).trans hk)
    · have := List.getElem?_drop (xs := seq) (i := b.numItems) (j := k - b.numItems)
      rw [hdrop, List.getElem?_drop, Nat.add_sub_cancel' (Nat.le_of_not_lt hkn), hk] at this
      have hk8 := (List.getElem?_eq_some_iff.mp this).1
      rw [List.getElem?_range (by simpa using hk8)] at this
      exact Or.inr ((Option.some.inj this).symm.trans (Nat.zero_add k).symm)
  obtain ⟨sf, bf, ran, rets, hloop, hif, hcf, hbf, hxf, hcnt, hran, hfold⟩ :=
    execLoop_spec env henv s.cur b.numItems seq 0 s 0 [] [] b ((Nat.zero_add _).trans hl8) hseq hinv rfl hb
      (Nat.zero_le _) (Nat.le_refl _)
  obtain ⟨hpf, hle⟩ := hxf.numItems_le hinv hif hb hbf
  have hbfwf := hif.bucketWF hbf
  rw [Nat.zero_add] at hcnt
  refine ⟨b, sf, bf, ran, rets, (seq.take b.numItems).map (fun j => b.item.getD j zeroItem), hb, ?_, hif, hcf,
    hbf, hxf, hfold, hcnt, ?_, ?_, List.pairwise_map.mpr hsorted⟩
  · simp only [execute, bind, Except.bind, idx_of_get? hb, hs1, hloop, idx_of_get? hbf,
      setIdx_ok _ _ _ (lt_of_get? _ _ _ hbf), Int.zero_add, List.nil_append, pure, Except.pure, clearCur, hcf]
  · -- the invoked items: the sorted old ones, then the appended ones
    rw [hran, hcnt, ← Nat.add_sub_cancel' hle, List.take_add, List.map_append, hdrop]
    congr 1
    · refine List.map_congr_left fun j hj => ?_
      have hjn : j < b.numItems := List.mem_range.mp (hpt.mem_iff.mp hj)
      rw [prefix_getD _ _ zeroItem hpf j (live_length hbwf ▸ hjn), live_getD b j hjn]
    · rw [← map_range'_getD (live bf) zeroItem b.numItems (live_length hbfwf ▸ hle), live_length hbfwf]
      congr 1
      rw [List.range_eq_range', List.drop_range', Nat.zero_add, Nat.mul_one,
        List.take_range'_of_length_ge (Nat.sub_le_sub_right hbfwf.2 _)]
  · have := hpt.map (fun j => b.item.getD j zeroItem)
    rwa [map_range_getD b.item zeroItem b.numItems (hbwf.1 ▸ hbwf.2)] at this

theorem execute_refines {env : Env} {s : Sched} (hinv : Inv env s) (henv : EnvOk env) :
    ∃ s' ran rets, execute env s = .ok (s', (ran.length : Int), ran, rets) ∧ Inv env s' ∧ s'.cur = s.cur ∧
      rets.length = ran.length ∧
      Spec.TdmaSched.ExecOnTheFly (absScr env) (abs s) (ran.map absItem) (abs s') rets.flatten := by
  obtain ⟨b0, sf, bf, ran, rets, pre, hb, he, hif, hcf, hbf, hxf, hfold, hm, hran, hperm, hpw⟩ :=
    execute_spec hinv henv
  have hbf' : sf.bucket[sf.cur]? = some bf := hcf ▸ hbf
  obtain ⟨hic, hac⟩ := clearCur_spec hif hbf'
  have hitems : ∀ it ∈ ran, itemOk env it := by
    intro it hit
    rcases List.mem_append.mp (hran ▸ hit) with h | h
    · exact hinv.2 b0 (List.mem_of_getElem? hb) it (hperm.mem_iff.mp h)
    · exact hif.2 bf (List.mem_of_getElem? hbf) it (List.mem_of_mem_drop h)
  obtain ⟨ha, hr, hlen⟩ := foldCb_refines env henv ran s sf rets hinv hitems hfold
  have h0 : abs s 0 = absBucket b0 := abs_zero s b0 hinv.1.2.1 hb
  have hf0 : abs sf 0 = absBucket bf := abs_zero sf bf hif.1.2.1 hbf'
  refine ⟨clearCur sf bf, ran, rets, he, hic, hcf, hlen,
    pre.map absItem, ((live bf).drop b0.numItems).map absItem, ?_, ⟨?_, ?_⟩, ?_, ?_, hr⟩
  · rw [hran, List.map_append]
  · rw [h0]; exact hperm.map absItem
  · exact List.pairwise_map.mpr hpw
  · rw [← ha, hf0, h0, absBucket_length b0 (hinv.bucketWF hb), absBucket, List.map_drop]
  · rw [hac, ha]

/-- whatever way the loop of `tdma_sched_execute` ends (no hypothesis on the state): the state it
leaves is what the invoked callbacks made of it; ending with an error means `rc < 0` -/
theorem execLoop_fold (env : Env) (cur : Nat) : ∀ (rest : List Nat) (i : Nat) (s : Sched) (ne : Int)
    (ran : List Item) (rets : List (List Int)) (sf : Sched) (e : ExecEnd) (R : List Item) (T : List (List Int)),
    execLoop env cur rest i s ne ran rets = .ok (sf, e, R, T) → 0 ≤ ne →
    ∃ ran' rets', R = ran ++ ran' ∧ T = rets ++ rets' ∧ foldCb env s ran' = .ok (sf, rets') ∧
      match e with
      | .done k => 0 ≤ k
      | .err rc => rc < 0 := by
  intro rest
  induction rest with
  | nil =>
    intro i s ne ran rets sf e R T h hne
    simp only [execLoop] at h
    obtain ⟨b, _, h⟩ := bind_ok h
    split at h
    · nomatch h
    · cases h
      exact ⟨[], [], (List.append_nil _).symm, (List.append_nil _).symm, rfl, hne⟩
  | cons si rest ih =>
    intro i s ne ran rets sf e R T h hne
    simp only [execLoop] at h
    obtain ⟨b, _, h⟩ := bind_ok h
    split at h
    · obtain ⟨item, _, h⟩ := bind_ok h
      obtain ⟨⟨s1, rc, r⟩, h3, h⟩ := bind_ok h
      by_cases hneg : rc < 0
      · rw [if_pos hneg] at h
        cases h
        exact ⟨[item], [r], rfl, rfl, foldCb_cons h3 rfl, hneg⟩
      · rw [if_neg hneg] at h
        obtain ⟨ran', rets', b1, b2, b3, b4⟩ := ih (i + 1) s1 (ne + 1) _ _ sf e R T h (Int.le_add_one hne)
        exact ⟨item :: ran', r :: rets', by rw [b1, List.append_assoc]; rfl, by rw [b2, List.append_assoc]; rfl,
          foldCb_cons h3 b3, b4⟩
    · cases h
      exact ⟨[], [], (List.append_nil _).symm, (List.append_nil _).symm, rfl, hne⟩

/-- error path of `tdma_sched_execute` (no hypothesis on the state): a negative return value means a
callback failed; the bucket is not cleared, and the scheduler state is what the callbacks that ran
(including the failing one) made of it by their own scheduler calls — nothing else -/
theorem execute_error_state {env : Env} {s s' : Sched} {rc : Int} {ran : List Item} {rets : List (List Int)}
    (h : execute env s = .ok (s', rc, ran, rets)) (hrc : rc < 0) : foldCb env s ran = .ok (s', rets) := by
  simp only [execute] at h
  obtain ⟨b, _, h⟩ := bind_ok h
  obtain ⟨seq, _, h⟩ := bind_ok h
  obtain ⟨⟨sf, e, R, T⟩, h3, h⟩ := bind_ok h
  obtain ⟨ran', rets', b1, b2, b3, b4⟩ := execLoop_fold env s.cur seq 0 s 0 [] [] sf e R T h3 (Int.le_refl 0)
  cases e with
  | err rc' =>
    cases h
    exact b1 ▸ b2 ▸ b3
  | done k =>
    obtain ⟨bf, _, h⟩ := bind_ok h
    obtain ⟨bs, _, h⟩ := bind_ok h
    cases h
    exact absurd hrc (Int.not_lt.mpr b4)

/-! ### every operation -/

/-- the scheduler calls made from inside by the callbacks an operation ran, in order, as the property
sees them -/
def flyOps (env : Env) (o : Out) : List (Spec.TdmaSched.Op Cb) :=
  (o.ran.map absItem).flatMap (absScr env)

theorem flyOps_noReentry (env : Env) (h : NoReentry env) (o : Out) : flyOps env o = [] :=
  List.flatMap_eq_nil_iff.mpr fun y _ => absScr_noReentry env h y

/-- every admissible operation (for `execute`: in an admissible environment, scripted callbacks
included): no fault, invariant preserved; only `tdma_sched_advance()` moves `cur_bucket`, one step
round the ring; what `execute` does is an admissible on-the-fly execution; every other operation does
what the abstract machine does -/
theorem step_spec (env : Env) (s : Sched) (op : Op) (hinv : Inv env s) (henv : op = .execute → EnvOk env)
    (hop : OpOk env op) :
    ∃ s' out, step env s op = .ok (s', out) ∧ Inv env s' ∧
      s'.cur = (if op = .advance then (s.cur + 1) % 25 else s.cur) ∧
      (op = .execute → out.rc = (out.ran.length : Int) ∧ out.rets.length = out.ran.length ∧
        Spec.TdmaSched.ExecOnTheFly (absScr env) (abs s) (out.ran.map absItem) (abs s') out.rets.flatten) ∧
      (op ≠ .execute → out.ran = [] ∧ out.rets = [] ∧
        abs s' = (Spec.TdmaSched.step (abs s) (absOp op)).1 ∧
        out.rc = (Spec.TdmaSched.step (abs s) (absOp op)).2.rc) := by
  cases op with
  | schedule off cb p1 p2 p3 prio =>
    obtain ⟨s', rc, he, hi, hc, ha, _⟩ := schedule_spec hinv hop
    refine ⟨s', ⟨rc, [], []⟩, ?_, hi, hc, nofun, fun _ => ⟨rfl, rfl, congrArg Prod.fst ha, congrArg Prod.snd ha⟩⟩
    simp only [step, bind, Except.bind, he]; rfl
  | scheduleSet off set p3 =>
    obtain ⟨s', rc, he, hi, hc, _, ha⟩ := scheduleSet_refines hinv hop
    refine ⟨s', ⟨rc, [], []⟩, ?_, hi, hc, nofun, fun _ => ⟨rfl, rfl, congrArg Prod.fst ha, congrArg Prod.snd ha⟩⟩
    simp only [step, bind, Except.bind, he]; rfl
  | advance =>
    obtain ⟨he, hi, ha⟩ := advance_spec hinv
    refine ⟨_, ⟨0, [], []⟩, ?_, hi, rfl, nofun, fun _ => ⟨rfl, rfl, ha, rfl⟩⟩
    simp only [step, bind, Except.bind, he]; rfl
  | execute =>
    obtain ⟨s', ran, rets, he, hi, hc, hl, hx⟩ := execute_refines hinv (henv rfl)
    refine ⟨s', ⟨ran.length, ran, rets⟩, ?_, hi, hc, fun _ => ⟨rfl, hl, hx⟩, fun h => absurd rfl h⟩
    simp only [step, bind, Except.bind, he]; rfl
  | reset =>
    obtain ⟨s', he, hi, hc, ha⟩ := reset_spec hinv
    refine ⟨s', ⟨0, [], []⟩, ?_, hi, hc, nofun, fun _ => ⟨rfl, rfl, ha, rfl⟩⟩
    simp only [step, bind, Except.bind, he]; rfl

/-- every operation against the abstract machine; for `execute` the plain abstract execute is the
specification only when callbacks do not re-enter (`step_spec` is the general statement) -/
theorem step_refines (env : Env) (s : Sched) (op : Op) (hinv : Inv env s) (hop : OpOk env op)
    (hne : op = .execute → NoReentry env) :
    ∃ s' out, step env s op = .ok (s', out) ∧ Inv env s' ∧
      abs s' = (Spec.TdmaSched.step (abs s) (absOp op)).1 ∧
      OutMatch out (Spec.TdmaSched.step (abs s) (absOp op)).2 := by
  obtain ⟨s', out, h1, hi, _, hex, hnex⟩ :=
    step_spec env s op hinv (fun h => noReentry_envOk env (hne h)) hop
  refine ⟨s', out, h1, hi, ?_⟩
  by_cases he : op = .execute
  · obtain ⟨hrc, _, hx⟩ := hex he
    obtain ⟨hv, hdue⟩ := Spec.TdmaSched.execOnTheFly_plain (absScr env) (absScr_noReentry env (hne he)) hx
    subst he
    refine ⟨hdue, ?_, hv⟩
    rw [hrc, ← List.length_map (f := absItem), hv.1.length_eq]
    rfl
  · obtain ⟨hr, _, ha, hrc⟩ := hnex he
    refine ⟨ha, hrc, ?_⟩
    rw [hr]
    cases op with
    | execute => exact absurd rfl he
    | _ => exact validRun_nil

end OsmoVerif.TdmaSched
