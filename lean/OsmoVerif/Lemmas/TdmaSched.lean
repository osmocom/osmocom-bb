/- C08 lemmas, top level: histories of the model against histories of the abstract machine. -/
import OsmoVerif.Lemmas.TdmaSchedExec

set_option linter.unusedVariables false

namespace OsmoVerif.TdmaSched
open OsmoVerif.Spec.TdmaSched (AItem)

/-- how many times an operation ran the item `x` -/
def ranCount (x : AItem Cb) (o : Out) : Nat := (o.ran.map absItem).count x

def isExecOp : Op → Bool
  | .execute => true
  | _ => false

def isAdvOp : Op → Bool
  | .advance => true
  | _ => false

def isResetOp : Op → Bool
  | .reset => true
  | _ => false

/-- number of `tdma_sched_advance()` calls among the first `i` operations -/
def advancesBefore (ops : List Op) (i : Nat) : Nat := (ops.take i).countP isAdvOp

/-- the firmware discipline (sync.c, frame interrupt): `tdma_sched_execute()` exactly once per
frame, before `tdma_sched_advance()`; `e` = the current frame has already been executed -/
def disciplined : Bool → List Op → Bool
  | _, [] => true
  | e, op :: ops =>
    if isExecOp op then (!e && disciplined true ops)
    else if isAdvOp op then (e && disciplined false ops)
    else disciplined e ops

/-- no call made from inside during the history `outs` places `x` (a fact about what happened) -/
def NoFlyPlaces (env : Env) (x : AItem Cb) (outs : List Out) : Prop :=
  ∀ o ∈ outs, ∀ c ∈ flyOps env o, x ∉ Spec.TdmaSched.placed c

instance (env : Env) (x : AItem Cb) (outs : List Out) : Decidable (NoFlyPlaces env x outs) := by
  unfold NoFlyPlaces; infer_instance

/-! ### the vocabulary of histories, model and abstract machine -/

theorem isExec_absOp (op : Op) : Spec.TdmaSched.isExec (absOp op) = isExecOp op := by cases op <;> rfl
theorem isAdv_absOp (op : Op) : Spec.TdmaSched.isAdv (absOp op) = isAdvOp op := by cases op <;> rfl
theorem isReset_absOp (op : Op) : Spec.TdmaSched.isReset (absOp op) = isResetOp op := by cases op <;> rfl

theorem noReset_absOp {ops : List Op} (h : ∀ op ∈ ops, isResetOp op = false) :
    ∀ op ∈ ops.map absOp, Spec.TdmaSched.isReset op = false := fun op hop =>
  let ⟨o, ho, e⟩ := List.mem_map.mp hop
  e ▸ (isReset_absOp o).trans (h o ho)

theorem disciplined_absOp : ∀ (ops : List Op) (e : Bool),
    Spec.TdmaSched.disciplined e (ops.map absOp) = disciplined e ops
  | [], _ => rfl
  | op :: ops, e => by
    simp only [List.map_cons, Spec.TdmaSched.disciplined, disciplined, isExec_absOp, isAdv_absOp,
      disciplined_absOp ops]

theorem advBefore_absOp (ops : List Op) (i : Nat) :
    Spec.TdmaSched.advBefore (ops.map absOp) i = advancesBefore ops i := by
  simp only [Spec.TdmaSched.advBefore, advancesBefore, ← List.map_take, List.countP_map]
  exact congrArg (List.countP · _) (funext isAdv_absOp)

theorem isExec_absOp_iff (ops : List Op) (i : Nat) :
    ((ops.map absOp)[i]?).map Spec.TdmaSched.isExec = some true ↔ ops[i]? = some .execute := by
  rw [List.getElem?_map]
  cases ops[i]? with
  | none => simp
  | some op => cases op <;> simp [absOp, Spec.TdmaSched.isExec]

theorem outsMatch_counts (x : AItem Cb) : ∀ (outs : List Out) (souts : List (Spec.TdmaSched.Out Cb)),
    OutsMatch outs souts → outs.map (ranCount x) = souts.map (fun o => o.toRun.count x)
  | [], [], _ => rfl
  | [], _ :: _, h => nomatch h
  | _ :: _, [], h => nomatch h
  | o :: os, so :: sos, h => by
    simp only [List.map_cons, outsMatch_counts x os sos h.2, ranCount, h.1.2.1.count_eq]

theorem outsMatch_rc : ∀ (outs : List Out) (souts : List (Spec.TdmaSched.Out Cb)),
    OutsMatch outs souts → outs.map (·.rc) = souts.map (·.rc)
  | [], [], _ => rfl
  | [], _ :: _, h => nomatch h
  | _ :: _, [], h => nomatch h
  | o :: os, so :: sos, h => by
    simp only [List.map_cons, outsMatch_rc os sos h.2, h.1.1]

theorem placed_ne (x : AItem Cb) (rest : List Op)
    (hother : ∀ op ∈ rest, x ∉ Spec.TdmaSched.placed (absOp op)) :
    ∀ op ∈ rest.map absOp, ∀ it ∈ Spec.TdmaSched.placed op, it ≠ x := by
  intro op hop it hit hx
  obtain ⟨o, ho, rfl⟩ := List.mem_map.mp hop
  exact hother o ho (hx ▸ hit)

/-! ### one operation, given its result -/

/-- If none of the calls made from inside during this operation places `x` (a statement about what
happened: `flyOps env out`), the operation moves and runs `x` like the abstract machine does. -/
theorem step_track_model (env : Env) {s s' : Sched} {op : Op} {out : Out} {x : AItem Cb} {pos : Option Nat}
    (hinv : Inv env s) (henv : op = .execute → EnvOk env) (hop : OpOk env op)
    (hat : Spec.TdmaSched.At x (abs s) pos) (hx : x ∉ Spec.TdmaSched.placed (absOp op))
    (h : step env s op = .ok (s', out)) (hfly : ∀ c ∈ flyOps env out, x ∉ Spec.TdmaSched.placed c) :
    Inv env s' ∧ Spec.TdmaSched.At x (abs s') (Spec.TdmaSched.trackStep pos (absOp op)).1 ∧
      ranCount x out = (Spec.TdmaSched.trackStep pos (absOp op)).2 := by
  obtain ⟨s1, o1, h1, hi, _, hex, hnex⟩ := step_spec env s op hinv henv hop
  cases h1.symm.trans h
  refine ⟨hi, ?_⟩
  by_cases he : op = .execute
  · subst he
    exact Spec.TdmaSched.execOnTheFly_track (absScr_isCall env)
      (hex rfl).2.2 hat hfly
  · obtain ⟨hr, _, ha, _⟩ := hnex he
    obtain ⟨t1, t2⟩ := Spec.TdmaSched.step_track (absOp op) hat hx
    refine ⟨ha ▸ t1, ?_⟩
    rw [← t2, ranCount, hr]
    cases op with
    | execute => exact absurd rfl he
    | _ => rfl

/-! ### histories -/

theorem run_cons_ok {env : Env} {s s' : Sched} {op : Op} {ops : List Op} {outs : List Out}
    (h : run env s (op :: ops) = .ok (s', outs)) :
    ∃ s1 o os, step env s op = .ok (s1, o) ∧ run env s1 ops = .ok (s', os) ∧ outs = o :: os := by
  simp only [run] at h
  obtain ⟨⟨s1, o⟩, h1, h⟩ := bind_ok h
  obtain ⟨⟨s2, os⟩, h2, h⟩ := bind_ok h
  cases h
  exact ⟨s1, o, os, h1, h2, rfl⟩

theorem run_length (env : Env) : ∀ (ops : List Op) (s s' : Sched) (outs : List Out),
    run env s ops = .ok (s', outs) → outs.length = ops.length
  | [], s, s', outs, h => by cases h; rfl
  | op :: ops, s, s', outs, h => by
    obtain ⟨s1, o, os, _, h2, rfl⟩ := run_cons_ok h
    rw [List.length_cons, List.length_cons, run_length env ops s1 s' os h2]

theorem run_append_ok (env : Env) : ∀ (a b : List Op) (s s1 : Sched) (o1 : List Out),
    run env s a = .ok (s1, o1) → run env s (a ++ b) = (run env s1 b).map (fun q => (q.1, o1 ++ q.2))
  | [], b, s, s1, o1, h => by
    cases h
    rw [List.nil_append]
    cases run env s b <;> rfl
  | op :: a, b, s, s1, o1, h => by
    obtain ⟨s2, o, os, h1, h2, rfl⟩ := run_cons_ok h
    simp only [List.cons_append, run, bind, Except.bind, h1, run_append_ok env a b s2 s1 os h2]
    cases run env s1 b <;> rfl

theorem run_safe (env : Env) (henv : EnvOk env) : ∀ (ops : List Op) (s : Sched), Inv env s →
    (∀ op ∈ ops, OpOk env op) → ∃ s' outs, run env s ops = .ok (s', outs) ∧ Inv env s'
  | [], s, hinv, _ => ⟨s, [], rfl, hinv⟩
  | op :: ops, s, hinv, hops => by
    obtain ⟨s1, o, h1, hi1, _⟩ := step_spec env s op hinv (fun _ => henv) (hops op (List.mem_cons_self ..))
    obtain ⟨s', outs, h2, hi2⟩ := run_safe env henv ops s1 hi1 (fun x hx => hops x (List.mem_cons_of_mem _ hx))
    exact ⟨s', o :: outs, by simp only [run, bind, Except.bind, h1, h2]; rfl, hi2⟩

theorem run_refines (env : Env) (hne : NoReentry env) : ∀ (ops : List Op) (s : Sched), Inv env s →
    (∀ op ∈ ops, OpOk env op) →
    ∃ s' outs, run env s ops = .ok (s', outs) ∧ Inv env s' ∧
      abs s' = (Spec.TdmaSched.run (abs s) (ops.map absOp)).1 ∧
      OutsMatch outs (Spec.TdmaSched.run (abs s) (ops.map absOp)).2
  | [], s, hinv, _ => ⟨s, [], rfl, hinv, rfl, trivial⟩
  | op :: ops, s, hinv, hops => by
    obtain ⟨s1, o, h1, hi1, ha1, hm1⟩ := step_refines env s op hinv (hops op (List.mem_cons_self ..))
      (fun _ => hne)
    obtain ⟨s', outs, h2, hi2, ha2, hm2⟩ := run_refines env hne ops s1 hi1
      (fun x hx => hops x (List.mem_cons_of_mem _ hx))
    refine ⟨s', o :: outs, by simp only [run, bind, Except.bind, h1, h2]; rfl, hi2, ?_, ?_⟩
    · simp only [List.map_cons, Spec.TdmaSched.run, ← ha1, ha2]
    · simp only [List.map_cons, Spec.TdmaSched.run, ← ha1]
      exact ⟨hm1, hm2⟩

/-- `cur_bucket` after a history: the start position plus the number of advances, modulo the ring size —
for histories of any length (the `uint8_t` never sees a value above 24) -/
theorem run_cur (env : Env) (henv : EnvOk env) : ∀ (ops : List Op) (s s' : Sched) (outs : List Out),
    Inv env s → (∀ op ∈ ops, OpOk env op) → run env s ops = .ok (s', outs) →
    s'.cur = (s.cur + ops.countP isAdvOp) % 25
  | [], s, s', outs, hinv, _, h => by
    cases h
    exact (Nat.mod_eq_of_lt hinv.1.2.1).symm
  | op :: ops, s, s', outs, hinv, hops, h => by
    obtain ⟨s1, o, os, h1, h2, rfl⟩ := run_cons_ok h
    obtain ⟨s1', o', h1', hi1, hc1, _⟩ := step_spec env s op hinv (fun _ => henv) (hops op (List.mem_cons_self ..))
    cases h1'.symm.trans h1
    rw [run_cur env henv ops s1 s' os hi1 (fun y hy => hops y (List.mem_cons_of_mem _ hy)) h2, hc1,
      List.countP_cons]
    cases op <;> simp [isAdvOp, Nat.add_assoc, Nat.add_comm 1]

/-- **Following one item through a history.**  `x` is where `pos` says; no operation and no call made
from inside during the history places `x`: the history does not fault, and operation `i` runs `x` as often
as `track` says. -/
theorem run_counts (env : Env) (henv : EnvOk env) (x : AItem Cb) : ∀ (ops : List Op) (s : Sched)
    (pos : Option Nat), Inv env s → (∀ op ∈ ops, OpOk env op) → Spec.TdmaSched.At x (abs s) pos →
    (∀ op ∈ ops, x ∉ Spec.TdmaSched.placed (absOp op)) →
    (∀ s' outs, run env s ops = .ok (s', outs) → NoFlyPlaces env x outs) →
    ∃ s' outs, run env s ops = .ok (s', outs) ∧ ∀ i o, outs[i]? = some o →
      i < (ops.map absOp).length ∧ ranCount x o = (Spec.TdmaSched.track pos (ops.map absOp)).getD i 0
  | [], s, pos, _, _, _, _, _ => ⟨s, [], rfl, fun i o ho => nomatch ho⟩
  | op :: ops, s, pos, hinv, hops, hat, hx, hfly => by
    obtain ⟨s', outs, hrun, _⟩ := run_safe env henv (op :: ops) s hinv hops
    obtain ⟨s1, o, os, h1, h2, rfl⟩ := run_cons_ok hrun
    obtain ⟨hi1, hat1, hc1⟩ := step_track_model env hinv (fun _ => henv)
      (hops op (List.mem_cons_self ..)) hat (hx op (List.mem_cons_self ..)) h1
      (hfly s' _ hrun o (List.mem_cons_self ..))
    obtain ⟨s'', os', h2', hcnt⟩ := run_counts env henv x ops s1 _ hi1
      (fun y hy => hops y (List.mem_cons_of_mem _ hy)) hat1 (fun y hy => hx y (List.mem_cons_of_mem _ hy))
      (fun s'' os' hr o' ho' =>
        hfly s'' (o :: os') (by simp only [run, bind, Except.bind, h1, hr]; rfl) o' (List.mem_cons_of_mem _ ho'))
    cases h2.symm.trans h2'
    refine ⟨s', o :: os, hrun, fun i o' ho' => ?_⟩
    cases i with
    | zero => cases ho'; exact ⟨Nat.succ_pos _, hc1⟩
    | succ i => exact ⟨Nat.succ_lt_succ (hcnt i o' ho').1, (hcnt i o' ho').2⟩

/-! ### a scheduler without pending work idles -/

theorem execute_idle (env : Env) (s : Sched) (b : Bucket) (hb : s.bucket[s.cur]? = some b)
    (h0 : b.numItems = 0) : execute env s = .ok (s, 0, [], []) := by
  have hloop : ∀ seq, execLoop env s.cur seq 0 s 0 [] [] = .ok (s, .done 0, [], []) := fun seq => by
    cases seq <;> simp only [execLoop, bind, Except.bind, idx_of_get? hb, h0, Nat.lt_irrefl, if_false] <;> rfl
  have hb0 : { b with numItems := 0 } = b := by cases b; cases h0; rfl
  simp only [execute, bucketSort, h0, sortOuter, bind, Except.bind, idx_of_get? hb, hloop,
    setIdx_ok _ _ _ (lt_of_get? _ _ _ hb), hb0, pure, Except.pure]
  rw [← (List.getElem?_eq_some_iff.mp hb).2, List.set_getElem_self]

/-- `n` frame interrupts (`execute`, `advance`) on a scheduler that holds nothing: `2 n` operations that
run nothing; `cur_bucket` goes `n` steps round the ring -/
theorem idle_frames (env : Env) : ∀ (n : Nat) (s : Sched), s.bucket.length = 25 → s.cur < 25 →
    (∀ b ∈ s.bucket, b.numItems = 0) →
    run env s (List.replicate n [Op.execute, Op.advance]).flatten =
      .ok ({ s with cur := (s.cur + n) % 25 }, List.replicate (2 * n) ⟨0, [], []⟩)
  | 0, s, _, hc, _ => by
    rw [Nat.add_zero, Nat.mod_eq_of_lt hc]; rfl
  | n + 1, s, hl, hc, h0 => by
    have hb : s.bucket[s.cur]? = some s.bucket[s.cur] := List.getElem?_eq_getElem (hl ▸ hc)
    have hadv : advance s = .ok { s with cur := (s.cur + 1) % 25 } := by
      simp only [advance, wrapBucket_ok s 1 hc (by decide), bind, Except.bind, pure, Except.pure,
        u8_of_lt (Nat.lt_trans (Nat.mod_lt _ (by decide)) (by decide : 25 < 256))]
    have ih := idle_frames env n { s with cur := (s.cur + 1) % 25 } hl (Nat.mod_lt _ (by decide)) h0
    simp only [List.replicate_succ, List.flatten_cons, List.cons_append, List.nil_append, run, step, bind,
      Except.bind, execute_idle env s _ hb (h0 _ (List.mem_of_getElem? hb)), hadv, ih, pure, Except.pure]
    rw [Nat.mod_add_mod, Nat.add_assoc, Nat.add_comm 1 n, Nat.mul_succ]
    rfl

/-! ### an `execute` whose callbacks place a fresh item -/

theorem flyOps_isCall (env : Env) (o : Out) : ∀ c ∈ flyOps env o, Spec.TdmaSched.isCall c = true :=
  Spec.TdmaSched.flatMap_isCall (absScr env) (absScr_isCall env) _

/-- `x` is pending nowhere when `execute` starts; among the calls made from inside exactly one — `c`, behind
`pre`, which returned `r` to the callback — places it, in the frame due in `d` (`hc`).  If `d = 0` it runs in
this very `execute`, once, among the items run after those due at the start, and is pending nowhere
afterwards; if `d ≥ 1` it does not run now and is due in `d`. -/
theorem execute_places_call (env : Env) {s s1 : Sched} {out : Out} {x : AItem Cb} (d : Nat) {r : Int}
    {pre post : List (Spec.TdmaSched.Op Cb)} {c : Spec.TdmaSched.Op Cb} (hinv : Inv env s)
    (henv : EnvOk env) (hexec : step env s .execute = .ok (s1, out))
    (hsplit : flyOps env out = pre ++ c :: post) (hret : out.rets.flatten[pre.length]? = some r)
    (hfresh : ∀ e, e < 25 → x ∉ abs s e)
    (hpre : ∀ c ∈ pre, x ∉ Spec.TdmaSched.placed c) (hpost : ∀ c ∈ post, x ∉ Spec.TdmaSched.placed c)
    (hc : ∀ due, Spec.TdmaSched.At x due none → (Spec.TdmaSched.step due c).2.rc = r →
      Spec.TdmaSched.At x (Spec.TdmaSched.step due c).1 (some d)) :
    Inv env s1 ∧ ranCount x out = (if d = 0 then 1 else 0) ∧
    Spec.TdmaSched.At x (abs s1) (if d = 0 then none else some d) ∧
    (d = 0 → ∃ p f, out.ran.map absItem = p ++ f ∧ p.Perm (abs s 0) ∧ x ∉ p ∧ f.count x = 1 ∧
      f = ((Spec.TdmaSched.run (abs s) (flyOps env out)).1 0).drop (abs s 0).length) := by
  obtain ⟨s', o', h', hi1, _, hex, _⟩ := step_spec env s .execute hinv (fun _ => henv) trivial
  cases h'.symm.trans hexec
  have hx := (hex rfl).2.2
  have hrets := hx.choose_spec.choose_spec.2.2.2.2
  rw [hrets, show (out.ran.map absItem).flatMap (absScr env) = flyOps env out from rfl, hsplit,
    Spec.TdmaSched.run_rc_at] at hret
  have hcalls := flyOps_isCall env out
  rw [hsplit] at hcalls
  have hat := Spec.TdmaSched.at_none hfresh
  refine ⟨hi1, Spec.TdmaSched.execOnTheFly_placed (absScr_isCall env)
    hx hat ?_⟩
  rw [show (out.ran.map absItem).flatMap (absScr env) = flyOps env out from rfl, hsplit]
  exact Spec.TdmaSched.run_calls_place hat
    (fun o ho => hcalls o (List.mem_append_left _ ho))
    (fun o ho => hcalls o (List.mem_append_right _ (List.mem_cons_of_mem _ ho))) hpre hpost
    (fun h => hc _ h (Option.some.inj hret))

end OsmoVerif.TdmaSched
