/-
C03, sequential histories: ghost bookkeeping of the transmit queues of the world model, and the
proof that every history satisfies `Spec.TxQueue.ExactlyOnce`.

The model (`Model/World.lean`) carries no ghost state.  `ghostStep` looks at one operation of a
history from the outside: the queue of transceiver `j` before and after the operation determines the
events
  * data datagram: the queue grew by one element `m` at the end            → `accepted id m`
    (`id` = position of the operation in the history);
  * tick at clock `fn`: the queue changed → the old queue is classified with the model's `classify fn`:
    `emit` elements → `emitted id fn` (these are the messages `clck_tick` hands to `forward_msg`),
    `stale` elements → `stale id fn`, the `wait` elements stay;
  * TRXC datagram: the queue became empty while it was not                 → `cleared id` for all.
The ids of the queued elements are a parallel list `Ghost.ids`; `Inv.lock` and `Inv.tagged` are the
lock-step invariant (same length, and element k of the queue is the message accepted under id `ids[k]`).
A tick in which an exception leaves `clck_tick` of transceiver `j` leaves `j`'s queue unchanged in
the model (the real clock thread dies at that point); such a tick produces no events for `j`.
Then: where the events of a log come from (`ghostStep_mem`, `ghost_mem_origin`), a completed tick seen
from one queued message (`ghost_tick_msg`), liveness while the transceiver stays powered on (`Steady`,
`resolve_within`), and the concrete worlds of the non-vacuity examples of Props/C03.
-/
import OsmoVerif.Lemmas.WorldFrame
import OsmoVerif.Spec.TxQueue

namespace OsmoVerif.World
open OsmoVerif OsmoVerif.Spec.TxQueue

abbrev Ev := Event Trxd.TxMsg

/-! ### list facts -/

theorem classify_cases (fn : Nat) (m : Trxd.TxMsg) :
    classify fn m = .emit ∨ classify fn m = .stale ∨ classify fn m = .wait := by
  cases classify fn m <;> simp

theorem filter_partition {α : Type} (c : α → Due) (l : List α) :
    (l.filter (fun x => c x == .emit) ++ l.filter (fun x => c x == .stale) ++
      l.filter (fun x => c x == .wait)).Perm l := by
  induction l with
  | nil => exact List.Perm.nil
  | cons a l ih =>
    simp only [List.filter_cons]
    cases h : c a <;> simp only [beq_self_eq_true, if_true, reduceCtorEq, beq_iff_eq, if_false, List.cons_append]
    · exact ih.cons a
    · exact (List.perm_middle.append_right _).trans (ih.cons a)
    · exact List.perm_middle.trans (ih.cons a)

theorem filter_partition_unique {α : Type} (c : α → Due) (a : α) :
    (c a = .emit ∧ c a ≠ .stale ∧ c a ≠ .wait) ∨ (c a ≠ .emit ∧ c a = .stale ∧ c a ≠ .wait) ∨
    (c a ≠ .emit ∧ c a ≠ .stale ∧ c a = .wait) := by
  cases c a <;> simp

theorem zip_map_fst_filter {α β : Type} (p : β → Bool) (l : List (α × β)) :
    ((l.filter (fun x => p x.2)).map Prod.fst).zip (l.map Prod.snd |>.filter p) =
      l.filter (fun x => p x.2) :=
  (List.zip_of_prod rfl (List.filter_map (f := Prod.snd)).symm).symm

theorem zip_filter {α β : Type} (p : β → Bool) {l1 : List α} {l2 : List β} (h : l1.length = l2.length) :
    ((l1.zip l2).filter (fun x => p x.2)).map Prod.snd = l2.filter p ∧
    (((l1.zip l2).filter (fun x => p x.2)).map Prod.fst).zip (l2.filter p) = (l1.zip l2).filter (fun x => p x.2) := by
  have hs : (l1.zip l2).map Prod.snd = l2 := List.map_snd_zip (Nat.le_of_eq h.symm)
  have hz := zip_map_fst_filter p (l1.zip l2)
  rw [hs] at hz
  exact ⟨(List.filter_map (f := Prod.snd)).symm.trans (congrArg _ hs), hz⟩

theorem nodup_filterMap_inj {α β : Type} {f : α → Option β} {l : List α} (h : (l.filterMap f).Nodup)
    {x y : α} (hx : x ∈ l) (hy : y ∈ l) {b : β} (h1 : f x = some b) (h2 : f y = some b) : x = y := by
  have hp := List.pairwise_filterMap.1 h
  exact List.Pairwise.forall_of_forall_of_flip (R := fun a a' => ∀ b, f a = some b → f a' = some b → a = a')
    (fun _ _ _ _ _ => rfl) (hp.imp fun hne b e e' => absurd rfl (hne b e b e'))
    (hp.imp fun hne b e e' => absurd rfl (hne b e' b e)) hx hy b h1 h2

theorem snoc_induction {α : Type} {P : List α → Prop} (h0 : P []) (hs : ∀ l a, P l → P (l ++ [a])) :
    ∀ l, P l := by
  intro l
  have : ∀ r : List α, P r.reverse := by
    intro r
    induction r with
    | nil => exact h0
    | cons a r ih => rw [List.reverse_cons]; exact hs _ _ ih
  simpa using this l.reverse

/-! ### ghost state and the observer -/

/-- ghost state of one transceiver: ids of the queued messages (parallel to `txQueue`) and the
event log -/
structure Ghost where
  ids : List Nat := []
  log : List Ev := []

/-- the ids and messages a tick at clock `fn` takes out of the tagged queue `tq`: first the `emit`
partition (handed to `forward_msg`), then the `stale` partition (logged as stale) -/
def tickEvents (fn : Nat) (tq : List (Nat × Trxd.TxMsg)) : List Ev :=
  (tq.filter (fun p => classify fn p.2 == .emit)).map (fun p => Event.emitted p.1 fn) ++
  (tq.filter (fun p => classify fn p.2 == .stale)).map (fun p => Event.stale p.1 fn)

/-- ids that stay queued after a tick at clock `fn` -/
def tickIds (fn : Nat) (tq : List (Nat × Trxd.TxMsg)) : List Nat :=
  (tq.filter (fun p => classify fn p.2 == .wait)).map Prod.fst

/-- one operation of a history seen from transceiver `j`: `w` before, `w'` after, `id` = position -/
def ghostStep (j id : Nat) (w : World) (op : Op) (w' : World) (g : Ghost) : Ghost :=
  let old := queueOf w j
  let new := queueOf w' j
  match op with
  | .data _ _ =>
    match new.drop old.length with
    | [m] => ⟨g.ids ++ [id], g.log ++ [Event.accepted id m]⟩
    | _ => g
  | .ctrl _ _ _ =>
    if new = [] ∧ old ≠ [] then ⟨[], g.log ++ g.ids.map Event.cleared⟩ else g
  | .tick =>
    match w.clkSrc with
    | none => g
    | some fn =>
      if new = old then g
      else ⟨tickIds fn (g.ids.zip old), g.log ++ tickEvents fn (g.ids.zip old)⟩
  | .jump _ => g

/-- replay a history from position `id` -/
def replayFrom (j : Nat) : Nat → World → List Op → Ghost → Ghost
  | _, _, [], g => g
  | id, w, op :: ops, g =>
    let w' := (step w op).world
    replayFrom j (id + 1) w' ops (ghostStep j id w op w' g)

/-- the ghost state of transceiver `j` after the history `ops` from `w` (ids = positions in `ops`) -/
def ghost (w : World) (ops : List Op) (j : Nat) : Ghost := replayFrom j 0 w ops {}

/-! ### event-list algebra -/

@[simp] theorem accIds_append (a b : List Ev) : accIds (a ++ b) = accIds a ++ accIds b := by
  simp [accIds, List.filterMap_append]
@[simp] theorem outIds_append (a b : List Ev) : outIds (a ++ b) = outIds a ++ outIds b := by
  simp [outIds, List.filterMap_append]

theorem outIds_tickEvents (fn : Nat) (tq : List (Nat × Trxd.TxMsg)) :
    outIds (tickEvents fn tq) =
      (tq.filter (fun p => classify fn p.2 == .emit)).map Prod.fst ++
      (tq.filter (fun p => classify fn p.2 == .stale)).map Prod.fst := by
  simp only [tickEvents, outIds_append]
  simp [outIds, List.filterMap_map, Function.comp_def, Event.outId?]

theorem outIds_cleared (ids : List Nat) : outIds (ids.map (Event.cleared (μ := Trxd.TxMsg))) = ids := by
  simp [outIds, List.filterMap_map, Function.comp_def, Event.outId?]

theorem mem_accIds {log : List Ev} {id : Nat} : id ∈ accIds log ↔ ∃ m, Event.accepted id m ∈ log := by
  simp only [accIds, List.mem_filterMap]
  constructor
  · rintro ⟨e, he, h⟩
    cases e <;> simp [Event.accId?] at h
    subst h; exact ⟨_, he⟩
  · rintro ⟨m, hm⟩; exact ⟨_, hm, rfl⟩

theorem mem_outIds {log : List Ev} {e : Ev} {id : Nat} (h : e ∈ log) (ho : e.outId? = some id) : id ∈ outIds log :=
  List.mem_filterMap.mpr ⟨e, h, ho⟩
theorem mem_outIds_of_cleared {log : List Ev} {id : Nat} (h : Event.cleared id ∈ log) : id ∈ outIds log :=
  List.mem_filterMap.mpr ⟨_, h, rfl⟩

theorem mem_tickEvents {fn : Nat} {tq : List (Nat × Trxd.TxMsg)} {e : Ev} (h : e ∈ tickEvents fn tq) :
    (∃ p ∈ tq, classify fn p.2 = .emit ∧ e = Event.emitted p.1 fn) ∨
    (∃ p ∈ tq, classify fn p.2 = .stale ∧ e = Event.stale p.1 fn) := by
  simp only [tickEvents, List.mem_append, List.mem_map, List.mem_filter, beq_iff_eq] at h
  rcases h with ⟨p, ⟨hp, hc⟩, rfl⟩ | ⟨p, ⟨hp, hc⟩, rfl⟩
  · exact .inl ⟨p, hp, hc, rfl⟩
  · exact .inr ⟨p, hp, hc, rfl⟩

/-! ### `classify` and the spec's verdict -/

/-- the model's classification is the spec's verdict (regenerated `GSM_HYPERFRAME` = 2715648) -/
theorem classify_spec (fn : Nat) (m : Trxd.TxMsg) :
    classify fn m = match m.fn with
      | none => .wait
      | some mf => match verdict fn mf with
        | .due => .emit | .passed => .stale | .future => .wait := by
  unfold classify verdict
  cases m.fn with
  | none => rfl
  | some mf =>
    simp only []
    have hH : (Gen.World.hyperframe : Int) = 2715648 := by decide
    have hh : ((Gen.World.hyperframe / 2 : Nat) : Int) = 1357824 := by decide
    rw [hH, hh, Int.fmod_eq_emod_of_nonneg _ (by omega)]
    by_cases h1 : mf = (fn : Int)
    · simp [h1]
    · simp only [h1, if_false]
      by_cases h2 : ((fn : Int) - mf) % 2715648 < 1357824
      · simp [h2]
      · simp [h2]

theorem classify_arith (fn : Nat) (msg : Trxd.TxMsg) (m : Int) (hm : msg.fn = some m) :
    (classify fn msg = .emit ↔ m = fn) ∧
    (classify fn msg = .stale ↔ m ≠ fn ∧ ((fn : Int) - m) % 2715648 < 1357824) ∧
    (classify fn msg = .wait ↔ m ≠ fn ∧ ((fn : Int) - m) % 2715648 ≥ 1357824) := by
  rw [classify_spec, hm]
  simp only [verdict]
  by_cases h1 : m = (fn : Int)
  · simp [h1]
  · by_cases h2 : ((fn : Int) - m) % 2715648 < 1357824
    · simp [h1, h2]
    · simp [h1, h2]; omega

theorem classify_stale {fn : Nat} {m : Trxd.TxMsg} (h : classify fn m = .stale) :
    ∃ mf, m.fn = some mf ∧ verdict fn mf = .passed := by
  cases hm : m.fn with
  | none => rw [classify_spec, hm] at h; cases h
  | some mf =>
    refine ⟨mf, rfl, ?_⟩
    obtain ⟨h1, h2⟩ := (classify_arith fn m mf hm).2.1.1 h
    simp only [verdict, h1, if_false, h2, if_true]

/-! ### the invariant and its preservation -/

/-- the invariant of the ghost state of one transceiver with queue `q`; `pend` are tagged messages
taken out of the queue whose outcome is still pending (empty in sequential histories) -/
structure Inv (pos : Nat) (q : List Trxd.TxMsg) (pend : List (Nat × Trxd.TxMsg)) (g : Ghost) : Prop where
  /-- lock-step: as many ids as queued messages -/
  lock : g.ids.length = q.length
  /-- ... and each queued (or pending) message is the one accepted under its id -/
  tagged : ∀ p ∈ g.ids.zip q ++ pend, Event.accepted p.1 p.2 ∈ g.log
  /-- ids are positions of past operations -/
  fresh : ∀ id ∈ accIds g.log, id < pos
  spec : ExactlyOnce (fun m => m.fn) g.log (g.ids ++ pend.map Prod.fst)

theorem Inv.init (pos : Nat) : Inv pos [] [] {} :=
  ⟨rfl, by simp, by simp [accIds], ⟨by simp [accIds], by simp [accIds, outIds], by simp, by simp⟩⟩

theorem Inv.mono {pos pos' : Nat} {q pend g} (h : Inv pos q pend g) (hp : pos ≤ pos') : Inv pos' q pend g :=
  ⟨h.lock, h.tagged, fun id hid => Nat.lt_of_lt_of_le (h.fresh id hid) hp, h.spec⟩

theorem Inv.accept {pos : Nat} {q pend g} (h : Inv pos q pend g) (m : Trxd.TxMsg) :
    Inv (pos + 1) (q ++ [m]) pend ⟨g.ids ++ [pos], g.log ++ [Event.accepted pos m]⟩ := by
  have hacc : accIds (g.log ++ [Event.accepted pos m]) = accIds g.log ++ [pos] := accIds_append ..
  have hout : outIds (g.log ++ [Event.accepted pos m]) = outIds g.log := (outIds_append ..).trans (List.append_nil _)
  have old : ∀ {e : Ev}, e ∈ g.log ++ [Event.accepted pos m] → (∀ id m, e ≠ Event.accepted id m) → e ∈ g.log :=
    fun he hn => (List.mem_append.1 he).resolve_right fun h => hn _ _ (List.mem_singleton.1 h)
  refine ⟨by simp [h.lock], fun p hp => ?_, fun id hid => ?_, ⟨?_, ?_, fun id fn hm => ?_, fun id fn hm => ?_⟩⟩
  · rw [List.zip_append h.lock, List.append_assoc, List.mem_append] at hp
    rcases hp with hp | hp
    · exact List.mem_append_left _ (h.tagged p (List.mem_append_left _ hp))
    · rcases List.mem_cons.1 hp with rfl | hp
      · exact List.mem_append_right _ (List.mem_singleton.2 rfl)
      · exact List.mem_append_left _ (h.tagged p (List.mem_append_right _ hp))
  · rw [hacc, List.mem_append, List.mem_singleton] at hid
    rcases hid with hid | rfl
    · exact Nat.lt_succ_of_lt (h.fresh id hid)
    · exact Nat.lt_succ_self _
  · rw [hacc]
    exact List.nodup_append.2 ⟨h.spec.ids_distinct, by simp, fun a ha b hb e =>
      Nat.lt_irrefl pos (h.fresh pos (List.mem_singleton.1 hb ▸ e ▸ ha))⟩
  · rw [hacc, hout]
    refine .trans ?_ (h.spec.accounted.append_right [pos])
    simp only [List.append_assoc]
    exact (List.perm_append_comm.append_left _).append_left _
  · obtain ⟨m', hm', hf⟩ := h.spec.on_time id fn (old hm fun _ _ => nofun)
    exact ⟨m', List.mem_append_left _ hm', hf⟩
  · obtain ⟨m', mf, hm', hf⟩ := h.spec.stale_passed id fn (old hm fun _ _ => nofun)
    exact ⟨m', mf, List.mem_append_left _ hm', hf⟩

theorem accIds_outcomes {evs : List Ev} (h : ∀ e ∈ evs, ∀ id m, e ≠ Event.accepted id m) : accIds evs = [] :=
  List.filterMap_eq_nil_iff.2 fun e he => by
    cases e with
    | accepted id m => exact absurd rfl (h _ he id m)
    | _ => rfl

/-- Outcomes.  The events `evs` clear, emit or report stale queued or pending messages (emit / stale: at a tick that
classifies them so); the ids `ids'` stay queued with the messages `q'`, `pend'` stays pending; nothing else moves. -/
theorem Inv.resolve {pos : Nat} {q pend g} (h : Inv pos q pend g) {q' : List Trxd.TxMsg}
    {pend' : List (Nat × Trxd.TxMsg)} {ids' : List Nat} {evs : List Ev}
    (hl : ids'.length = q'.length) (hsub : ∀ p ∈ ids'.zip q' ++ pend', p ∈ g.ids.zip q ++ pend)
    (hperm : (outIds evs ++ (ids' ++ pend'.map Prod.fst)).Perm (g.ids ++ pend.map Prod.fst))
    (hev : ∀ e ∈ evs, (∃ id, e = Event.cleared id) ∨ ∃ p ∈ g.ids.zip q ++ pend, ∃ fn,
      (classify fn p.2 = .emit ∧ e = Event.emitted p.1 fn) ∨ (classify fn p.2 = .stale ∧ e = Event.stale p.1 fn)) :
    Inv pos q' pend' ⟨ids', g.log ++ evs⟩ := by
  have hacc : accIds (g.log ++ evs) = accIds g.log := by
    rw [accIds_append, accIds_outcomes (evs := evs), List.append_nil]
    intro e he id m hem
    rcases hev e he with ⟨_, h⟩ | ⟨_, _, _, ⟨_, h⟩ | ⟨_, h⟩⟩ <;> rw [hem] at h <;> cases h
  refine ⟨hl, fun p hp => List.mem_append_left _ (h.tagged p (hsub p hp)), hacc ▸ h.fresh,
    ⟨hacc ▸ h.spec.ids_distinct, ?_, fun id fn hm => ?_, fun id fn hm => ?_⟩⟩
  · rw [hacc, outIds_append, List.append_assoc]
    exact (hperm.append_left _).trans h.spec.accounted
  · rcases List.mem_append.1 hm with hm | hm
    · obtain ⟨m, hm, hf⟩ := h.spec.on_time id fn hm
      exact ⟨m, List.mem_append_left _ hm, hf⟩
    · rcases hev _ hm with ⟨_, he⟩ | ⟨p, hp, fn', ⟨hc, he⟩ | ⟨_, he⟩⟩ <;> cases he
      exact ⟨p.2, List.mem_append_left _ (h.tagged p hp), classify_emit hc⟩
  · rcases List.mem_append.1 hm with hm | hm
    · obtain ⟨m, mf, hm, hf⟩ := h.spec.stale_passed id fn hm
      exact ⟨m, mf, List.mem_append_left _ hm, hf⟩
    · rcases hev _ hm with ⟨_, he⟩ | ⟨p, hp, fn', ⟨_, he⟩ | ⟨hc, he⟩⟩ <;> cases he
      obtain ⟨mf, hmf, hv⟩ := classify_stale hc
      exact ⟨p.2, mf, List.mem_append_left _ (h.tagged p hp), hmf, hv⟩

theorem tagged_partition (fn : Nat) {ids : List Nat} {q : List Trxd.TxMsg} (hl : ids.length = q.length) :
    (outIds (tickEvents fn (ids.zip q)) ++ tickIds fn (ids.zip q)).Perm ids := by
  have := (filter_partition (fun p : Nat × Trxd.TxMsg => classify fn p.2) (ids.zip q)).map Prod.fst
  rwa [List.map_fst_zip (Nat.le_of_eq hl), List.map_append, List.map_append, ← outIds_tickEvents] at this

theorem Inv.tick {pos : Nat} {q pend g} (h : Inv pos q pend g) (fn : Nat) :
    Inv pos (waitPart fn q) pend
      ⟨tickIds fn (g.ids.zip q), g.log ++ tickEvents fn (g.ids.zip q)⟩ := by
  obtain ⟨hsnd, hzip⟩ := zip_filter (fun m => classify fn m == .wait) h.lock
  refine h.resolve (by rw [waitPart, ← hsnd, tickIds, List.length_map, List.length_map]) (fun p hp => ?_)
    ((List.append_assoc .. ▸ (tagged_partition fn h.lock).append_right _)) (fun e he => .inr ?_)
  · rw [tickIds, waitPart, hzip] at hp
    exact List.mem_append.2 ((List.mem_append.1 hp).imp (fun hp => (List.mem_filter.1 hp).1) id)
  · rcases mem_tickEvents he with ⟨p, hp, hc⟩ | ⟨p, hp, hc⟩
    · exact ⟨p, List.mem_append_left _ hp, fn, .inl hc⟩
    · exact ⟨p, List.mem_append_left _ hp, fn, .inr hc⟩

theorem Inv.clear {pos : Nat} {q pend g} (h : Inv pos q pend g) :
    Inv pos [] pend ⟨[], g.log ++ g.ids.map Event.cleared⟩ :=
  h.resolve rfl (fun _ hp => List.mem_append_right _ hp) (by rw [outIds_cleared]; exact .refl _)
    (fun _ he => .inl ((List.mem_map.1 he).imp fun _ h => h.2.symm))

/-- the locked section of `clck_tick`: the `emit` and `drop` partitions leave the queue and become
pending -/
theorem Inv.lockSection {pos : Nat} {q : List Trxd.TxMsg} {g : Ghost} (h : Inv pos q [] g) (fn : Nat) :
    Inv pos (waitPart fn q)
      ((g.ids.zip q).filter (fun p => classify fn p.2 == .emit) ++
       (g.ids.zip q).filter (fun p => classify fn p.2 == .stale))
      ⟨tickIds fn (g.ids.zip q), g.log⟩ := by
  obtain ⟨hsnd, hzip⟩ := zip_filter (fun m => classify fn m == .wait) h.lock
  have := h.resolve (evs := []) (ids' := tickIds fn (g.ids.zip q)) (q' := waitPart fn q)
    (pend' := (g.ids.zip q).filter (fun p => classify fn p.2 == .emit) ++
       (g.ids.zip q).filter (fun p => classify fn p.2 == .stale))
    (by rw [waitPart, ← hsnd, tickIds, List.length_map, List.length_map]) (fun p hp => ?_) ?_ (fun _ he => nomatch he)
  · rwa [List.append_nil] at this
  · rw [tickIds, waitPart, hzip, List.append_nil] at *
    simp only [List.mem_append, List.mem_filter] at hp
    rcases hp with hp | hp | hp <;> exact hp.1
  · rw [List.map_nil, List.append_nil, List.map_append, ← outIds_tickEvents]
    exact (List.perm_append_comm (l₁ := tickIds fn (g.ids.zip q))).trans (tagged_partition fn h.lock)

theorem Inv.outcome {pos : Nat} {q : List Trxd.TxMsg} {g : Ghost} {p : Nat × Trxd.TxMsg}
    {pend : List (Nat × Trxd.TxMsg)} (h : Inv pos q (p :: pend) g) {fn : Nat} {e : Ev}
    (he : (classify fn p.2 = .emit ∧ e = Event.emitted p.1 fn) ∨ (classify fn p.2 = .stale ∧ e = Event.stale p.1 fn)) :
    Inv pos q pend ⟨g.ids, g.log ++ [e]⟩ := by
  refine h.resolve h.lock (fun p' hp' => ?_) ?_ (fun e' he' => ?_)
  · exact List.mem_append.2 ((List.mem_append.1 hp').imp id (List.mem_cons_of_mem _))
  · have : outIds [e] = [p.1] := by rcases he with ⟨_, rfl⟩ | ⟨_, rfl⟩ <;> rfl
    rw [this]; exact (List.perm_middle (l₁ := g.ids)).symm
  · cases List.mem_singleton.1 he'
    exact .inr ⟨p, List.mem_append_right _ List.mem_cons_self, fn, he⟩

/-! ### every operation preserves the invariant -/

theorem step_tick_queue (w : World) (j : Nat) :
    queueOf (step w .tick).world j = queueOf w j ∨
    ∃ fn, w.clkRunning = true ∧ w.clkSrc = some fn ∧ runningOf w j = true ∧
      queueOf (step w .tick).world j = waitPart fn (queueOf w j) := by
  simp only [step]
  cases hr : w.clkRunning
  · rw [tick_stopped hr]; exact .inl rfl
  cases hs : w.clkSrc with
  | none => rw [tick_nosrc hs]; exact .inl rfl
  | some fn =>
    obtain ⟨js1, js2, -, -, h2, h3, -⟩ := tick_spec hr hs
    by_cases hj : j ∈ js1
    · rw [h3 j hj, tickedQueue]
      cases hrun : runningOf w j
      · exact .inl rfl
      · exact .inr ⟨fn, rfl, rfl, rfl, rfl⟩
    · exact .inl (h2 j hj)

theorem ghostStep_inv {j pos : Nat} {w : World} (op : Op) {g : Ghost} {pend : List (Nat × Trxd.TxMsg)}
    (h : Inv pos (queueOf w j) pend g) :
    Inv (pos + 1) (queueOf (step w op).world j) pend (ghostStep j pos w op (step w op).world g) := by
  have h' := h.mono (Nat.le_succ pos)
  cases op with
  | data i d =>
    simp only [ghostStep, step]
    rcases (recvDataMsg_queue w i d j).2 with ⟨hq, -⟩ | ⟨-, msg, -, hq⟩
    · rw [hq, List.drop_length]; exact h'
    · rw [hq, List.drop_left]; exact h.accept msg
  | ctrl i sp d =>
    simp only [ghostStep]
    rcases step_ctrl_qr w i sp d j with ⟨hq, -⟩ | ⟨hq, -⟩ | ⟨hq, -⟩
    · rw [hq, if_neg (fun hh => hh.2 hh.1)]; exact h'
    · rw [hq, if_neg (fun hh => hh.2 hh.1)]; exact h'
    · rw [hq]
      split
      · exact h.clear.mono (Nat.le_succ _)
      · next ho => rw [← Decidable.of_not_not fun hne => ho ⟨rfl, hne⟩]; exact h'
  | tick =>
    simp only [ghostStep]
    rcases step_tick_queue w j with hq | ⟨fn, -, hs, -, hq⟩
    · rw [hq]
      cases w.clkSrc with
      | none => exact h'
      | some fn => simp only [if_true]; exact h'
    · rw [hs, hq]
      simp only []
      split
      · next he => rw [he]; exact h'
      · exact (h.tick fn).mono (Nat.le_succ _)
  | jump fn =>
    have hq : queueOf (step w (.jump fn)).world j = queueOf w j := by simp only [step, jump]; split <;> rfl
    rw [hq]; exact h'

theorem replayFrom_inv (j : Nat) : ∀ (ops : List Op) (pos : Nat) (w : World) (g : Ghost),
    Inv pos (queueOf w j) [] g →
    Inv (pos + ops.length) (queueOf (run w ops).1 j) [] (replayFrom j pos w ops g) := by
  intro ops
  induction ops with
  | nil => intro pos w g h; exact h
  | cons op ops ih =>
    intro pos w g h
    have := ih (pos + 1) (step w op).world _ (ghostStep_inv op h)
    rwa [Nat.add_assoc, Nat.add_comm 1] at this

theorem ghost_inv (w : World) (ops : List Op) (j : Nat) (h0 : queueOf w j = []) :
    Inv ops.length (queueOf (run w ops).1 j) [] (ghost w ops j) := by
  have := replayFrom_inv j ops 0 w {} (by rw [h0]; exact Inv.init 0)
  rwa [Nat.zero_add] at this

end OsmoVerif.World

/-! ### consequences of `ExactlyOnce` -/
namespace OsmoVerif.Spec.TxQueue
variable {μ : Type} {fnOf : μ → Option Int} {log : List (Event μ)} {queued : List Nat}

theorem ExactlyOnce.nodup_all (h : ExactlyOnce fnOf log queued) : (outIds log ++ queued).Nodup :=
  h.accounted.nodup_iff.mpr h.ids_distinct

/-- at most one outcome event per id -/
theorem ExactlyOnce.outcome_unique (h : ExactlyOnce fnOf log queued) : (outIds log).Nodup :=
  (List.nodup_append.mp h.nodup_all).1

theorem ExactlyOnce.queued_nodup (h : ExactlyOnce fnOf log queued) : queued.Nodup :=
  (List.nodup_append.mp h.nodup_all).2.1

theorem ExactlyOnce.queued_no_outcome (h : ExactlyOnce fnOf log queued) {id : Nat} (hq : id ∈ queued) :
    id ∉ outIds log := fun ho => (List.nodup_append.mp h.nodup_all).2.2 id ho id hq rfl

/-- nothing is lost, nothing appears from nowhere -/
theorem ExactlyOnce.accounted_iff (h : ExactlyOnce fnOf log queued) (id : Nat) :
    id ∈ accIds log ↔ (id ∈ outIds log ∨ id ∈ queued) := by
  rw [← h.accounted.mem_iff, List.mem_append]
end OsmoVerif.Spec.TxQueue
namespace OsmoVerif.World
open OsmoVerif OsmoVerif.Spec.TxQueue

/-! ### the ghost of `ops ++ [op]` -/

theorem replayFrom_append (j : Nat) : ∀ (ops ops2 : List Op) (pos : Nat) (w : World) (g : Ghost),
    replayFrom j pos w (ops ++ ops2) g =
      replayFrom j (pos + ops.length) (run w ops).1 ops2 (replayFrom j pos w ops g) := by
  intro ops
  induction ops with
  | nil => intro ops2 pos w g; rfl
  | cons op ops ih =>
    intro ops2 pos w g
    simp only [List.cons_append, replayFrom, run, List.length_cons]
    rw [ih, Nat.add_assoc, Nat.add_comm 1]

theorem ghost_snoc (w : World) (ops : List Op) (op : Op) (j : Nat) :
    ghost w (ops ++ [op]) j =
      ghostStep j ops.length (run w ops).1 op (step (run w ops).1 op).world (ghost w ops j) := by
  rw [ghost, replayFrom_append, Nat.zero_add]; rfl

/-! ### provenance of events -/

/-- where the events of one operation come from: an accepted datagram, a queue cleared, or a tick that reaches the
running transceiver `j` and classifies a queued message `emit` or `stale` -/
theorem ghostStep_mem {j pos : Nat} {w : World} {op : Op} {g : Ghost} {e : Ev}
    (h : e ∈ (ghostStep j pos w op (step w op).world g).log) :
    e ∈ g.log ∨ (∃ m, e = Event.accepted pos m) ∨ (∃ id, e = Event.cleared id) ∨
    (op = .tick ∧ ∃ fn p, w.clkRunning = true ∧ w.clkSrc = some fn ∧ runningOf w j = true ∧
        p ∈ g.ids.zip (queueOf w j) ∧
        ((classify fn p.2 = .emit ∧ e = Event.emitted p.1 fn) ∨
         (classify fn p.2 = .stale ∧ e = Event.stale p.1 fn))) := by
  cases op with
  | data i d =>
    simp only [ghostStep] at h
    split at h
    · exact (List.mem_append.1 h).imp_right fun h => .inl ⟨_, List.mem_singleton.1 h⟩
    · exact .inl h
  | ctrl i sp d =>
    simp only [ghostStep] at h
    split at h
    · exact (List.mem_append.1 h).imp_right fun h => .inr (.inl ((List.mem_map.1 h).imp fun _ h => h.2.symm))
    · exact .inl h
  | tick =>
    simp only [ghostStep] at h
    rcases step_tick_queue w j with hq | ⟨fn, hr, hs, hrun, hq⟩
    · rw [hq] at h
      cases hcs : w.clkSrc with
      | none => rw [hcs] at h; exact .inl h
      | some fn => rw [hcs] at h; simp only [if_true] at h; exact .inl h
    · rw [hs] at h
      simp only [] at h
      split at h
      · exact .inl h
      · refine (List.mem_append.1 h).imp_right fun h => .inr (.inr ⟨rfl, fn, ?_⟩)
        rcases mem_tickEvents h with ⟨p, hp, hc⟩ | ⟨p, hp, hc⟩
        · exact ⟨p, hr, hs, hrun, hp, .inl hc⟩
        · exact ⟨p, hr, hs, hrun, hp, .inr hc⟩
  | jump fn => exact .inl h
theorem ghostStep_log_mono {j pos : Nat} {w w' : World} {op : Op} {g : Ghost} {e : Ev} (h : e ∈ g.log) :
    e ∈ (ghostStep j pos w op w' g).log := by
  cases op <;> simp only [ghostStep]
  · split <;> simp [h]
  · split <;> simp [h]
  · split
    · exact h
    · split <;> simp [h]
  · exact h

theorem ghost_log_mono (w : World) (ops ops2 : List Op) (j : Nat) {e : Ev} (h : e ∈ (ghost w ops j).log) :
    e ∈ (ghost w (ops ++ ops2) j).log := by
  induction ops2 using snoc_induction with
  | h0 => rwa [List.append_nil]
  | hs l a ih => rw [← List.append_assoc, ghost_snoc]; exact ghostStep_log_mono ih

/-- every event of a history was produced by one of its operations (`ghostStep_mem` at that point) -/
theorem ghost_mem_origin (w : World) (j : Nat) {e : Ev} (ops : List Op) (h : e ∈ (ghost w ops j).log) :
    ∃ pre op post, ops = pre ++ op :: post ∧ e ∉ (ghost w pre j).log ∧
      e ∈ (ghost w (pre ++ [op]) j).log := by
  induction ops using snoc_induction with
  | h0 => cases h
  | hs l a ih =>
    by_cases hl : e ∈ (ghost w l j).log
    · obtain ⟨pre, op, post, rfl, h1, h2⟩ := ih hl
      exact ⟨pre, op, post ++ [a], by simp, h1, h2⟩
    · exact ⟨l, a, [], rfl, hl, h⟩

/-! ### a completed tick -/

theorem tick_nothing_due {fn : Nat} {ids : List Nat} {q : List Trxd.TxMsg} (hl : ids.length = q.length)
    (h : waitPart fn q = q) : tickEvents fn (ids.zip q) = [] ∧ tickIds fn (ids.zip q) = ids := by
  have hall : ∀ p ∈ ids.zip q, classify fn p.2 = .wait := fun p hp =>
    beq_iff_eq.1 (List.filter_eq_self.1 h p.2 (List.of_mem_zip (a := p.1) (b := p.2) hp).2)
  constructor
  · rw [tickEvents, List.filter_eq_nil_iff.2, List.filter_eq_nil_iff.2] <;>
      first | rfl | (intro p hp; rw [hall p hp]; decide)
  · rw [tickIds, List.filter_eq_self.2 fun p hp => by rw [hall p hp]; rfl]
    exact List.map_fst_zip (Nat.le_of_eq hl)

theorem ghost_tick_complete (w0 : World) (ops : List Op) (j : Nat) (h0 : queueOf w0 j = []) {fn : Nat}
    (hr : (run w0 ops).1.clkRunning = true) (hs : (run w0 ops).1.clkSrc = some fn)
    (hrun : runningOf (run w0 ops).1 j = true) (hx : (step (run w0 ops).1 .tick).exc = none) :
    ghost w0 (ops ++ [Op.tick]) j =
      ⟨tickIds fn ((ghost w0 ops j).ids.zip (queueOf (run w0 ops).1 j)),
       (ghost w0 ops j).log ++ tickEvents fn ((ghost w0 ops j).ids.zip (queueOf (run w0 ops).1 j))⟩ ∧
    queueOf (run w0 (ops ++ [Op.tick])).1 j = waitPart fn (queueOf (run w0 ops).1 j) ∧
    (run w0 (ops ++ [Op.tick])).1.clkSrc = some ((fn + 1) % Gen.World.hyperframe) := by
  obtain ⟨js1, js2, hjs, -, -, h3, -, h5, -⟩ := tick_spec hr hs
  obtain ⟨rfl, hc⟩ := h5 hx
  -- the tick is not cut short, so it reaches `j`
  have hj : j ∈ js1 := by
    rw [← List.append_nil js1, ← hjs, List.mem_range]
    refine Nat.lt_of_not_le fun hle => ?_
    rw [runningOf, List.getElem?_eq_none hle] at hrun
    cases hrun
  have hq : queueOf (step (run w0 ops).1 .tick).world j = waitPart fn (queueOf (run w0 ops).1 j) := by
    rw [step, h3 j hj, tickedQueue, hrun, if_pos rfl]
  refine ⟨?_, by rw [run_snoc]; exact hq, by rw [run_snoc]; exact hc⟩
  rw [ghost_snoc]
  simp only [ghostStep, hs, hq]
  split
  · next he =>
    obtain ⟨h1, h2⟩ := tick_nothing_due (ghost_inv w0 ops j h0).lock he
    rw [h1, h2, List.append_nil]
  · rfl

/-- a completed tick seen from the queued message `p` of the running transceiver `j`: emitted, reported stale or still
queued (under its id) according to `classify` -/
theorem ghost_tick_msg (w0 : World) (ops : List Op) (j : Nat) (h0 : queueOf w0 j = []) {fn : Nat}
    (hr : (run w0 ops).1.clkRunning = true) (hs : (run w0 ops).1.clkSrc = some fn)
    (hrun : runningOf (run w0 ops).1 j = true) (hx : (step (run w0 ops).1 .tick).exc = none)
    {p : Nat × Trxd.TxMsg} (hp : p ∈ (ghost w0 ops j).ids.zip (queueOf (run w0 ops).1 j)) :
    (Event.emitted p.1 fn ∈ (ghost w0 (ops ++ [Op.tick]) j).log ↔ classify fn p.2 = .emit) ∧
    (Event.stale p.1 fn ∈ (ghost w0 (ops ++ [Op.tick]) j).log ↔ classify fn p.2 = .stale) ∧
    (p.1 ∈ (ghost w0 (ops ++ [Op.tick]) j).ids ↔ classify fn p.2 = .wait) ∧
    (classify fn p.2 = .wait →
      p ∈ (ghost w0 (ops ++ [Op.tick]) j).ids.zip (queueOf (run w0 (ops ++ [Op.tick])).1 j)) := by
  obtain ⟨hg, hq, -⟩ := ghost_tick_complete w0 ops j h0 hr hs hrun hx
  have h := ghost_inv w0 ops j h0
  rw [hg, hq]
  generalize ghost w0 ops j = g at *
  generalize queueOf (run w0 ops).1 j = q at *
  have hno := h.spec.queued_no_outcome (List.mem_append_left _ (List.of_mem_zip (a := p.1) (b := p.2) hp).1)
  -- ids are distinct, so `p` is the only element of the tagged queue with its id
  have inj : ∀ p' ∈ g.ids.zip q, p'.1 = p.1 → p' = p := fun p' hp' e =>
    nodup_filterMap_inj (f := fun x : Nat × Trxd.TxMsg => some x.1) (l := g.ids.zip q)
      (by rw [List.filterMap_eq_map', List.map_fst_zip (Nat.le_of_eq h.lock)]
          exact (List.nodup_append.1 h.spec.queued_nodup).1) hp' hp (congrArg some e) rfl
  have mem : ∀ {c : Due}, classify fn p.2 = c → p ∈ (g.ids.zip q).filter (fun p => classify fn p.2 == c) :=
    fun hc => List.mem_filter.2 ⟨hp, beq_iff_eq.2 hc⟩
  refine ⟨⟨fun hm => ?_, fun hc => ?_⟩, ⟨fun hm => ?_, fun hc => ?_⟩, ⟨fun hm => ?_, fun hc => ?_⟩, fun hc => ?_⟩
  · rcases List.mem_append.1 hm with hm | hm
    · exact absurd (mem_outIds hm rfl) hno
    · rcases mem_tickEvents hm with ⟨p', hp', hc, he⟩ | ⟨p', _, _, he⟩
      · exact inj p' hp' (Event.emitted.inj he).1.symm ▸ hc
      · cases he
  · exact List.mem_append_right _ (List.mem_append_left _ (List.mem_map.2 ⟨p, mem hc, rfl⟩))
  · rcases List.mem_append.1 hm with hm | hm
    · exact absurd (mem_outIds hm rfl) hno
    · rcases mem_tickEvents hm with ⟨p', _, _, he⟩ | ⟨p', hp', hc, he⟩
      · cases he
      · exact inj p' hp' (Event.stale.inj he).1.symm ▸ hc
  · exact List.mem_append_right _ (List.mem_append_right _ (List.mem_map.2 ⟨p, mem hc, rfl⟩))
  · obtain ⟨p', hp', e⟩ := List.mem_map.1 hm
    obtain ⟨h1, h2⟩ := List.mem_filter.1 hp'
    exact inj p' h1 e ▸ beq_iff_eq.1 h2
  · exact List.mem_map.2 ⟨p, mem hc, rfl⟩
  · rw [tickIds, waitPart, (zip_filter (fun m => classify fn m == .wait) h.lock).2]
    exact mem hc

/-! ### liveness while the transceiver stays powered on -/

/-- the clock keeps running, transceiver `j` stays powered on, the clock is not adjusted (no jumps)
and no exception leaves a tick, throughout the history `ops` from `w` -/
def Steady (j : Nat) : World → List Op → Prop
  | w, [] => w.clkRunning = true ∧ runningOf w j = true
  | w, op :: ops => w.clkRunning = true ∧ runningOf w j = true ∧ (∀ fn, op ≠ .jump fn) ∧
      (op = .tick → (step w op).exc = none) ∧ Steady j (step w op).world ops

/-- number of ticks in a history -/
def ticks : List Op → Nat
  | [] => 0
  | .tick :: ops => ticks ops + 1
  | _ :: ops => ticks ops

theorem Steady.head {j : Nat} {w : World} {ops : List Op} (h : Steady j w ops) :
    w.clkRunning = true ∧ runningOf w j = true := by
  cases ops with
  | nil => exact h
  | cons op ops => exact ⟨h.1, h.2.1⟩

/-- a data datagram to `i`, seen from `j`: accepted by `j` as `msg` and appended under the id `ops.length`, or nothing -/
theorem ghost_data (w0 : World) (ops : List Op) (j i : Nat) (d : List Nat) :
    (i = j ∧ ∃ msg, Accepts (run w0 ops).1 j d msg ∧
      queueOf (run w0 (ops ++ [Op.data i d])).1 j = queueOf (run w0 ops).1 j ++ [msg] ∧
      ghost w0 (ops ++ [Op.data i d]) j =
        ⟨(ghost w0 ops j).ids ++ [ops.length], (ghost w0 ops j).log ++ [Event.accepted ops.length msg]⟩) ∨
    (¬ (i = j ∧ ∃ msg, Accepts (run w0 ops).1 j d msg) ∧
      queueOf (run w0 (ops ++ [Op.data i d])).1 j = queueOf (run w0 ops).1 j ∧
      ghost w0 (ops ++ [Op.data i d]) j = ghost w0 ops j) := by
  rw [run_snoc, ghost_snoc]
  simp only [ghostStep, step]
  rcases (recvDataMsg_queue (run w0 ops).1 i d j).2 with ⟨hq, hn⟩ | ⟨rfl, msg, ha, hq⟩
  · exact .inr ⟨fun h => hn ⟨h.1.symm, h.1 ▸ h.2⟩, hq, by rw [hq, List.drop_length]⟩
  · exact .inl ⟨rfl, msg, ha, hq, by rw [hq, List.drop_left]⟩

theorem ghost_data_mem (w0 : World) (ops : List Op) (j : Nat) (h0 : queueOf w0 j = []) (i : Nat) (d : List Nat)
    {p : Nat × Trxd.TxMsg} (hp : p ∈ (ghost w0 ops j).ids.zip (queueOf (run w0 ops).1 j)) :
    p ∈ (ghost w0 (ops ++ [Op.data i d]) j).ids.zip (queueOf (run w0 (ops ++ [Op.data i d])).1 j) := by
  rcases ghost_data w0 ops j i d with ⟨-, msg, -, hq, hg⟩ | ⟨-, hq, hg⟩ <;> rw [hq, hg]
  · rw [List.zip_append (ghost_inv w0 ops j h0).lock]; exact List.mem_append_left _ hp
  · exact hp

theorem ghost_ctrl_running (w0 : World) (ops : List Op) (j : Nat) (i sp : Nat) (d : List Nat)
    (hrun : runningOf (run w0 (ops ++ [Op.ctrl i sp d])).1 j = true) :
    queueOf (run w0 (ops ++ [Op.ctrl i sp d])).1 j = queueOf (run w0 ops).1 j ∧
    ghost w0 (ops ++ [Op.ctrl i sp d]) j = ghost w0 ops j := by
  rw [run_snoc] at hrun ⊢
  have hq : queueOf (step (run w0 ops).1 (Op.ctrl i sp d)).world j = queueOf (run w0 ops).1 j := by
    rcases step_ctrl_qr (run w0 ops).1 i sp d j with ⟨hq, -⟩ | ⟨hq, -⟩ | ⟨-, hr⟩
    · exact hq
    · exact hq
    · rw [hr] at hrun; cases hrun
  refine ⟨hq, ?_⟩
  rw [ghost_snoc]
  simp only [ghostStep, hq]
  rw [if_neg (fun hh => hh.2 hh.1)]

/-- While `Steady`, a queued message waits through the ticks that classify it `wait` and gets its outcome from the first
tick that does not: if the tick `n` ticks from now will not classify `p` as `wait`, then after `n + 1` ticks some tick
`i ≤ n` from now, the first not to say `wait`, has emitted it or reported it stale. -/
theorem resolve_within (w0 : World) (j : Nat) (h0 : queueOf w0 j = []) (p : Nat × Trxd.TxMsg) :
    ∀ (ops2 ops : List Op) (c n : Nat), Steady j (run w0 ops).1 ops2 →
      p ∈ (ghost w0 ops j).ids.zip (queueOf (run w0 ops).1 j) →
      (run w0 ops).1.clkSrc = some c → c < 2715648 →
      classify ((c + n) % 2715648) p.2 ≠ .wait → ticks ops2 ≥ n + 1 →
      ∃ i ≤ n, (∀ k < i, classify ((c + k) % 2715648) p.2 = .wait) ∧
        ((classify ((c + i) % 2715648) p.2 = .emit ∧
            Event.emitted p.1 ((c + i) % 2715648) ∈ (ghost w0 (ops ++ ops2) j).log) ∨
         (classify ((c + i) % 2715648) p.2 = .stale ∧
            Event.stale p.1 ((c + i) % 2715648) ∈ (ghost w0 (ops ++ ops2) j).log)) := by
  intro ops2
  induction ops2 with
  | nil => intro ops c n _ _ _ _ _ ht; simp [ticks] at ht
  | cons op ops2 ih =>
    intro ops c n hst hp hc hcH hn ht
    obtain ⟨hr, hrun, hnj, hx, hst'⟩ := hst
    rw [show ops ++ op :: ops2 = (ops ++ [op]) ++ ops2 by simp]
    rw [← run_snoc] at hst'
    cases op with
    | data i d =>
      refine ih (ops ++ [Op.data i d]) c n hst' (ghost_data_mem w0 ops j h0 i d hp) ?_ hcH hn ht
      rw [run_snoc, (step_data_clk _ i d).1]; exact hc
    | ctrl i sp d =>
      obtain ⟨hq, hg⟩ := ghost_ctrl_running w0 ops j i sp d hst'.head.2
      refine ih (ops ++ [Op.ctrl i sp d]) c n hst' (by rw [hq, hg]; exact hp) ?_ hcH hn ht
      rw [run_snoc]
      rcases step_ctrl_clk (run w0 ops).1 i sp d with h | ⟨h, -⟩
      · rw [h]; exact hc
      · rw [hr] at h; cases h
    | jump fn => exact absurd rfl (hnj fn)
    | tick =>
      obtain ⟨e1, e2, -, e4⟩ := ghost_tick_msg w0 ops j h0 hr hc hrun (hx rfl) hp
      have c0 : (c + 0) % 2715648 = c := Nat.mod_eq_of_lt hcH
      rcases classify_cases c p.2 with hcl | hcl | hcl
      · exact ⟨0, Nat.zero_le _, nofun, .inl ⟨c0.symm ▸ hcl, c0.symm ▸ ghost_log_mono w0 _ ops2 j (e1.2 hcl)⟩⟩
      · exact ⟨0, Nat.zero_le _, nofun, .inr ⟨c0.symm ▸ hcl, c0.symm ▸ ghost_log_mono w0 _ ops2 j (e2.2 hcl)⟩⟩
      · -- `p` waits: go on from the next clock value
        have sh : ∀ k, ((c + 1) % 2715648 + k) % 2715648 = (c + (k + 1)) % 2715648 := fun k => by omega
        cases n with
        | zero => exact absurd (c0.symm ▸ hcl) hn
        | succ n =>
          have hclk := (ghost_tick_complete w0 ops j h0 hr hc hrun (hx rfl)).2.2
          obtain ⟨i, hi, hw, hev⟩ := ih (ops ++ [Op.tick]) ((c + 1) % 2715648) n hst' (e4 hcl) hclk
            (Nat.mod_lt _ (by decide)) (sh n ▸ hn) (Nat.le_of_succ_le_succ ht)
          rw [sh] at hev
          refine ⟨i + 1, Nat.succ_le_succ hi, fun k hk => ?_, hev⟩
          cases k with
          | zero => exact c0.symm ▸ hcl
          | succ k => exact sh k ▸ hw k (Nat.lt_of_succ_lt_succ hk)

/-- every accepted message carries a frame number (any value the four octets encode) -/
theorem parseMsg_fn {data : List Nat} {msg : Trxd.TxMsg} (h : Trxd.TxMsg.parseMsg data = .ok msg) :
    ∃ fn : Nat, msg.fn = some (fn : Int) := by
  simp only [Trxd.TxMsg.parseMsg, bind, Except.bind, pure, Except.pure, throw, throwThe,
    MonadExceptOf.throw] at h
  repeat' split at h
  all_goals first
    | (cases h; done)
    | (cases h; exact ⟨_, rfl⟩)

def isStaleEv : Ev → Bool
  | .stale _ _ => true
  | _ => false

theorem countP_stale_tickEvents (fn : Nat) (ids : List Nat) (q : List Trxd.TxMsg) (hl : ids.length = q.length) :
    (tickEvents fn (ids.zip q)).countP isStaleEv = (q.filter (fun m => classify fn m == .stale)).length := by
  rw [← (zip_filter (fun m => classify fn m == .stale) hl).1, List.length_map, tickEvents, List.countP_append,
    List.countP_map, List.countP_map]
  have e1 : (isStaleEv ∘ fun p : Nat × Trxd.TxMsg => Event.emitted p.1 fn) = fun _ => false := rfl
  have e2 : (isStaleEv ∘ fun p : Nat × Trxd.TxMsg => Event.stale p.1 fn) = fun _ => true := rfl
  rw [e1, e2]
  simp

/-- `Steady` as a check that can be evaluated -/
def steadyCheck (j : Nat) : World → List Op → Bool
  | w, [] => w.clkRunning && runningOf w j
  | w, op :: ops => w.clkRunning && runningOf w j &&
      (match op with | .jump _ => false | .tick => (step w op).exc.isNone | _ => true) &&
      steadyCheck j (step w op).world ops

theorem Steady.of_check {j : Nat} : ∀ {ops : List Op} {w : World}, steadyCheck j w ops = true → Steady j w ops
  | [], w, h => by simpa [steadyCheck, Steady] using h
  | op :: ops, w, h => by
    simp only [steadyCheck, Bool.and_eq_true] at h
    obtain ⟨⟨⟨h1, h2⟩, h3⟩, h4⟩ := h
    refine ⟨h1, h2, fun fn e => ?_, fun e => ?_, Steady.of_check h4⟩
    · subst e; cases h3
    · subst e; exact Option.isNone_iff_eq_none.1 h3

/-! ### concrete worlds for the non-vacuity examples of Props/C03 -/

/-- two running, tuned transceivers (BTS side and MS side), clock generator running at frame `c` -/
def demoWorld (c : Nat) : World :=
  { trxs := [
      { addr := 1, basePort := 5700, childIdx := 0, childMgt := true, hasClock := true,
        running := true, rxFreq := some 890000000, txFreq := some 935000000 },
      { addr := 2, basePort := 6700, childIdx := 0, childMgt := false, hasClock := true,
        running := true, rxFreq := some 935000000, txFreq := some 890000000 }],
    clkLinks := [0, 1], clkRunning := true, clkSrc := some c }

/-- a version-0 L1→TRX datagram: header (ver/tn, FN big-endian, power) and 148 hard bits -/
def demoBurst (fn : Nat) : List Nat :=
  [0, fn / 16777216 % 256, fn / 65536 % 256, fn / 256 % 256, fn % 256, 10] ++ List.replicate 148 1

/-- the message `demoBurst fn` parses to -/
def demoMsg (fn : Nat) : Trxd.TxMsg := ⟨0, some fn, some 0, some 10, some (List.replicate 148 1)⟩

/-- three bursts to transceiver 0: one due at frame 100, one whose frame has passed, one ahead -/
def demoArrivals : List Op := [.data 0 (demoBurst 100), .data 0 (demoBurst 90), .data 0 (demoBurst 110)]

/-- the TRXC datagram `CMD POWEROFF` -/
def demoPoweroff : List Nat := PyStr.encodeUtf8 (PyStr.lit "CMD POWEROFF\x00")
/-- the TRXC datagram `CMD SETFORMAT 1` -/
def demoSetformat1 : List Nat := PyStr.encodeUtf8 (PyStr.lit "CMD SETFORMAT 1\x00")

end OsmoVerif.World
