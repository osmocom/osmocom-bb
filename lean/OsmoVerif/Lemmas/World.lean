/-
What each operation of the world model changes: a normal form per operation (`powerEvent`,
`verifyCmd`, `ctrlCmdHandler`, `commonCmd`, `parseCmd`, `handleRx`, `recvDataMsg`), proved once,
from which the invariants of the property modules follow by small computations.
-/
import OsmoVerif.Model.World

namespace OsmoVerif.World
open OsmoVerif OsmoVerif.PyStr

/-! ### lists seen through a view of their elements -/

theorem map_modify_eq {α β} (g : α → β) (f : α → α) (h : ∀ x, g (f x) = g x) (l : List α) (i : Nat) :
    (l.modify i f).map g = l.map g := by
  apply List.ext_getElem?
  intro k
  simp only [List.getElem?_map, List.getElem?_modify]
  cases l[k]? with
  | none => rfl
  | some x =>
    simp only [Option.map_eq_map, Option.map_some]
    split
    · rw [h]
    · rfl

theorem getElem?_of_map_eq {α β} (g : α → β) {l l' : List α} (h : l'.map g = l.map g) (k : Nat) :
    (l'[k]?).map g = (l[k]?).map g := by
  rw [← List.getElem?_map, ← List.getElem?_map, h]

theorem getElem?_some_of_map_eq {α β} (g : α → β) {l l' : List α} (h : l'.map g = l.map g) {k : Nat}
    {x' : α} (hx : l'[k]? = some x') : ∃ x, l[k]? = some x ∧ g x = g x' := by
  have h1 := getElem?_of_map_eq g h k
  rw [hx] at h1
  cases hk : l[k]? with
  | none => rw [hk] at h1; cases h1
  | some x => rw [hk] at h1; exact ⟨x, rfl, (Option.some.inj h1).symm⟩

theorem length_of_map_eq {α β} (g : α → β) {l l' : List α} (h : l'.map g = l.map g) :
    l'.length = l.length := by
  have := congrArg List.length h
  simpa only [List.length_map] using this

theorem getElem?_of_lt {w : World} {i : Nat} (hi : i < w.trxs.length) : ∃ t, w.trxs[i]? = some t :=
  ⟨w.trxs[i], List.getElem?_eq_getElem hi⟩

/-! ### Patch frame lemmas -/

@[simp] theorem Patch.apply_running (p : Patch) (t : Trx) : (p.apply t).running = t.running := by
  cases p <;> rfl
@[simp] theorem Patch.apply_txQueue (p : Patch) (t : Trx) : (p.apply t).txQueue = t.txQueue := by
  cases p <;> rfl
@[simp] theorem Patch.apply_children (p : Patch) (t : Trx) : (p.apply t).children = t.children := by
  cases p <;> rfl
@[simp] theorem Patch.apply_childMgt (p : Patch) (t : Trx) : (p.apply t).childMgt = t.childMgt := by
  cases p <;> rfl
@[simp] theorem Patch.apply_childIdx (p : Patch) (t : Trx) : (p.apply t).childIdx = t.childIdx := by
  cases p <;> rfl
@[simp] theorem Patch.apply_hasClock (p : Patch) (t : Trx) : (p.apply t).hasClock = t.hasClock := by
  cases p <;> rfl
@[simp] theorem Patch.apply_hasPm (p : Patch) (t : Trx) : (p.apply t).hasPm = t.hasPm := by
  cases p <;> rfl
@[simp] theorem Patch.apply_addr (p : Patch) (t : Trx) : (p.apply t).addr = t.addr := by
  cases p <;> rfl
@[simp] theorem Patch.apply_basePort (p : Patch) (t : Trx) : (p.apply t).basePort = t.basePort := by
  cases p <;> rfl

/-! ### setTrx -/

theorem setTrx_getElem? (w : World) (i : Nat) (f : Trx → Trx) (k : Nat) :
    (setTrx w i f).trxs[k]? = if i = k then (w.trxs[k]?).map f else w.trxs[k]? := by
  simp only [setTrx, List.getElem?_modify]
  split
  · rfl
  · cases w.trxs[k]? <;> rfl

@[simp] theorem setTrx_length (w : World) (i : Nat) (f : Trx → Trx) :
    (setTrx w i f).trxs.length = w.trxs.length := by
  simp [setTrx]

@[simp] theorem setTrx_clkLinks (w : World) (i : Nat) (f : Trx → Trx) :
    (setTrx w i f).clkLinks = w.clkLinks := rfl
@[simp] theorem setTrx_clkRunning (w : World) (i : Nat) (f : Trx → Trx) :
    (setTrx w i f).clkRunning = w.clkRunning := rfl
@[simp] theorem setTrx_clkSrc (w : World) (i : Nat) (f : Trx → Trx) :
    (setTrx w i f).clkSrc = w.clkSrc := rfl
@[simp] theorem setTrx_seed (w : World) (i : Nat) (f : Trx → Trx) :
    (setTrx w i f).seed = w.seed := rfl
@[simp] theorem setTrx_drawK (w : World) (i : Nat) (f : Trx → Trx) :
    (setTrx w i f).drawK = w.drawK := rfl

/-- the same idempotent update at every index of `l`: order and repetitions do not matter -/
theorem foldl_setTrx_getElem? (f : Trx → Trx) (hf : ∀ t, f (f t) = f t) :
    ∀ (l : List Nat) (w : World) (k : Nat),
      (l.foldl (fun w j => setTrx w j f) w).trxs[k]? =
        if k ∈ l then (w.trxs[k]?).map f else w.trxs[k]? := by
  intro l
  induction l with
  | nil => intro w k; simp
  | cons j l ih =>
    intro w k
    rw [List.foldl_cons, ih, setTrx_getElem?]
    by_cases e : j = k
    · subst e
      simp only [if_true, List.mem_cons, true_or]
      cases w.trxs[j]? <;> simp [hf]
    · have : ¬ k = j := fun h => e h.symm
      simp only [if_neg e, List.mem_cons, this, false_or]

theorem foldl_setTrx_eq (f : Trx → Trx) : ∀ (l : List Nat) (w : World),
    l.foldl (fun w j => setTrx w j f) w =
      { w with trxs := (l.foldl (fun w j => setTrx w j f) w).trxs } := by
  intro l
  induction l with
  | nil => intro w; rfl
  | cons j l ih => intro w; rw [List.foldl_cons, ih]; rfl

/-! ### power handling -/

/-- what `power_event_handler` does to each transceiver it visits: `trx.running = poweron`; on
power-off also `tx_queue_clear()` and `disable_fh()` -/
def powerUpd (on : Bool) (t : Trx) : Trx :=
  if on then { t with running := true }
  else { t with running := false, txQueue := [], fh := none }

theorem powerUpd_idem (on : Bool) (t : Trx) : powerUpd on (powerUpd on t) = powerUpd on t := by
  cases on <;> rfl

@[simp] theorem powerUpd_running (on : Bool) (t : Trx) : (powerUpd on t).running = on := by
  cases on <;> rfl

theorem powerUpd_off (t : Trx) :
    (powerUpd false t).fh = none ∧ (powerUpd false t).txQueue = [] ∧ (powerUpd false t).running = false :=
  ⟨rfl, rfl, rfl⟩

/-- the loop of `power_event_handler`: `trx.running = poweron`; on power-off also
`tx_queue_clear()` and `disable_fh()` -/
def powerSet (w : World) (list : List Nat) (on : Bool) : World :=
  list.foldl (fun w j =>
    setTrx w j (fun t =>
      if on then { t with running := true }
      else { t with running := false, txQueue := [], fh := none })) w

/-- the transceivers `power_event_handler` of `self` (at index `i`) touches -/
def powerList (self : Trx) (i : Nat) : List Nat :=
  if self.childMgt && self.childIdx == 0 then i :: self.children else [i]

/-- `clck_links` after `power_event_handler(on)` of the clock owner `i` -/
def powerLinks (links : List Nat) (i : Nat) (on : Bool) : List Nat :=
  if ¬ on ∧ links.contains i then links.erase i
  else if on ∧ ¬ links.contains i then links ++ [i]
  else links

/-- the clock part of `power_event_handler` (transceivers with a clock generator) -/
def powerClock (w : World) (i : Nat) (on : Bool) : World :=
  let links :=
    if ¬ on ∧ w.clkLinks.contains i then w.clkLinks.erase i
    else if on ∧ ¬ w.clkLinks.contains i then w.clkLinks ++ [i]
    else w.clkLinks
  let w := { w with clkLinks := links }
  if ¬ w.clkRunning ∧ links.length > 0 then
    { w with clkRunning := true, clkSrc := some Gen.World.clckStart }
  else if w.clkRunning ∧ links.isEmpty then { w with clkRunning := false }
  else w

/-- the world after `power_event_handler(on)` of transceiver `i` (object `self`) -/
def powered (w : World) (i : Nat) (self : Trx) (on : Bool) : World :=
  if ¬ self.hasClock then powerSet w (powerList self i) on
  else powerClock (powerSet w (powerList self i) on) i on

theorem powerEvent_eq (w : World) (i : Nat) (on : Bool) :
    powerEvent w i on = match w.trxs[i]? with
      | none => .error .indexError
      | some self => .ok (powered w i self on) := by
  unfold powerEvent
  cases w.trxs[i]? with
  | none => rfl
  | some self =>
    simp only [powered, powerClock, apply_ite (Except.ok (ε := Exc))]
    rfl

theorem powerEvent_powered {w : World} {i : Nat} {t : Trx} (ht : w.trxs[i]? = some t) (on : Bool) :
    powerEvent w i on = .ok (powered w i t on) := by
  rw [powerEvent_eq, ht]

theorem mem_powerList (self : Trx) (i k : Nat) :
    k ∈ powerList self i ↔ k = i ∨ (self.childMgt = true ∧ self.childIdx = 0 ∧ k ∈ self.children) := by
  unfold powerList
  by_cases hc : (self.childMgt && self.childIdx == 0) = true
  · rw [if_pos hc, List.mem_cons]
    simp only [Bool.and_eq_true, beq_iff_eq] at hc
    simp only [hc.1, hc.2, true_and]
  · rw [if_neg hc, List.mem_singleton]
    simp only [Bool.and_eq_true, beq_iff_eq] at hc
    exact ⟨.inl, fun h => h.elim id (fun h => absurd ⟨h.1, h.2.1⟩ hc)⟩

theorem powerSet_eq (w : World) (l : List Nat) (on : Bool) :
    powerSet w l on = { w with trxs := (powerSet w l on).trxs } :=
  foldl_setTrx_eq (powerUpd on) l w

@[simp] theorem powerSet_clkLinks (w : World) (l : List Nat) (on : Bool) :
    (powerSet w l on).clkLinks = w.clkLinks := by rw [powerSet_eq]
@[simp] theorem powerSet_clkRunning (w : World) (l : List Nat) (on : Bool) :
    (powerSet w l on).clkRunning = w.clkRunning := by rw [powerSet_eq]
@[simp] theorem powerSet_clkSrc (w : World) (l : List Nat) (on : Bool) :
    (powerSet w l on).clkSrc = w.clkSrc := by rw [powerSet_eq]
theorem powerSet_getElem? (w : World) (l : List Nat) (on : Bool) (k : Nat) :
    (powerSet w l on).trxs[k]? = if k ∈ l then (w.trxs[k]?).map (powerUpd on) else w.trxs[k]? :=
  foldl_setTrx_getElem? (powerUpd on) (powerUpd_idem on) l w k

/-- the clock generator after `power_event_handler` of a clock owner: the link of `i` follows
`on`, the generator runs iff a link is left, and `clck_src` restarts when the generator does -/
theorem powerClock_eq (w : World) (i : Nat) (on : Bool) :
    powerClock w i on =
      { w with
        clkLinks := powerLinks w.clkLinks i on
        clkRunning := !(powerLinks w.clkLinks i on).isEmpty
        clkSrc := if w.clkRunning = false ∧ powerLinks w.clkLinks i on ≠ [] then some Gen.World.clckStart
                  else w.clkSrc } := by
  have h : ∀ links : List Nat,
      (let w1 : World := { w with clkLinks := links }
       if ¬ w1.clkRunning ∧ links.length > 0 then
         { w1 with clkRunning := true, clkSrc := some Gen.World.clckStart }
       else if w1.clkRunning ∧ links.isEmpty then { w1 with clkRunning := false }
       else w1) =
      { w with
        clkLinks := links
        clkRunning := !links.isEmpty
        clkSrc := if w.clkRunning = false ∧ links ≠ [] then some Gen.World.clckStart else w.clkSrc } := by
    intro links
    obtain ⟨trxs, clkLinks, clkRunning, clkSrc, seed, drawK⟩ := w
    cases clkRunning <;> cases links <;> rfl
  exact h (powerLinks w.clkLinks i on)

@[simp] theorem powerClock_trxs (w : World) (i : Nat) (on : Bool) : (powerClock w i on).trxs = w.trxs := by
  rw [powerClock_eq]
theorem powered_trxs (w : World) (i : Nat) (self : Trx) (on : Bool) :
    (powered w i self on).trxs = (powerSet w (powerList self i) on).trxs := by
  unfold powered
  split
  · rfl
  · exact powerClock_trxs _ _ _

theorem powered_getElem? (w : World) (i : Nat) (self : Trx) (on : Bool) (k : Nat) :
    (powered w i self on).trxs[k]? =
      if k ∈ powerList self i then (w.trxs[k]?).map (powerUpd on) else w.trxs[k]? := by
  rw [powered_trxs, powerSet_getElem?]

theorem powered_clk_noclock {self : Trx} (hc : self.hasClock = false) (w : World) (i : Nat) (on : Bool) :
    (powered w i self on).clkLinks = w.clkLinks ∧ (powered w i self on).clkRunning = w.clkRunning ∧
    (powered w i self on).clkSrc = w.clkSrc := by
  simp only [powered, hc, Bool.false_eq_true, not_false_eq_true, if_true]
  exact ⟨powerSet_clkLinks _ _ _, powerSet_clkRunning _ _ _, powerSet_clkSrc _ _ _⟩

theorem powered_clk_clock {self : Trx} (hc : self.hasClock = true) (w : World) (i : Nat) (on : Bool) :
    (powered w i self on).clkLinks = powerLinks w.clkLinks i on ∧
    (powered w i self on).clkRunning = !(powerLinks w.clkLinks i on).isEmpty ∧
    (powered w i self on).clkSrc =
      if w.clkRunning = false ∧ powerLinks w.clkLinks i on ≠ [] then some Gen.World.clckStart
      else w.clkSrc := by
  simp only [powered, hc, not_true_eq_false, if_false, powerClock_eq, powerSet_clkLinks,
    powerSet_clkRunning, powerSet_clkSrc, and_self]

/-! ### `verify_cmd`, `int()`, request arguments -/

theorem lit_inj {s t : String} (h : lit s = lit t) : s = t :=
  String.toList_inj.mp ((List.map_inj_right (fun _ _ h => Char.toNat_inj.mp h)).mp h)

theorem verifyCmd_cons (v : Str) (args : List Str) (cmd : String) (argc : Nat) (va : Bool) :
    verifyCmd (v :: args) cmd argc va =
      (v == lit cmd && (if va then decide (argc ≤ args.length) else args.length == argc)) := by
  simp only [verifyCmd]
  by_cases hv : v = lit cmd
  · subst hv
    cases va
    · by_cases hl : args.length = argc <;> simp [hl]
    · by_cases hl : argc ≤ args.length
      · simp [hl, Nat.not_lt.mpr hl]
      · simp [hl, Nat.lt_of_not_le hl]
  · simp [hv]

/-- for a literal verb the comparison is one of `String`s, which `simp` decides -/
theorem verifyCmd_lit (V : String) (args : List Str) (X : String) (k : Nat) (va : Bool) :
    verifyCmd (lit V :: args) X k va =
      (V == X && (if va then decide (k ≤ args.length) else args.length == k)) := by
  rw [verifyCmd_cons]
  by_cases h : V = X
  · rw [h, beq_self_eq_true, beq_self_eq_true]
  · rw [beq_eq_false_iff_ne.mpr h, beq_eq_false_iff_ne.mpr (fun e => h (lit_inj e))]

theorem verifyCmd_shape {req : List Str} {V : String} {n : Nat}
    (h : verifyCmd req V n = true) : ∃ args, req = lit V :: args ∧ args.length = n := by
  cases req with
  | nil => cases h
  | cons v args =>
    simp only [verifyCmd_cons, Bool.false_eq_true, if_false, Bool.and_eq_true, beq_iff_eq] at h
    exact ⟨args, by rw [h.1], h.2⟩

theorem verifyCmd_shape_va {req : List Str} {V : String} {n : Nat}
    (h : verifyCmd req V n true = true) : ∃ args, req = lit V :: args ∧ n ≤ args.length := by
  cases req with
  | nil => cases h
  | cons v args =>
    simp only [verifyCmd_cons, if_true, Bool.and_eq_true, beq_iff_eq, decide_eq_true_eq] at h
    exact ⟨args, by rw [h.1], h.2⟩

theorem verifyCmd0 {req : List Str} {V : String} (h : verifyCmd req V 0 = true) : req = [lit V] := by
  obtain ⟨args, rfl, hl⟩ := verifyCmd_shape h
  rw [List.length_eq_zero_iff.mp hl]

theorem verifyCmd_zero_iff (req : List Str) (cmd : String) :
    verifyCmd req cmd 0 = true ↔ req = [lit cmd] :=
  ⟨verifyCmd0, fun h => by rw [h, verifyCmd_cons]; simp⟩

theorem verifyCmd1 {req : List Str} {V : String} (h : verifyCmd req V 1 = true) :
    ∃ a, req = [lit V, a] := by
  obtain ⟨args, rfl, hl⟩ := verifyCmd_shape h
  obtain ⟨a, rfl⟩ := List.length_eq_one_iff.mp hl
  exact ⟨a, rfl⟩

theorem verifyCmd2 {req : List Str} {V : String} (h : verifyCmd req V 2 = true) :
    ∃ a b, req = [lit V, a, b] := by
  obtain ⟨args, rfl, hl⟩ := verifyCmd_shape h
  obtain _ | ⟨a, _ | ⟨b, _ | ⟨c, r⟩⟩⟩ := args
  · cases hl
  · cases hl
  · exact ⟨a, b, rfl⟩
  · cases hl

theorem verifyCmd4va {req : List Str} {V : String} (h : verifyCmd req V 4 true = true) :
    ∃ a b c d r, req = lit V :: a :: b :: c :: d :: r := by
  obtain ⟨args, rfl, hl⟩ := verifyCmd_shape_va h
  obtain _ | ⟨a, _ | ⟨b, _ | ⟨c, _ | ⟨d, r⟩⟩⟩⟩ := args
  · cases hl
  · exact absurd hl (by simp)
  · exact absurd hl (by simp)
  · exact absurd hl (by simp)
  · exact ⟨a, b, c, d, r, rfl⟩

theorem toInt_error {s : Str} {e : Exc} (h : toInt s = .error e) : e = .valueError := by
  unfold toInt at h
  split at h
  · cases h
  · cases h; rfl

theorem toInt_ok {s : Str} {v : Int} (h : pyInt s = some v) : toInt s = .ok v := by
  simp only [toInt, h]

theorem toInt_cases (s : Str) :
    (∃ v, pyInt s = some v ∧ toInt s = .ok v) ∨ (pyInt s = none ∧ toInt s = .error .valueError) := by
  unfold toInt
  cases pyInt s with
  | none => exact .inr ⟨rfl, rfl⟩
  | some v => exact .inl ⟨v, rfl, rfl⟩

theorem bind_toInt_error {α} {s : Str} {f : Int → Except Exc α} {e : Exc}
    (hf : ∀ v, f v = .error e → e = .valueError) (h : (toInt s >>= f) = .error e) : e = .valueError := by
  cases ht : toInt s with
  | error e' => rw [ht] at h; cases h; exact toInt_error ht
  | ok v => rw [ht] at h; exact hf v h

theorem bind_toInt_ok {α} {s : Str} {f : Int → Except Exc α} {x : α} (h : (toInt s >>= f) = .ok x) :
    ∃ v, pyInt s = some v ∧ f v = .ok x := by
  rcases toInt_cases s with ⟨v, hv, ht⟩ | ⟨-, ht⟩
  · rw [ht] at h; exact ⟨v, hv, h⟩
  · rw [ht] at h; cases h

@[simp] theorem arg_one (v a : Str) (r : List Str) : arg (v :: a :: r) 1 = .ok a := rfl
@[simp] theorem arg_two (v a b : Str) (r : List Str) : arg (v :: a :: b :: r) 2 = .ok b := rfl

theorem map_eq {α β} (f : α → β) (x : Except Exc α) :
    f <$> x = match x with | .ok v => .ok (f v) | .error e => .error e := by
  cases x <;> rfl

/-- `[int(f) * 1000 for f in xs]` -/
def khzList (xs : List Str) : Except Exc (List Int) :=
  xs.mapM (fun f => do let v ← toInt f; pure (v * 1000))

theorem khzList_nil : khzList [] = .ok [] := rfl
theorem khzList_cons (x : Str) (xs : List Str) :
    khzList (x :: xs) = match toInt x with
      | .error e => .error e
      | .ok v => match khzList xs with
        | .error e => .error e
        | .ok vs => .ok (v * 1000 :: vs) := by
  have h : khzList (x :: xs) = (do let v ← toInt x; let vs ← khzList xs; pure (v * 1000 :: vs)) := by
    simp only [khzList, List.mapM_cons, bind_assoc, pure_bind]
  rw [h]
  cases toInt x <;> cases khzList xs <;> rfl

theorem khzList_error {xs : List Str} {e : Exc} (h : khzList xs = .error e) : e = .valueError := by
  induction xs with
  | nil => cases h
  | cons x xs ih =>
    rw [khzList_cons] at h
    split at h
    · cases h; exact toInt_error ‹_›
    · split at h
      · cases h; exact ih ‹_›
      · cases h

/-! ### the handlers on literal requests

For a request whose verb is a `String` literal every `verify_cmd` of the chain is decided by
`verifyCmd_lit` and a comparison of literals; the chain is walked row by row (`skipVerb`,
`skipArity`) up to the row that matches. -/

theorem verifyCmd_lit_self (V : String) (args : List Str) :
    verifyCmd (lit V :: args) V args.length = true := by
  rw [verifyCmd_lit, beq_self_eq_true, Bool.true_and]
  exact beq_self_eq_true _

theorem skipVerb {α} {V X : String} (h : V ≠ X) {args : List Str} {k : Nat} {va : Bool} {x y z : α}
    (e : y = z) : (if verifyCmd (lit V :: args) X k va = true then x else y) = z := by
  rw [verifyCmd_lit, beq_eq_false_iff_ne.mpr h, Bool.false_and, if_neg Bool.false_ne_true, e]

theorem skipArity {α} {V X : String} {args : List Str} {k : Nat} (h : args.length ≠ k) {x y z : α}
    (e : y = z) : (if verifyCmd (lit V :: args) X k = true then x else y) = z := by
  rw [verifyCmd_lit, if_neg Bool.false_ne_true, beq_eq_false_iff_ne.mpr h, Bool.and_false,
    if_neg Bool.false_ne_true, e]

/-- a verb the custom handler does not know is left to the common handler -/
theorem ctrlCmdHandler_other {V : String} (args : List Str)
    (h : V ∉ ["SETTA", "FAKE_TOA", "FAKE_RSSI", "FAKE_CI", "FAKE_DROP", "FAKE_TRXC_DELAY"]) :
    ctrlCmdHandler (lit V :: args) = .ok (none, none) := by
  simp only [List.mem_cons, List.not_mem_nil, or_false, not_or] at h
  obtain ⟨h1, h2, h3, h4, h5, h6⟩ := h
  unfold ctrlCmdHandler
  exact skipVerb h1 <| skipVerb h2 <| skipVerb h2 <| skipVerb h3 <| skipVerb h3 <| skipVerb h4 <|
    skipVerb h4 <| skipVerb h5 <| skipVerb h5 <| skipVerb h6 rfl

/-- a verb the common handler does not know is acknowledged with 0 -/
theorem commonCmd_other (t : Trx) {V : String} (args : List Str)
    (h : V ∉ ["POWERON", "POWEROFF", "RXTUNE", "TXTUNE", "MEASURE", "SETFH", "SETFORMAT", "SETPOWER",
      "NOMTXPOWER", "RFMUTE"]) :
    commonCmd t (lit V :: args) = .ok (.reply 0 []) := by
  simp only [List.mem_cons, List.not_mem_nil, or_false, not_or] at h
  obtain ⟨h1, h2, h3, h4, h5, h6, h7, h8, h9, h10⟩ := h
  unfold commonCmd
  exact skipVerb h1 <| skipVerb h2 <| skipVerb h3 <| skipVerb h4 <| skipVerb h5 <| skipVerb h6 <|
    skipVerb h7 <| skipVerb h8 <| skipVerb h9 <| skipVerb h10 rfl

theorem ctrlCmdHandler_setta (a : Str) : ctrlCmdHandler [lit "SETTA", a] =
    (do let ta ← toInt a; pure (some (.ta ta), some 0)) := by
  unfold ctrlCmdHandler
  exact if_pos (verifyCmd_lit_self "SETTA" [a])

theorem ctrlCmdHandler_fake_toa2 (a b : Str) : ctrlCmdHandler [lit "FAKE_TOA", a, b] =
    (do let base ← toInt a
        let thr ← toInt b
        if thr < 0 then pure (none, some (-1)) else pure (some (.toa base thr), some 0)) := by
  unfold ctrlCmdHandler
  exact skipVerb (by simp) <|
    if_pos (verifyCmd_lit_self "FAKE_TOA" [a, b])

theorem ctrlCmdHandler_fake_toa1 (a : Str) : ctrlCmdHandler [lit "FAKE_TOA", a] =
    (do let d ← toInt a; pure (some (.toaDelta d), some 0)) := by
  unfold ctrlCmdHandler
  exact skipVerb (by simp) <|
    skipArity (by simp) <|
    if_pos (verifyCmd_lit_self "FAKE_TOA" [a])

theorem ctrlCmdHandler_fake_rssi2 (a b : Str) : ctrlCmdHandler [lit "FAKE_RSSI", a, b] =
    (do let thr ← toInt b
        if thr < 0 then pure (some .rssiOff, some 0) else
        let base ← toInt a
        let thr2 ← toInt b
        pure (some (.rssi base thr2), some 0)) := by
  unfold ctrlCmdHandler
  exact skipVerb (by simp) <|
    skipVerb (by simp) <|
    skipVerb (by simp) <|
    if_pos (verifyCmd_lit_self "FAKE_RSSI" [a, b])

theorem ctrlCmdHandler_fake_rssi1 (a : Str) : ctrlCmdHandler [lit "FAKE_RSSI", a] =
    (do let d ← toInt a; pure (some (.rssiDelta d), some 0)) := by
  unfold ctrlCmdHandler
  exact skipVerb (by simp) <|
    skipVerb (by simp) <|
    skipVerb (by simp) <|
    skipArity (by simp) <|
    if_pos (verifyCmd_lit_self "FAKE_RSSI" [a])

theorem ctrlCmdHandler_fake_ci2 (a b : Str) : ctrlCmdHandler [lit "FAKE_CI", a, b] =
    (do let base ← toInt a
        let thr ← toInt b
        if thr < 0 then pure (none, some (-1)) else pure (some (.ci base thr), some 0)) := by
  unfold ctrlCmdHandler
  exact skipVerb (by simp) <|
    skipVerb (by simp) <|
    skipVerb (by simp) <|
    skipVerb (by simp) <|
    skipVerb (by simp) <|
    if_pos (verifyCmd_lit_self "FAKE_CI" [a, b])

theorem ctrlCmdHandler_fake_ci1 (a : Str) : ctrlCmdHandler [lit "FAKE_CI", a] =
    (do let d ← toInt a; pure (some (.ciDelta d), some 0)) := by
  unfold ctrlCmdHandler
  exact skipVerb (by simp) <|
    skipVerb (by simp) <|
    skipVerb (by simp) <|
    skipVerb (by simp) <|
    skipVerb (by simp) <|
    skipArity (by simp) <|
    if_pos (verifyCmd_lit_self "FAKE_CI" [a])

theorem ctrlCmdHandler_fake_drop1 (a : Str) : ctrlCmdHandler [lit "FAKE_DROP", a] =
    (do let num ← toInt a
        if num < 0 then pure (none, some (-1)) else pure (some (.drop num 1), some 0)) := by
  unfold ctrlCmdHandler
  exact skipVerb (by simp) <|
    skipVerb (by simp) <|
    skipVerb (by simp) <|
    skipVerb (by simp) <|
    skipVerb (by simp) <|
    skipVerb (by simp) <|
    skipVerb (by simp) <|
    if_pos (verifyCmd_lit_self "FAKE_DROP" [a])

theorem ctrlCmdHandler_fake_drop2 (a b : Str) : ctrlCmdHandler [lit "FAKE_DROP", a, b] =
    (do let num ← toInt a
        if num < 0 then pure (none, some (-1)) else
        let period ← toInt b
        if period ≤ 0 then pure (none, some (-1)) else
        pure (some (.drop num period), some 0)) := by
  unfold ctrlCmdHandler
  exact skipVerb (by simp) <|
    skipVerb (by simp) <|
    skipVerb (by simp) <|
    skipVerb (by simp) <|
    skipVerb (by simp) <|
    skipVerb (by simp) <|
    skipVerb (by simp) <|
    skipArity (by simp) <|
    if_pos (verifyCmd_lit_self "FAKE_DROP" [a, b])

theorem ctrlCmdHandler_fake_trxc_delay (a : Str) : ctrlCmdHandler [lit "FAKE_TRXC_DELAY", a] =
    (do let d ← toInt a
        if d < 0 ∨ d > Gen.World.trxcDelayMaxMs then pure (none, some (-1)) else
        pure (some (.delay d), none)) := by
  unfold ctrlCmdHandler
  exact skipVerb (by simp) <|
    skipVerb (by simp) <|
    skipVerb (by simp) <|
    skipVerb (by simp) <|
    skipVerb (by simp) <|
    skipVerb (by simp) <|
    skipVerb (by simp) <|
    skipVerb (by simp) <|
    skipVerb (by simp) <|
    if_pos (verifyCmd_lit_self "FAKE_TRXC_DELAY" [a])

theorem commonCmd_poweron (t : Trx) : commonCmd t [lit "POWERON"] =
    (if t.running then .ok (.reply (-1) []) else if ¬ t.ready then .ok (.reply (-1) [])
     else .ok (.power true)) := by
  unfold commonCmd
  exact if_pos (verifyCmd_lit_self "POWERON" [])

theorem commonCmd_poweroff (t : Trx) : commonCmd t [lit "POWEROFF"] =
    .ok (.power false) := by
  unfold commonCmd
  exact skipVerb (by simp) <|
    if_pos (verifyCmd_lit_self "POWEROFF" [])

theorem commonCmd_rxtune (t : Trx) (a : Str) : commonCmd t [lit "RXTUNE", a] =
    (do let f ← toInt a; pure (.patch (.rxFreq (f * 1000)) 0)) := by
  unfold commonCmd
  exact skipVerb (by simp) <|
    skipVerb (by simp) <|
    if_pos (verifyCmd_lit_self "RXTUNE" [a])

theorem commonCmd_txtune (t : Trx) (a : Str) : commonCmd t [lit "TXTUNE", a] =
    (do let f ← toInt a; pure (.patch (.txFreq (f * 1000)) 0)) := by
  unfold commonCmd
  exact skipVerb (by simp) <|
    skipVerb (by simp) <|
    skipVerb (by simp) <|
    if_pos (verifyCmd_lit_self "TXTUNE" [a])

theorem commonCmd_measure (t : Trx) (a : Str) : commonCmd t [lit "MEASURE", a] =
    (if ¬ t.hasPm then pure (.reply (-1) [])
     else do let f ← toInt a; pure (.measure (f * 1000))) := by
  unfold commonCmd
  exact skipVerb (by simp) <|
    skipVerb (by simp) <|
    skipVerb (by simp) <|
    skipVerb (by simp) <|
    if_pos (verifyCmd_lit_self "MEASURE" [a])

theorem commonCmd_setfh (t : Trx) (h m c d : Str) (r : List Str) :
    commonCmd t (lit "SETFH" :: h :: m :: c :: d :: r) =
      (do let hsn ← toInt h
          let maio ← toInt m
          let ma ← khzList (c :: d :: r)
          match Hopping.pyInit hsn maio (pairUp ma) with
          | .ok hp => pure (.patch (.fh hp) 0)
          | .error _ => pure (.reply (-1) [])) := by
  unfold commonCmd
  exact skipVerb (by simp) <| skipVerb (by simp) <| skipVerb (by simp) <| skipVerb (by simp) <|
    skipVerb (by simp) <| if_pos (by rw [verifyCmd_lit]; simp)

theorem commonCmd_setformat (t : Trx) (a : Str) : commonCmd t [lit "SETFORMAT", a] =
    (do let verReq ← toInt a
        if verReq < 0 ∨ verReq > Gen.Trxd.chdrVersionMax then pure (.reply (-1) [])
        else if ¬ Gen.Trxd.knownVersions.contains verReq then pure (.reply (pickHdrVer verReq) [])
        else pure (.patch (.hdrVer verReq) verReq)) := by
  unfold commonCmd
  exact skipVerb (by simp) <|
    skipVerb (by simp) <|
    skipVerb (by simp) <|
    skipVerb (by simp) <|
    skipVerb (by simp) <|
    skipVerb (by simp) <|
    if_pos (verifyCmd_lit_self "SETFORMAT" [a])

theorem commonCmd_setpower (t : Trx) (a : Str) : commonCmd t [lit "SETPOWER", a] =
    (do let att ← toInt a; pure (.patch (.txAtt att) 0)) := by
  unfold commonCmd
  exact skipVerb (by simp) <|
    skipVerb (by simp) <|
    skipVerb (by simp) <|
    skipVerb (by simp) <|
    skipVerb (by simp) <|
    skipVerb (by simp) <|
    skipVerb (by simp) <|
    if_pos (verifyCmd_lit_self "SETPOWER" [a])

theorem commonCmd_nomtxpower (t : Trx) : commonCmd t [lit "NOMTXPOWER"] =
    .ok (.reply 0 [intToStr t.txPowerBase]) := by
  unfold commonCmd
  exact skipVerb (by simp) <|
    skipVerb (by simp) <|
    skipVerb (by simp) <|
    skipVerb (by simp) <|
    skipVerb (by simp) <|
    skipVerb (by simp) <|
    skipVerb (by simp) <|
    skipVerb (by simp) <|
    if_pos (verifyCmd_lit_self "NOMTXPOWER" [])

theorem commonCmd_rfmute (t : Trx) (a : Str) : commonCmd t [lit "RFMUTE", a] =
    (do let v ← toInt a; pure (.patch (.mute (decide (v > 0))) 0)) := by
  unfold commonCmd
  exact skipVerb (by simp) <|
    skipVerb (by simp) <|
    skipVerb (by simp) <|
    skipVerb (by simp) <|
    skipVerb (by simp) <|
    skipVerb (by simp) <|
    skipVerb (by simp) <|
    skipVerb (by simp) <|
    skipVerb (by simp) <|
    if_pos (verifyCmd_lit_self "RFMUTE" [a])

/-! ### requests by shape

`ctrl_cmd_handler` and the common handler of `parse_cmd` are `elif` chains over `verify_cmd`: a
request either has the shape one of the rows accepts (a literal verb and its arguments), or the
handler falls through. -/

theorem ctrlCmdHandler_cases {motive : List Str → Prop} (req : List Str)
    (setta : ∀ a, motive [lit "SETTA", a])
    (toa2 : ∀ a b, motive [lit "FAKE_TOA", a, b]) (toa1 : ∀ a, motive [lit "FAKE_TOA", a])
    (rssi2 : ∀ a b, motive [lit "FAKE_RSSI", a, b]) (rssi1 : ∀ a, motive [lit "FAKE_RSSI", a])
    (ci2 : ∀ a b, motive [lit "FAKE_CI", a, b]) (ci1 : ∀ a, motive [lit "FAKE_CI", a])
    (drop1 : ∀ a, motive [lit "FAKE_DROP", a]) (drop2 : ∀ a b, motive [lit "FAKE_DROP", a, b])
    (delay : ∀ a, motive [lit "FAKE_TRXC_DELAY", a])
    (other : ctrlCmdHandler req = .ok (none, none) → motive req) : motive req := by
  by_cases h1 : verifyCmd req "SETTA" 1 = true
  · obtain ⟨a, rfl⟩ := verifyCmd1 h1; exact setta a
  by_cases h2 : verifyCmd req "FAKE_TOA" 2 = true
  · obtain ⟨a, b, rfl⟩ := verifyCmd2 h2; exact toa2 a b
  by_cases h3 : verifyCmd req "FAKE_TOA" 1 = true
  · obtain ⟨a, rfl⟩ := verifyCmd1 h3; exact toa1 a
  by_cases h4 : verifyCmd req "FAKE_RSSI" 2 = true
  · obtain ⟨a, b, rfl⟩ := verifyCmd2 h4; exact rssi2 a b
  by_cases h5 : verifyCmd req "FAKE_RSSI" 1 = true
  · obtain ⟨a, rfl⟩ := verifyCmd1 h5; exact rssi1 a
  by_cases h6 : verifyCmd req "FAKE_CI" 2 = true
  · obtain ⟨a, b, rfl⟩ := verifyCmd2 h6; exact ci2 a b
  by_cases h7 : verifyCmd req "FAKE_CI" 1 = true
  · obtain ⟨a, rfl⟩ := verifyCmd1 h7; exact ci1 a
  by_cases h8 : verifyCmd req "FAKE_DROP" 1 = true
  · obtain ⟨a, rfl⟩ := verifyCmd1 h8; exact drop1 a
  by_cases h9 : verifyCmd req "FAKE_DROP" 2 = true
  · obtain ⟨a, b, rfl⟩ := verifyCmd2 h9; exact drop2 a b
  by_cases h10 : verifyCmd req "FAKE_TRXC_DELAY" 1 = true
  · obtain ⟨a, rfl⟩ := verifyCmd1 h10; exact delay a
  refine other ?_
  unfold ctrlCmdHandler
  exact (if_neg h1).trans <| (if_neg h2).trans <| (if_neg h3).trans <| (if_neg h4).trans <|
    (if_neg h5).trans <| (if_neg h6).trans <| (if_neg h7).trans <| (if_neg h8).trans <|
    (if_neg h9).trans <| (if_neg h10).trans rfl

theorem commonCmd_cases {motive : List Str → Prop} (req : List Str)
    (poweron : motive [lit "POWERON"]) (poweroff : motive [lit "POWEROFF"])
    (rxtune : ∀ a, motive [lit "RXTUNE", a]) (txtune : ∀ a, motive [lit "TXTUNE", a])
    (measure : ∀ a, motive [lit "MEASURE", a])
    (setfh : ∀ h m c d r, motive (lit "SETFH" :: h :: m :: c :: d :: r))
    (setformat : ∀ a, motive [lit "SETFORMAT", a]) (setpower : ∀ a, motive [lit "SETPOWER", a])
    (nomtxpower : motive [lit "NOMTXPOWER"]) (rfmute : ∀ a, motive [lit "RFMUTE", a])
    (other : (∀ trx, commonCmd trx req = .ok (.reply 0 [])) → motive req) : motive req := by
  by_cases h1 : verifyCmd req "POWERON" 0 = true
  · rw [verifyCmd0 h1]; exact poweron
  by_cases h2 : verifyCmd req "POWEROFF" 0 = true
  · rw [verifyCmd0 h2]; exact poweroff
  by_cases h3 : verifyCmd req "RXTUNE" 1 = true
  · obtain ⟨a, rfl⟩ := verifyCmd1 h3; exact rxtune a
  by_cases h4 : verifyCmd req "TXTUNE" 1 = true
  · obtain ⟨a, rfl⟩ := verifyCmd1 h4; exact txtune a
  by_cases h5 : verifyCmd req "MEASURE" 1 = true
  · obtain ⟨a, rfl⟩ := verifyCmd1 h5; exact measure a
  by_cases h6 : verifyCmd req "SETFH" 4 true = true
  · obtain ⟨h, m, c, d, r, rfl⟩ := verifyCmd4va h6; exact setfh h m c d r
  by_cases h7 : verifyCmd req "SETFORMAT" 1 = true
  · obtain ⟨a, rfl⟩ := verifyCmd1 h7; exact setformat a
  by_cases h8 : verifyCmd req "SETPOWER" 1 = true
  · obtain ⟨a, rfl⟩ := verifyCmd1 h8; exact setpower a
  by_cases h9 : verifyCmd req "NOMTXPOWER" 0 = true
  · rw [verifyCmd0 h9]; exact nomtxpower
  by_cases h10 : verifyCmd req "RFMUTE" 1 = true
  · obtain ⟨a, rfl⟩ := verifyCmd1 h10; exact rfmute a
  refine other fun trx => ?_
  unfold commonCmd
  exact (if_neg h1).trans <| (if_neg h2).trans <| (if_neg h3).trans <| (if_neg h4).trans <|
    (if_neg h5).trans <| (if_neg h6).trans <| (if_neg h7).trans <| (if_neg h8).trans <|
    (if_neg h9).trans <| (if_neg h10).trans rfl

/-- the assignments a command can make keep the simulation parameters well-formed: thresholds
non-negative, drop period positive, hopping object built by `__init__` -/
def PatchSane : Patch → Prop
  | .toa _ thr => 0 ≤ thr
  | .rssi _ thr => 0 ≤ thr
  | .ci _ thr => 0 ≤ thr
  | .drop n per => 0 ≤ n ∧ 1 ≤ per
  | .fh hp => ∃ hsn maio ma, Hopping.pyInit hsn maio ma = .ok hp
  | _ => True

/-- what the common handler can answer: a bare status, the nominal power, a power event (only
POWERON / POWEROFF), a well-formed assignment, a measurement (only MEASURE) -/
inductive CommonOut (trx : Trx) : List Str → Action → Prop
  | reply (req : List Str) (rc : Int) : CommonOut trx req (.reply rc [])
  | nomtxpower : CommonOut trx [lit "NOMTXPOWER"] (.reply 0 [intToStr trx.txPowerBase])
  | power (on : Bool) : CommonOut trx [lit (bif on then "POWERON" else "POWEROFF")] (.power on)
  | patch (req : List Str) (p : Patch) (rc : Int) (hp : PatchSane p) : CommonOut trx req (.patch p rc)
  | measure (a : Str) (f : Int) : CommonOut trx [lit "MEASURE", a] (.measure f)

theorem commonCmd_out {trx : Trx} {req : List Str} {a : Action} (h : commonCmd trx req = .ok a) :
    CommonOut trx req a := by
  revert h
  refine commonCmd_cases (motive := fun req => commonCmd trx req = .ok a → CommonOut trx req a) req
    ?_ ?_ ?_ ?_ ?_ ?_ ?_ ?_ ?_ ?_ (fun h h' => by rw [h] at h'; cases h'; exact .reply _ _)
  · intro h; rw [commonCmd_poweron] at h
    split at h
    · cases h; exact .reply _ _
    · split at h
      · cases h; exact .reply _ _
      · cases h; exact .power true
  · intro h; rw [commonCmd_poweroff] at h; cases h; exact .power false
  · intro x h; rw [commonCmd_rxtune] at h; obtain ⟨_, -, h⟩ := bind_toInt_ok h; cases h
    exact .patch _ _ _ trivial
  · intro x h; rw [commonCmd_txtune] at h; obtain ⟨_, -, h⟩ := bind_toInt_ok h; cases h
    exact .patch _ _ _ trivial
  · intro x h; rw [commonCmd_measure] at h
    split at h
    · cases h; exact .reply _ _
    · obtain ⟨_, -, h⟩ := bind_toInt_ok h; cases h; exact .measure _ _
  · intro hsn maio c d r h; rw [commonCmd_setfh] at h
    obtain ⟨_, -, h⟩ := bind_toInt_ok h
    obtain ⟨_, -, h⟩ := bind_toInt_ok h
    simp only [bind, Except.bind] at h
    split at h
    · cases h
    · split at h
      next hi => cases h; exact .patch _ _ _ ⟨_, _, _, hi⟩
      · cases h; exact .reply _ _
  · intro x h; rw [commonCmd_setformat] at h
    obtain ⟨_, -, h⟩ := bind_toInt_ok h
    split at h
    · cases h; exact .reply _ _
    · split at h
      · cases h; exact .reply _ _
      · cases h; exact .patch _ _ _ trivial
  · intro x h; rw [commonCmd_setpower] at h; obtain ⟨_, -, h⟩ := bind_toInt_ok h; cases h
    exact .patch _ _ _ trivial
  · intro h; rw [commonCmd_nomtxpower] at h; cases h; exact .nomtxpower
  · intro x h; rw [commonCmd_rfmute] at h; obtain ⟨_, -, h⟩ := bind_toInt_ok h; cases h
    exact .patch _ _ _ trivial

/-! ### `parse_cmd` -/

/-- the assignment the custom handler made before returning -/
def applyPatch (w : World) (i : Nat) : Option Patch → World
  | some p => setTrx w i p.apply
  | none => w

@[simp] theorem applyPatch_length (w : World) (i : Nat) (p : Option Patch) :
    (applyPatch w i p).trxs.length = w.trxs.length := by
  cases p <;> simp [applyPatch]

theorem parseCmd_eq (w : World) (i : Nat) (req : List Str) :
    parseCmd w i req =
      match ctrlCmdHandler req with
      | .error e => .error e
      | .ok (patch, some rc) => .ok (applyPatch w i patch, (rc, []))
      | .ok (patch, none) =>
        match (applyPatch w i patch).trxs[i]? with
        | none => .error .indexError
        | some trx =>
          match commonCmd trx req with
          | .error e => .error e
          | .ok a => applyAction (applyPatch w i patch) i a := by
  unfold parseCmd
  simp only [bind, Except.bind]
  cases ctrlCmdHandler req with
  | error e => rfl
  | ok pr =>
    obtain ⟨patch, res⟩ := pr
    cases res with
    | some rc => cases patch <;> rfl
    | none =>
      cases patch with
      | none =>
        simp only [applyPatch]
        cases w.trxs[i]? <;> dsimp only <;> first | rfl | (cases commonCmd _ req <;> rfl)
      | some p =>
        simp only [applyPatch]
        cases (setTrx w i p.apply).trxs[i]? <;> dsimp only <;> first | rfl | (cases commonCmd _ req <;> rfl)

theorem parseCmd_common {w : World} {i : Nat} {t : Trx} {V : String} {args : List Str}
    (hV : V ∉ ["SETTA", "FAKE_TOA", "FAKE_RSSI", "FAKE_CI", "FAKE_DROP", "FAKE_TRXC_DELAY"])
    (ht : w.trxs[i]? = some t) :
    parseCmd w i (lit V :: args) =
      match commonCmd t (lit V :: args) with
      | .error e => .error e
      | .ok a => applyAction w i a := by
  rw [parseCmd_eq, ctrlCmdHandler_other _ hV]
  simp only [applyPatch, ht]

theorem parseCmd_custom {w : World} {i : Nat} {req : List Str} {p : Option Patch} {rc : Int}
    (h : ctrlCmdHandler req = .ok (p, some rc)) : parseCmd w i req = .ok (applyPatch w i p, (rc, [])) := by
  rw [parseCmd_eq, h]

theorem applyAction_power {w : World} {i : Nat} {t : Trx} (ht : w.trxs[i]? = some t) (on : Bool) :
    applyAction w i (.power on) = .ok (powered w i t on, (0, [])) := by
  simp only [applyAction, powerEvent_powered ht, bind, Except.bind, pure, Except.pure]

theorem parseCmd_poweron {w : World} {i : Nat} {trx : Trx} (hw : w.trxs[i]? = some trx) :
    parseCmd w i [lit "POWERON"] =
      if trx.running then .ok (w, (-1, []))
      else if ¬ trx.ready then .ok (w, (-1, []))
      else .ok (powered w i trx true, (0, [])) := by
  rw [parseCmd_common (by simp) hw, commonCmd_poweron]
  cases trx.running
  · cases trx.ready
    · rfl
    · exact applyAction_power hw true
  · rfl

theorem parseCmd_poweroff {w : World} {i : Nat} {trx : Trx} (hw : w.trxs[i]? = some trx) :
    parseCmd w i [lit "POWEROFF"] = .ok (powered w i trx false, (0, [])) := by
  rw [parseCmd_common (by simp) hw, commonCmd_poweroff]
  exact applyAction_power hw false

theorem randint_world {w w' : World} {lo hi v : Int} (h : w.randint lo hi = .ok (v, w')) :
    w' = { w with drawK := w.drawK + 1 } := by
  unfold World.randint at h
  split at h
  · cases h
  · cases h; rfl

theorem fakePmMeasure_world {w w' : World} {f v : Int} (h : fakePmMeasure w f = .ok (v, w')) :
    w' = { w with drawK := w.drawK + 1 } := by
  unfold fakePmMeasure at h
  split at h <;> exact randint_world h

/-- what carrying out an action of transceiver `i` makes of the world -/
inductive ActionStep (i : Nat) (w : World) : Action → World → Prop
  | patch (p : Patch) (rc : Int) : ActionStep i w (.patch p rc) (setTrx w i p.apply)
  | reply (rc : Int) (params : List Str) : ActionStep i w (.reply rc params) w
  | power (on : Bool) (trx : Trx) (ht : w.trxs[i]? = some trx) : ActionStep i w (.power on) (powered w i trx on)
  | measure (freq : Int) : ActionStep i w (.measure freq) { w with drawK := w.drawK + 1 }

theorem applyAction_step {w w' : World} {i : Nat} {a : Action} {r : CmdRes}
    (h : applyAction w i a = .ok (w', r)) : ActionStep i w a w' := by
  cases a with
  | patch p rc => cases h; exact .patch p rc
  | reply rc ps => cases h; exact .reply rc ps
  | power on =>
    cases ht : w.trxs[i]? with
    | none => simp only [applyAction, powerEvent_eq, ht, bind, Except.bind] at h; cases h
    | some trx => rw [applyAction_power ht] at h; cases h; exact .power on trx ht
  | measure f =>
    simp only [applyAction, bind, Except.bind] at h
    split at h
    · cases h
    next v hv => cases h; rw [fakePmMeasure_world hv]; exact .measure f

/-- a successful `parse_cmd` of transceiver `i`: the custom handler's assignment (if any), then
either nothing more or the action the common handler chose -/
theorem parseCmd_ok_cases {w w' : World} {i : Nat} {req : List Str} {r : CmdRes}
    (h : parseCmd w i req = .ok (w', r)) :
    ∃ p res, ctrlCmdHandler req = .ok (p, res) ∧
      (w' = applyPatch w i p ∨
       ∃ trx a, (applyPatch w i p).trxs[i]? = some trx ∧ commonCmd trx req = .ok a ∧
         ActionStep i (applyPatch w i p) a w') := by
  rw [parseCmd_eq] at h
  split at h
  · cases h
  next p rc hc => cases h; exact ⟨p, _, hc, .inl rfl⟩
  next p hc =>
    refine ⟨p, _, hc, .inr ?_⟩
    split at h
    · cases h
    next trx ht =>
      split at h
      · cases h
      next a ha => exact ⟨trx, a, ht, ha, applyAction_step h⟩

/-! ### `handle_rx` -/

/-- `prepare_req(data)` -/
def request (s : Str) : List Str := splitSpace (stripNul (strip (s.drop 4)))

/-- the text `send_response` builds: status inserted after the verb, parameters appended -/
def rspText (req : List Str) (rc : Int) (params : List Str) : Str :=
  lit "RSP " ++ joinSpace ((match req with
      | [] => [intToStr rc]
      | verb :: args => verb :: intToStr rc :: args) ++ params) ++ [0]

/-- `handle_rx` of transceiver `i` (object `trx`) once the datagram is decoded and split:
`parse_cmd`, then one response; ValueError is answered with status −1 and no state change -/
def handleReq (w : World) (i : Nat) (trx : Trx) (srcAddr srcPort : Nat) (req : List Str) : Res :=
  match parseCmd w i req with
  | .ok (w', (rc, params)) =>
    { world := w', out := [⟨trx.ctrlPort, srcAddr, srcPort, encodeUtf8 (rspText req rc params)⟩] }
  | .error .valueError =>
    { world := w, out := [⟨trx.ctrlPort, srcAddr, srcPort, encodeUtf8 (rspText req (-1) [])⟩] }
  | .error e => { world := w, exc := some e }

theorem handleReq_world (w : World) (i : Nat) (trx : Trx) (a p : Nat) (req : List Str) :
    (handleReq w i trx a p req).world = match parseCmd w i req with
      | .ok (w', _) => w'
      | .error _ => w := by
  unfold handleReq
  cases parseCmd w i req with
  | ok r => rfl
  | error e => cases e <;> rfl

theorem handleRx_eq {w : World} {i : Nat} {trx : Trx} (ht : w.trxs[i]? = some trx)
    (a p : Nat) (d : List Nat) :
    handleRx w i a p d =
      match decodeUtf8 (d.take Gen.World.ctrlRecvSize) with
      | none => { world := w }
      | some s => if startsWith s (lit "CMD") then handleReq w i trx a p (request s) else { world := w } := by
  simp only [handleRx, ht]
  cases decodeUtf8 (d.take Gen.World.ctrlRecvSize) with
  | none => rfl
  | some s =>
    simp only []
    cases startsWith s (lit "CMD") with
    | false => rfl
    | true =>
      simp only [not_true_eq_false, if_false, if_true, handleReq, request, rspText]
      cases parseCmd w i (splitSpace (stripNul (strip (List.drop 4 s)))) with
      | ok r => rfl
      | error e => cases e <;> rfl

theorem handleRx_world (w : World) (i a p : Nat) (d : List Nat) :
    (handleRx w i a p d).world = w ∨
      ∃ req r, parseCmd w i req = .ok ((handleRx w i a p d).world, r) := by
  cases ht : w.trxs[i]? with
  | none => simp only [handleRx, ht, true_or]
  | some t =>
    rw [handleRx_eq ht]
    split
    · exact .inl rfl
    · split
      · rw [handleReq_world]
        split
        next hp => exact .inr ⟨_, _, hp⟩
        · exact .inl rfl
      · exact .inl rfl

/-! ### `recv_data_msg` -/

theorem recvDataMsg_eq {w : World} {i : Nat} {t : Trx} (d : List Nat) (ht : w.trxs[i]? = some t) :
    recvDataMsg w i d =
      match Trxd.TxMsg.parseMsg (d.take Gen.World.dataRecvSize) with
      | .error _ => { world := w }
      | .ok msg =>
        if msg.ver ≠ t.hdrVer then { world := w }
        else if ¬ t.running then { world := w }
        else { world := setTrx w i (fun t => { t with txQueue := t.txQueue ++ [msg] }) } := by
  simp only [recvDataMsg, ht]
  cases Trxd.TxMsg.parseMsg (List.take Gen.World.dataRecvSize d) <;> rfl

end OsmoVerif.World
