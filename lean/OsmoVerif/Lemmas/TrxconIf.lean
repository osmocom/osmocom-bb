/- Helper lemmas for `Model.TrxconIf` (C04 / C05 / C14, trxcon side).  Core Lean only. -/
import OsmoVerif.Model.TrxconIf
import OsmoVerif.Lemmas.MobileAlloc
import OsmoVerif.Spec.TrxdLayout

namespace OsmoVerif.TrxconIf
open OsmoVerif.Gen.Trxcon OsmoVerif.Spec.TrxdLayout

/-! ### bit operations as arithmetic -/

theorem and255 (x : Nat) : x &&& 255 = x % 256 := Nat.and_two_pow_sub_one_eq_mod x 8
theorem and7 (x : Nat) : x &&& 7 = x % 8 := Nat.and_two_pow_sub_one_eq_mod x 3
theorem and4095 (x : Nat) : x &&& 4095 = x % 4096 := Nat.and_two_pow_sub_one_eq_mod x 12

theorem or_low (i a b : Nat) (h : b < 2 ^ i) : 2 ^ i * a ||| b = 2 ^ i * a + b :=
  (Nat.two_pow_add_eq_or_of_lt h a).symm

/-- `osmo_load32be` of four octets -/
theorem or4 (a b c d : Nat) (ha : a < 256) (hb : b < 256) (hc : c < 256) (hd : d < 256) :
    u32 (a * 16777216) ||| u32 (b * 65536) ||| u32 (c * 256) ||| d
      = 16777216 * a + 65536 * b + 256 * c + d := by
  have e1 : u32 (a * 16777216) = 2 ^ 24 * a := by simp only [u32]; omega
  have e2 : u32 (b * 65536) = 65536 * b := by simp only [u32]; omega
  have e3 : u32 (c * 256) = 256 * c := by simp only [u32]; omega
  rw [e1, e2, e3, or_low 24 a (65536 * b) (by omega)]
  have f1 : 2 ^ 24 * a + 65536 * b = 2 ^ 16 * (256 * a + b) := by omega
  rw [f1, or_low 16 _ (256 * c) (by omega)]
  have f2 : 2 ^ 16 * (256 * a + b) + 256 * c = 2 ^ 8 * (65536 * a + 256 * b + c) := by omega
  rw [f2, or_low 8 _ d (by omega)]

theorem store32be_eq (x : Nat) : store32be x = [x / 16777216 % 256, x / 65536 % 256, x / 256 % 256, x % 256] := by
  simp only [store32be, and255, Nat.shiftRight_eq_div_pow]

/-! ### checked buffer access -/

theorem rd_ok {mem : List Nat} {cap i b : Nat} (h : mem[i]? = some b) (hc : i < cap) : rd mem cap i = .ok b := by
  simp only [rd, h]
  split
  · omega
  · rfl

theorem convLoop_append (cap : Nat) (xs pre post : List Nat) (i : Nat) (hp : pre.length = 8 + i)
    (hc : pre.length + xs.length ≤ cap) :
    convLoop cap (pre ++ xs ++ post) i xs.length = .ok (pre ++ xs.map sbitOctet ++ post) := by
  induction xs generalizing pre i with
  | nil => simp [convLoop]
  | cons x xs ih =>
    simp only [List.length_cons] at hc
    have hrd : rd (pre ++ x :: xs ++ post) cap (8 + i) = .ok x := by
      apply rd_ok _ (by omega)
      rw [List.append_assoc, List.getElem?_append_right (by omega)]
      simp [hp]
    have hwr : wr (pre ++ x :: xs ++ post) cap (8 + i) (sbitOctet x)
        = .ok ((pre ++ [sbitOctet x]) ++ xs ++ post) := by
      simp only [wr]
      rw [if_neg (by omega), if_pos (by simp; omega)]
      rw [List.append_assoc, List.set_append_right _ _ (by omega)]
      simp [hp]
    simp only [List.length_cons, convLoop, hrd, hwr, bind, Except.bind]
    have := ih (pre ++ [sbitOctet x]) (i + 1) (by simp; omega) (by simp; omega)
    rw [this]
    simp

theorem readBurst_append (cap : Nat) (ys pre post : List Nat) (i : Nat) (hp : pre.length = 8 + i)
    (hc : pre.length + ys.length ≤ cap) : readBurst cap (pre ++ ys ++ post) i ys.length = .ok (ys.map s8) := by
  induction ys generalizing pre i with
  | nil => simp [readBurst]
  | cons y ys ih =>
    simp only [List.length_cons] at hc
    have hrd : rd (pre ++ y :: ys ++ post) cap (8 + i) = .ok y := by
      apply rd_ok _ (by omega)
      rw [List.append_assoc, List.getElem?_append_right (by omega)]
      simp [hp]
    have e : pre ++ y :: ys ++ post = (pre ++ [y]) ++ ys ++ post := by simp
    have := ih (pre ++ [y]) (i + 1) (by simp; omega) (by simp; omega)
    simp only [List.length_cons, readBurst, hrd, bind, Except.bind]
    rw [e, this]
    simp [pure, Except.pure]

/-! ### field conversions of `trx_data_rx_cb` against the layout -/

/-- `.rssi = -(int8_t) buf[5]`, octet by octet -/
theorem rssi_octet : ∀ b : Fin 256, s8i (-(s8 b)) = if b.val ≤ 128 then -(b.val : Int) else 256 - (b.val : Int) := by
  decide +kernel

/-- … so the RSSI comes back from the octet −RSSI exactly for −128..0 -/
theorem rssi_decode (r : Int) (h1 : -128 ≤ r) (h2 : r ≤ 0) : s8i (-(s8 (-r).toNat)) = r := by
  have := rssi_octet ⟨(-r).toNat, by omega⟩
  simp only at this
  rw [this, if_pos (by omega)]
  omega

theorem s16i_s32 (y : Nat) : s16i (s32 y) = s16 y := by
  have e : (s32 y % 65536).toNat = y % 65536 := by simp only [s32]; split <;> omega
  simp only [s16i, e, s16, Nat.mod_mod]

/-- `(int16_t) (buf[6] << 8)` as the `unsigned` operand of `|`, octet by octet: sign-extended from 128 on -/
theorem toaHi_octet : ∀ hi : Fin 256, u32i (s16 (hi.val <<< 8)) =
    2 ^ 8 * (if hi.val < 128 then hi.val else hi.val + 16776960) := by decide +kernel

/-- `.toa256 = (int16_t) (buf[6] << 8) | buf[7]` reads two octets as big-endian two's complement -/
theorem toa_decode (u : Nat) (h : u < 65536) :
    s16i (orInt (s16 ((u / 256) <<< 8)) ((u % 256 : Nat) : Int)) = s16 u := by
  have hlo : u32i ((u % 256 : Nat) : Int) = u % 256 := by simp only [u32i]; omega
  have hhi := toaHi_octet ⟨u / 256, by omega⟩
  simp only at hhi
  rw [orInt, hhi, hlo, or_low 8 _ _ (Nat.mod_lt _ (by decide)), s16i_s32]
  split
  · rw [show 2 ^ 8 * (u / 256) + u % 256 = u from Nat.div_add_mod u 256]
  · rw [show 2 ^ 8 * (u / 256 + 16776960) + u % 256 = u + 65536 * 65535 by omega]
    simp only [s16, Nat.add_mul_mod_self_left]

theorem s16_s16be (x : Int) (h1 : -32768 ≤ x) (h2 : x ≤ 32767) : s16 (x % 65536).toNat = x := by
  simp only [s16]; split <;> omega

theorem soft_decode (s : Int) (h1 : -127 ≤ s) (h2 : s ≤ 127) : s8 (sbitOctet (softOctet s)) = s := by
  have hne : (127 - s).toNat ≠ 255 := by omega
  simp only [softOctet, sbitOctet, s8, u8, hne, if_false]
  split <;> omega

theorem soft_decode_list (soft : List Int) (h : ∀ s ∈ soft, -127 ≤ s ∧ s ≤ 127) :
    ((soft.map softOctet).map sbitOctet).map s8 = soft := by
  rw [List.map_map, List.map_map]
  exact (List.map_congr_left fun s hs => soft_decode s (h s hs).1 (h s hs).2).trans (List.map_id soft)

theorem layoutRx_v0 (m : RxFields) (legacy : Bool) (soft : List Int) (hv : m.ver = 0) (hs : m.soft = some soft) :
    layoutRx m legacy =
      [m.tn, m.fn / 16777216 % 256, m.fn / 65536 % 256, m.fn / 256 % 256, m.fn % 256, (-m.rssi).toNat,
        (m.toa256 % 65536).toNat / 256, (m.toa256 % 65536).toNat % 256]
      ++ soft.map softOctet ++ (if legacy then [0, 0] else []) := by
  simp only [layoutRx, hdr, be32, s16be, pad, hv, hs]
  cases legacy <;> simp

/-! ### `trx_data_rx_cb` -/

/-- from `bi = …` to the end, on any buffer that holds the eight header octets and the burst: nothing faults; the
indication carries the conversions of the octets, or the frame number lies beyond the hyperframe -/
theorem cRxInd_eq (pre xs post : List Nat) (adv b0 fn t a1 a2 a3 a4 b5 b6 b7 : Nat)
    (hpre : pre = [t, a1, a2, a3, a4, b5, b6, b7])
    (hfn : fn = u32 (a1 * 16777216) ||| u32 (a2 * 65536) ||| u32 (a3 * 256) ||| a4)
    (hlen : 8 + xs.length + post.length ≤ 512) :
    cRxInd (pre ++ xs ++ post) adv b0 xs.length =
      .ok (if fn ≥ gsmTdmaHyperframe then .ret (-eINVAL)
           else .ind ⟨b0 &&& 7, fn, s8i (-(s8 b5)), s16i (orInt (s16 (b6 <<< 8)) b7), (xs.map sbitOctet).map s8⟩
                  ⟨u32 (fn + u32 adv) % gsmTdmaHyperframe, b0 &&& 7⟩) := by
  have hpl : pre.length = 8 := by rw [hpre]; rfl
  have hrd : ∀ i (hi : i < 8), rd (pre ++ xs ++ post) 512 i = .ok (pre[i]'(by omega)) := by
    intro i hi
    apply rd_ok _ (by omega)
    rw [List.append_assoc, List.getElem?_append_left (by omega)]
    exact List.getElem?_eq_getElem (by omega)
  have hl32 : load32be (pre ++ xs ++ post) 512 1 = .ok fn := by
    simp only [load32be, hrd 1 (by omega), hrd 2 (by omega), hrd 3 (by omega), hrd 4 (by omega), bind, Except.bind,
      pure, Except.pure]
    subst hpre
    simp only [List.getElem_cons_succ, List.getElem_cons_zero, hfn]
  have hconv := convLoop_append 512 xs pre post 0 (by omega) (by omega)
  have hread := readBurst_append 512 (xs.map sbitOctet) pre post 0 (by omega) (by rw [List.length_map]; omega)
  rw [List.length_map] at hread
  simp only [cRxInd, show trxdBufSize = 512 by decide, hl32, hrd 5 (by omega), hrd 6 (by omega), hrd 7 (by omega), hconv,
    hread, bind, Except.bind, pure, Except.pure]
  subst hpre
  simp only [List.getElem_cons_succ, List.getElem_cons_zero]
  split <;> rfl

def RxOut.noFault : RxOut → Prop
  | .fault _ => False
  | _ => True

theorem burstLenSwitch_le (rl n : Nat) (h : burstLenSwitch rl = some n) : n ≤ rl := by
  simp only [burstLenSwitch] at h
  split at h
  · injection h; omega
  · split at h
    · injection h; omega
    · cases h

/-- no datagram makes `trx_data_rx_cb` leave its buffer or use an octet that was not read -/
theorem cRx_noFault (d : List Nat) (adv : Nat) : (cRx d adv).noFault := by
  have hcap : trxdBufSize = 512 := by decide
  have hh : trxdv0HdrLen = 8 := by decide
  generalize hbuf : d.take trxdBufSize = buf
  have hc : buf.length ≤ 512 := by rw [← hbuf, List.length_take]; omega
  simp only [cRx, hbuf, hh]
  split
  · trivial
  split
  · trivial
  rename_i h8
  suffices h : ∃ o, cRxBody buf adv = .ok o ∧ o.noFault by
    obtain ⟨o, ho, hn⟩ := h
    rw [ho]; exact hn
  have h0 : 0 < buf.length := by omega
  simp only [cRxBody, hcap, hh, rd_ok (cap := 512) (List.getElem?_eq_getElem h0) (by decide), bind, Except.bind, pure, Except.pure]
  split
  · exact ⟨_, rfl, trivial⟩
  split
  · exact ⟨_, rfl, trivial⟩
  rename_i n hn
  have hle := burstLenSwitch_le _ _ hn
  generalize buf[0] = b0
  -- the buffer is its eight header octets, the `n` burst octets and what may follow them
  obtain ⟨t, a1, a2, a3, a4, b5, b6, b7, rest, rfl⟩ :
      ∃ t a1 a2 a3 a4 b5 b6 b7 rest, buf = [t, a1, a2, a3, a4, b5, b6, b7] ++ rest := by
    match buf, h8 with
    | t :: a1 :: a2 :: a3 :: a4 :: b5 :: b6 :: b7 :: rest, _ => exact ⟨t, a1, a2, a3, a4, b5, b6, b7, rest, rfl⟩
  simp only [List.length_append, List.length_cons, List.length_nil] at hle hc
  have hn' : (rest.take n).length = n := by rw [List.length_take]; omega
  have hlen : 8 + (rest.take n).length + (rest.drop n).length ≤ 512 := by
    rw [Nat.add_assoc, ← List.length_append, List.take_append_drop]; omega
  have h := cRxInd_eq _ (rest.take n) (rest.drop n) adv b0 _ t a1 a2 a3 a4 b5 b6 b7 rfl rfl hlen
  rw [List.append_assoc, List.take_append_drop, hn'] at h
  rw [h]
  split
  · exact ⟨_, rfl, trivial⟩
  · exact ⟨_, rfl, trivial⟩

/-- **`trx_data_rx_cb` on the version-0 TRX→L1 layout**, any 32 bit frame number -/
theorem cRx_layout (m : RxFields) (legacy : Bool) (soft : List Int) (adv : Nat)
    (hv : m.ver = 0) (hs : m.soft = some soft)
    (hfn : m.fn < 4294967296) (htn : m.tn < 8) (hr : -128 ≤ m.rssi ∧ m.rssi ≤ 0)
    (ht : -32768 ≤ m.toa256 ∧ m.toa256 ≤ 32767)
    (hl : soft.length = 148 ∨ soft.length = 444) (hb : ∀ s ∈ soft, -127 ≤ s ∧ s ≤ 127) :
    cRx (layoutRx m legacy) adv =
      if m.fn ≥ 2715648 then .ret (-22)
      else .ind ⟨m.tn, m.fn, m.rssi, m.toa256, soft⟩ ⟨u32 (m.fn + u32 adv) % 2715648, m.tn⟩ := by
  rw [layoutRx_v0 m legacy soft hv hs]
  have hcap : trxdBufSize = 512 := by decide
  have hh : trxdv0HdrLen = 8 := by decide
  generalize hpost : (if legacy then [0, 0] else ([] : List Nat)) = post
  have hpl : post.length ≤ 2 := by rw [← hpost]; cases legacy <;> simp
  have hsw : burstLenSwitch (8 + (soft.map softOctet).length + post.length - 8) = some (soft.map softOctet).length := by
    rw [← hpost, List.length_map]
    simp only [burstLenSwitch, show nbitsGmsk = 148 by decide, show nbits8psk = 444 by decide]
    rcases hl with h | h <;> cases legacy <;> simp [h]
  have hfn32 : m.fn = u32 (m.fn / 16777216 % 256 * 16777216) ||| u32 (m.fn / 65536 % 256 * 65536) |||
      u32 (m.fn / 256 % 256 * 256) ||| m.fn % 256 := by
    rw [or4 _ _ _ _ (by omega) (by omega) (by omega) (by omega)]; omega
  have hlen : 8 + (soft.map softOctet).length + post.length ≤ 512 := by
    rw [List.length_map]; rcases hl with h | h <;> omega
  generalize hpre : [m.tn, m.fn / 16777216 % 256, m.fn / 65536 % 256, m.fn / 256 % 256, m.fn % 256, (-m.rssi).toNat,
    (m.toa256 % 65536).toNat / 256, (m.toa256 % 65536).toNat % 256] = pre
  have hbody := cRxInd_eq pre (soft.map softOctet) post adv m.tn m.fn _ _ _ _ _ _ _ _ hpre.symm hfn32 hlen
  rw [toa_decode _ (by omega), rssi_decode _ hr.1 hr.2, s16_s16be _ ht.1 ht.2, soft_decode_list _ hb, and7,
    Nat.mod_eq_of_lt htn] at hbody
  have hpl : pre.length = 8 := by rw [← hpre]; rfl
  have hbl : (pre ++ soft.map softOctet ++ post).length = 8 + (soft.map softOctet).length + post.length := by
    simp only [List.length_append, hpl]
  have hrd0 : rd (pre ++ soft.map softOctet ++ post) 512 0 = .ok m.tn := rd_ok (by rw [← hpre]; rfl) (by decide)
  simp only [cRx, hcap, hh]
  rw [List.take_of_length_le (by omega), if_neg (by omega), if_neg (by omega)]
  simp only [cRxBody, hcap, hh, hbl, hsw, hbody, hrd0, bind, Except.bind, pure, Except.pure]
  rw [if_neg (by omega)]
  by_cases h : m.fn ≥ 2715648
  · rw [if_pos h, if_pos (show m.fn ≥ gsmTdmaHyperframe from h)]; rfl
  · rw [if_neg h, if_neg (show ¬ m.fn ≥ gsmTdmaHyperframe from h)]; rfl

/-! ### decimal printing and scanning -/

theorem isDigit_iff (c : Nat) : isDigit c = true ↔ 48 ≤ c ∧ c ≤ 57 := by
  simp [isDigit]

theorem decFuel_digits (f n c : Nat) (hc : c ∈ decFuel f n) : isDigit c = true := by
  induction f generalizing n with
  | zero => simp [decFuel] at hc
  | succ f ih =>
    simp only [decFuel] at hc
    split at hc
    · simp only [List.mem_singleton] at hc; subst hc; rw [isDigit_iff]; omega
    · simp only [List.mem_append, List.mem_singleton] at hc
      rcases hc with hc | hc
      · exact ih _ hc
      · subst hc; rw [isDigit_iff]; omega

theorem decFuel_ne_nil (f n : Nat) : decFuel (f + 1) n ≠ [] := by
  simp only [decFuel]; split <;> simp

theorem decFuel_head (f n : Nat) : ∃ c cs, decFuel (f + 1) n = c :: cs ∧ isDigit c = true := by
  cases hd : decFuel (f + 1) n with
  | nil => exact absurd hd (decFuel_ne_nil f n)
  | cons c cs => exact ⟨c, cs, rfl, decFuel_digits (f + 1) n c (by rw [hd]; exact List.mem_cons_self)⟩

theorem decFuel_length (k f n : Nat) (hf : k ≤ f) (h1 : 10 ^ k ≤ n) (h2 : n < 10 ^ (k + 1)) :
    (decFuel (f + 1) n).length = k + 1 := by
  induction k generalizing f n with
  | zero => simp only [decFuel]; rw [if_pos (by omega)]; rfl
  | succ k ih =>
    obtain ⟨f', rfl⟩ : ∃ f', f = f' + 1 := ⟨f - 1, by omega⟩
    have p1 : 10 ^ (k + 1) = 10 * 10 ^ k := by rw [Nat.pow_succ]; omega
    have := Nat.pow_pos (n := k) (show 0 < 10 by omega)
    rw [decFuel, if_neg (by omega), List.length_append, List.length_singleton]
    have p2 : 10 ^ (k + 1 + 1) = 10 * 10 ^ (k + 1) := by rw [Nat.pow_succ]; omega
    rw [ih f' (n / 10) (by omega) (by omega) (by omega)]

theorem decFuel_length_small (f n : Nat) (h : n < 10) : (decFuel (f + 1) n).length = 1 := by
  simp only [decFuel]; rw [if_pos h]; rfl

theorem decFuel_length_le (k f n : Nat) (hk : 1 ≤ k) (hf : k ≤ f) (h2 : n < 10 ^ k) : (decFuel f n).length ≤ k := by
  induction k generalizing f n with
  | zero => omega
  | succ k ih =>
    obtain ⟨f', rfl⟩ : ∃ f', f = f' + 1 := ⟨f - 1, by omega⟩
    simp only [decFuel]
    split
    · simp
    · rename_i h10
      have p2 : 10 ^ (k + 1) = 10 * 10 ^ k := by rw [Nat.pow_succ]; omega
      have hk : 1 ≤ k := Nat.pos_of_ne_zero fun h => by subst h; exact h10 h2
      have := ih f' (n / 10) hk (by omega) (by omega)
      simp only [List.length_append, List.length_singleton]; omega

theorem scanDigits_decFuel (f n : Nat) (rest : List Nat) (acc : Nat) (h : n < 10 ^ f) :
    scanDigits (decFuel f n ++ rest) acc = scanDigits rest (acc * 10 ^ (decFuel f n).length + n) := by
  induction f generalizing n rest acc with
  | zero => simp at h; subst h; simp [decFuel]
  | succ f ih =>
    simp only [decFuel]
    split
    · rename_i h10
      have hd : isDigit (48 + n) = true := by rw [isDigit_iff]; omega
      simp only [List.singleton_append, scanDigits, hd, if_true, List.length_singleton]
      congr 1; omega
    · rename_i h10
      have p2 : 10 ^ (f + 1) = 10 * 10 ^ f := by rw [Nat.pow_succ]; omega
      rw [List.append_assoc, ih (n / 10) _ acc (by omega)]
      have hd : isDigit (48 + n % 10) = true := by rw [isDigit_iff]; omega
      simp only [List.singleton_append, scanDigits, hd, if_true, List.length_append, List.length_singleton]
      congr 1
      rw [Nat.pow_succ, ← Nat.mul_assoc]
      omega

def NoDigitHead (rest : List Nat) : Prop := ∀ c t, rest = c :: t → isDigit c = false

theorem noDigitHead_nil : NoDigitHead [] := by intro c t h; cases h
theorem noDigitHead_cons (c : Nat) (t : List Nat) (h : isDigit c = false) : NoDigitHead (c :: t) := by
  intro c' t' e; injection e with e1 _; subst e1; exact h

theorem scanDigits_stop (rest : List Nat) (acc : Nat) (h : NoDigitHead rest) : scanDigits rest acc = (acc, rest) := by
  cases rest with
  | nil => rfl
  | cons c t => simp only [scanDigits, h c t rfl]; rfl

theorem scanSign_digit (c : Nat) (t : List Nat) (h : isDigit c = true) : scanSign (c :: t) = (false, c :: t) := by
  rw [isDigit_iff] at h
  unfold scanSign
  split
  · rename_i e; injection e with e1 _; omega
  · rename_i e; injection e with e1 _; omega
  · rfl

theorem isSpace_digit (c : Nat) (h : isDigit c = true) : isSpace c = false := by
  rw [isDigit_iff] at h
  simp only [isSpace, Bool.or_eq_false_iff, beq_eq_false_iff_ne, Bool.and_eq_false_iff, decide_eq_false_iff_not]
  omega

theorem scanNum_dec (f n : Nat) (rest : List Nat) (h : n < 10 ^ (f + 1)) (hr : NoDigitHead rest) :
    scanNum (decFuel (f + 1) n ++ rest) = some (false, n, rest) := by
  obtain ⟨c, cs, hd, hc⟩ := decFuel_head f n
  have hsd := scanDigits_decFuel (f + 1) n rest 0 h
  rw [hd] at hsd ⊢
  simp only [List.cons_append] at hsd
  simp only [scanNum, List.cons_append, List.dropWhile_cons, isSpace_digit c hc, Bool.false_eq_true, if_false]
  rw [scanSign_digit c (cs ++ rest) hc]
  simp only [hc, if_true, hsd, Nat.zero_mul, Nat.zero_add, scanDigits_stop rest n hr]

theorem scanNum_neg (f n : Nat) (rest : List Nat) (h : n < 10 ^ (f + 1)) (hr : NoDigitHead rest) :
    scanNum (45 :: decFuel (f + 1) n ++ rest) = some (true, n, rest) := by
  obtain ⟨c, cs, hd, hc⟩ := decFuel_head f n
  have hsd := scanDigits_decFuel (f + 1) n rest 0 h
  rw [hd] at hsd ⊢
  have hs45 : isSpace 45 = false := by decide
  simp only [List.cons_append] at hsd
  simp only [scanNum, List.cons_append, List.dropWhile_cons, hs45, Bool.false_eq_true, if_false, scanSign]
  simp only [hc, if_true, hsd, Nat.zero_mul, Nat.zero_add, scanDigits_stop rest n hr]

theorem scanNum_space (s : List Nat) : scanNum (32 :: s) = scanNum s := by
  have : isSpace 32 = true := by decide
  simp only [scanNum, List.dropWhile_cons, this, if_true]

theorem fmtD_first (x : Int) : ∃ c t, fmtD x = c :: t ∧ isSpace c = false := by
  simp only [fmtD]
  split
  · exact ⟨45, _, rfl, by decide⟩
  · obtain ⟨c, cs, hd, hc⟩ := decFuel_head 9 (s32i x).toNat
    exact ⟨c, cs, hd, isSpace_digit c hc⟩

/-- a decimal argument: digits, optionally with a minus sign -/
def IsDecTok (a : List Nat) : Prop :=
  (a ≠ [] ∧ ∀ c ∈ a, isDigit c = true) ∨ (∃ t, a = 45 :: t ∧ t ≠ [] ∧ ∀ c ∈ t, isDigit c = true)

theorem IsDecTok.nz {a : List Nat} (h : IsDecTok a) : ∀ c ∈ a, c ≠ 0 := by
  intro c hc
  rcases h with ⟨_, hd⟩ | ⟨t, rfl, _, hd⟩
  · have := (isDigit_iff c).mp (hd c hc); omega
  · rcases List.mem_cons.mp hc with rfl | hc
    · decide
    · have := (isDigit_iff c).mp (hd c hc); omega

theorem fmtU_tok (n : Nat) : IsDecTok (fmtU n) :=
  .inl ⟨decFuel_ne_nil 9 _, decFuel_digits 10 _⟩

theorem fmtD_tok (x : Int) : IsDecTok (fmtD x) := by
  simp only [fmtD]
  split
  · exact .inr ⟨_, rfl, decFuel_ne_nil 9 _, decFuel_digits 10 _⟩
  · exact .inl ⟨decFuel_ne_nil 9 _, decFuel_digits 10 _⟩

theorem fmtU_nz (n : Nat) : ∀ c ∈ fmtU n, c ≠ 0 := (fmtU_tok n).nz

theorem fmtD_nz (x : Int) : ∀ c ∈ fmtD x, c ≠ 0 := (fmtD_tok x).nz

theorem s32i_id (x : Int) (h1 : -2147483648 ≤ x) (h2 : x ≤ 2147483647) : s32i x = x := by
  simp only [s32i, s32]; split <;> omega

theorem sscanfD_fmtD (x : Int) (rest : List Nat) (h1 : -2147483648 ≤ x) (h2 : x ≤ 2147483647)
    (hr : NoDigitHead rest) : sscanfD (fmtD x ++ rest) = some x := by
  simp only [sscanfD, fmtD, s32i_id x h1 h2]
  by_cases hneg : x < 0
  · rw [if_pos hneg, scanNum_neg 9 x.natAbs rest (by omega) hr]
    simp only [valD, if_true]
    rw [if_neg (by omega)]
    rw [s32i_id _ (by omega) (by omega)]; congr 1; omega
  · rw [if_neg hneg, scanNum_dec 9 x.toNat rest (by omega) hr]
    simp only [valD, Bool.false_eq_true, if_false]
    rw [if_neg (by omega)]
    rw [s32i_id _ (by omega) (by omega)]; congr 1; omega

theorem sscanfUD_fmt (a : Nat) (b : Int) (rest : List Nat) (ha : a < 4294967296)
    (h1 : -2147483648 ≤ b) (h2 : b ≤ 2147483647) (hr : NoDigitHead rest) :
    sscanfUD (fmtU a ++ [32] ++ fmtD b ++ rest) = some (a, b) := by
  have hu : u32 a = a := by simp only [u32]; omega
  have hsp : NoDigitHead ([32] ++ fmtD b ++ rest) := by
    simp only [List.cons_append]; exact noDigitHead_cons 32 _ (by decide)
  have hD := sscanfD_fmtD b rest h1 h2 hr
  simp only [sscanfD] at hD
  simp only [sscanfUD, fmtU, hu, List.append_assoc]
  rw [scanNum_dec 9 a _ (by omega) (by simpa using hsp)]
  simp only [List.singleton_append, scanNum_space]
  cases hs : scanNum (fmtD b ++ rest) with
  | none => rw [hs] at hD; cases hD
  | some r =>
    obtain ⟨neg, m, rr⟩ := r
    rw [hs] at hD
    simp only [Option.some.injEq] at hD
    simp only [hD, valU]
    rw [if_neg (by omega)]
    simp only [Bool.false_eq_true, if_false, u32]
    congr 2

/-! ### ARFCN ↔ frequency -/

theorem arfcn2freq10_lt (a : Nat) (up : Bool) : arfcn2freq10 a up < 65536 := by
  simp only [arfcn2freq10]
  split
  · decide
  · simp only [u16i, u16]
    split <;> omega

/-- `gsm_arfcn2freq10` where the band chain answers and the `uint16_t` variables do not wrap; `pcs` and `n` are the
PCS flag and the channel number it takes from the ARFCN -/
theorem arfcn2freq10_of_band {a n : Nat} {pcs : Bool} {ul off : Int} (hp : ((u16 a &&& arfcnPCS) != 0) = pcs)
    (hn : u16 a &&& 4095 = n) (hb : arfcnBand pcs n = some (ul, off)) (h0 : 0 ≤ ul) (h1 : 0 ≤ off)
    (h2 : ul + off < 65536) (up : Bool) :
    arfcn2freq10 a up = if up then ul.toNat else ul.toNat + off.toNat := by
  have hm : 65535 - arfcnFlagMask = 4095 := by decide
  have e4 : u16i ul = ul.toNat := by simp only [u16i]; omega
  have e5 : u16 (ul.toNat + off.toNat) = ul.toNat + off.toNat := Nat.mod_eq_of_lt (by omega)
  simp only [arfcn2freq10, hm, hp, hn, hb, e4, e5]

theorem flag_bits {n flags : Nat} (hn : n < 4096) (hf : flags = 0 ∨ flags = 32768) :
    ((u16 (n + flags) &&& arfcnPCS) != 0) = (flags != 0) ∧ u16 (n + flags) &&& 4095 = n := by
  have e1 : u16 (n + flags) = n + flags := Nat.mod_eq_of_lt (by omega)
  have hb : n.testBit 15 = false := Nat.testBit_lt_two_pow (by omega)
  rw [e1, and4095]
  refine ⟨(and_two_pow_ne_zero _ 15).trans ?_, by omega⟩
  rcases hf with rfl | rfl
  · exact hb
  · rw [Nat.add_comm]
    exact (Nat.testBit_two_pow_add_eq n 15).trans (by rw [hb]; rfl)

/-- the downlink frequencies of a row, as `gsm_freq102arfcn` computes them -/
def dlLo (r : Nat × Nat × Nat × Nat × Nat) : Nat := u16 (r.2.2.1 + r.2.2.2.1)
def dlHi (r : Nat × Nat × Nat × Nat × Nat) : Nat := u16 (u16 (r.2.2.1 + 2 * (r.2.1 - r.1)) + r.2.2.2.1)

theorem gsmRanges_disjoint : ∀ r ∈ gsmRanges, ∀ r' ∈ gsmRanges, r ≠ r' → dlHi r < dlLo r' ∨ dlHi r' < dlLo r := by
  decide

/-- the scan of `gsm_freq102arfcn` stops at the one row whose downlink range holds the frequency -/
theorem go_row (f : Nat) (r : Nat × Nat × Nat × Nat × Nat) (tbl : List (Nat × Nat × Nat × Nat × Nat)) (hm : r ∈ tbl)
    (hd : ∀ r' ∈ tbl, r ≠ r' → ¬(f ≥ dlLo r' ∧ f ≤ dlHi r')) (hin : f ≥ dlLo r ∧ f ≤ dlHi r) :
    freq102arfcn.go false f tbl = u16 (r.1 + ((f - dlLo r) >>> 1)) ||| r.2.2.2.2 := by
  induction tbl with
  | nil => cases hm
  | cons x t ih =>
    simp only [freq102arfcn.go, Bool.false_eq_true, if_false]
    by_cases hx : r = x
    · subst hx; exact if_pos hin
    · exact (if_neg (hd _ List.mem_cons_self hx)).trans
        (ih (by simpa [hx] using hm) fun r' hr' => hd r' (List.mem_cons_of_mem _ hr'))

section row
-- a row of `gsm_ranges[]`, then a channel number `n` of it
variable {first last ulFirst dlOff flags : Nat} (hr : (first, last, ulFirst, dlOff, flags) ∈ gsmRanges)
include hr

/-- read off `gsm_ranges[]`: channel numbers below 1024, flag 0 or `ARFCN_PCS`, frequencies within 450.6 MHz ..
1989.8 MHz, duplex distance at least 10 MHz, no row across 1 GHz (so the kHz values of a pair have the same
number of digits) -/
theorem gsmRanges_row :
    first ≤ last ∧ last < 1024 ∧ (flags = 0 ∨ flags = 32768) ∧ 4506 ≤ ulFirst ∧
    ulFirst + 2 * (last - first) + dlOff ≤ 19898 ∧ 100 ≤ dlOff ∧
    (ulFirst + 2 * (last - first) + dlOff < 10000 ∨ 10000 ≤ ulFirst) :=
  (by decide : ∀ r ∈ gsmRanges, r.1 ≤ r.2.1 ∧ r.2.1 < 1024 ∧ (r.2.2.2.2 = 0 ∨ r.2.2.2.2 = 32768) ∧ 4506 ≤ r.2.2.1 ∧
    r.2.2.1 + 2 * (r.2.1 - r.1) + r.2.2.2.1 ≤ 19898 ∧ 100 ≤ r.2.2.2.1 ∧
    (r.2.2.1 + 2 * (r.2.1 - r.1) + r.2.2.2.1 < 10000 ∨ 10000 ≤ r.2.2.1)) _ hr

variable {n : Nat} (h1 : first ≤ n) (h2 : n ≤ last)
include h1 h2

/-- the band chain of `gsm_arfcn2freq10` agrees with `gsm_ranges[]` of libosmocore, row by row -/
theorem arfcnBand_row :
    arfcnBand (flags != 0) n = some ((ulFirst : Int) + 2 * (n - first), (dlOff : Int)) := by
  simp only [gsmRanges, List.mem_cons, Prod.mk.injEq, List.mem_nil_iff, or_false] at hr
  rcases hr with ⟨rfl, rfl, rfl, rfl, rfl⟩ | ⟨rfl, rfl, rfl, rfl, rfl⟩ | ⟨rfl, rfl, rfl, rfl, rfl⟩ |
    ⟨rfl, rfl, rfl, rfl, rfl⟩ | ⟨rfl, rfl, rfl, rfl, rfl⟩ | ⟨rfl, rfl, rfl, rfl, rfl⟩ | ⟨rfl, rfl, rfl, rfl, rfl⟩ |
    ⟨rfl, rfl, rfl, rfl, rfl⟩ | ⟨rfl, rfl, rfl, rfl, rfl⟩
  · simp only [arfcnBand, Nat.reduceBneDiff, if_true, Option.some.injEq, Prod.mk.injEq]; omega
  all_goals
    simp (disch := omega) only [arfcnBand, bne_self_eq_false, Bool.false_eq_true, if_false, if_pos, if_neg,
      Option.some.injEq, Prod.mk.injEq]
    omega

/-- in-tree `gsm_arfcn2freq10` computes what `gsm_ranges[]` says, for every row and both directions -/
theorem arfcn2freq10_row (up : Bool) :
    arfcn2freq10 (n + flags) up = ulFirst + 2 * (n - first) + if up then 0 else dlOff := by
  obtain ⟨_, g1, g2, _, g3, _⟩ := gsmRanges_row hr
  obtain ⟨e1, e2⟩ := flag_bits (show n < 4096 by omega) g2
  rw [arfcn2freq10_of_band e1 e2 (arfcnBand_row hr h1 h2) (by omega) (by omega) (by omega)]
  cases up <;> simp only [if_true, Bool.false_eq_true, if_false] <;> omega

/-- `gsm_freq102arfcn` inverts `gsm_arfcn2freq10` (downlink) on every row of its table -/
theorem freq102arfcn_row :
    freq102arfcn (ulFirst + 2 * (n - first) + dlOff) false = n + flags := by
  obtain ⟨_, g1, g2, _, g3, _⟩ := gsmRanges_row hr
  have hlo : dlLo (first, last, ulFirst, dlOff, flags) = ulFirst + dlOff :=
    Nat.mod_eq_of_lt (by omega : ulFirst + dlOff < 65536)
  have hhi : dlHi (first, last, ulFirst, dlOff, flags) = ulFirst + 2 * (last - first) + dlOff := by
    simp only [dlHi, u16]
    rw [Nat.mod_eq_of_lt (b := 65536) (by omega : ulFirst + 2 * (last - first) < 65536)]
    exact Nat.mod_eq_of_lt (by omega)
  have hf : u16 (ulFirst + 2 * (n - first) + dlOff) = ulFirst + 2 * (n - first) + dlOff := Nat.mod_eq_of_lt (by omega)
  simp only [freq102arfcn, hf, Bool.false_eq_true, if_false]
  rw [go_row _ _ gsmRanges hr ?_ (by rw [hlo, hhi]; omega)]
  · have e : ulFirst + 2 * (n - first) + dlOff - (ulFirst + dlOff) = 2 * (n - first) := by omega
    simp only [hlo, e, Nat.shiftRight_eq_div_pow, Nat.pow_one, Nat.mul_div_cancel_left _ (Nat.zero_lt_two)]
    rw [show first + (n - first) = n by omega, show u16 n = n from Nat.mod_eq_of_lt (by omega)]
    rcases g2 with rfl | rfl
    · exact Nat.or_zero n
    · exact Nat.or_two_pow_eq_add_of_lt (n := 15) (by omega)
  · intro r' hr' hne
    rcases gsmRanges_disjoint _ hr _ hr' hne with h | h
    · rw [hhi] at h; omega
    · rw [hlo] at h; omega

end row

/-- `a` is channel `n` of a row of `gsm_ranges[]`, with the row's flag -/
def InRanges (a : Nat) : Prop :=
  ∃ first last ulFirst dlOff flags n, (first, last, ulFirst, dlOff, flags) ∈ gsmRanges ∧ first ≤ n ∧ n ≤ last ∧ a = n + flags

theorem InRanges.roundtrip {a : Nat} (h : InRanges a) : freq102arfcn (arfcn2freq10 a false) false = a := by
  obtain ⟨first, last, ulFirst, dlOff, flags, n, hr, h1, h2, rfl⟩ := h
  rw [arfcn2freq10_row hr h1 h2]
  exact freq102arfcn_row hr h1 h2

/-- an ARFCN for which `gsm_arfcn2freq10` does not answer 0xffff -/
def ValidArfcn (a : Nat) : Prop := arfcn2freq10 a false ≠ 65535

instance (a : Nat) : Decidable (ValidArfcn a) := by unfold ValidArfcn; infer_instance

/-- ARFCNs in the bands of TS 45.005 as trxcon's scheduler names them: plain numbers, and
512..810 with the PCS flag for PCS 1900 -/
def CanonArfcn (a : Nat) : Prop :=
  a ≤ 124 ∨ (955 ≤ a ∧ a ≤ 1023) ∨ (128 ≤ a ∧ a ≤ 251) ∨ (512 ≤ a ∧ a ≤ 885) ∨ (259 ≤ a ∧ a ≤ 293) ∨
  (306 ≤ a ∧ a ≤ 340) ∨ (350 ≤ a ∧ a ≤ 425) ∨ (438 ≤ a ∧ a ≤ 511) ∨ (32768 + 512 ≤ a ∧ a ≤ 32768 + 810)

instance (a : Nat) : Decidable (CanonArfcn a) := by unfold CanonArfcn; infer_instance

theorem ite_some_cases {c : Prop} [Decidable c] {α : Type} {x y : α} {r : Option α}
    (h : (if c then some x else r) = some y) : c ∨ r = some y := by
  by_cases hc : c
  · exact .inl hc
  · rw [if_neg hc] at h; exact .inr h

/-- the canonical ARFCNs are the rows of `gsm_ranges[]` -/
theorem CanonArfcn.inRanges {a : Nat} (h : CanonArfcn a) : InRanges a := by
  rcases h with h | h | h | h | h | h | h | h | h
  · exact ⟨0, 124, 8900, 450, 0, a, by decide, Nat.zero_le a, h, rfl⟩
  · exact ⟨955, 1023, 8762, 450, 0, a, by decide, h.1, h.2, rfl⟩
  · exact ⟨128, 251, 8242, 450, 0, a, by decide, h.1, h.2, rfl⟩
  · exact ⟨512, 885, 17102, 950, 0, a, by decide, h.1, h.2, rfl⟩
  · exact ⟨259, 293, 4506, 100, 0, a, by decide, h.1, h.2, rfl⟩
  · exact ⟨306, 340, 4790, 100, 0, a, by decide, h.1, h.2, rfl⟩
  · exact ⟨350, 425, 8060, 450, 0, a, by decide, h.1, h.2, rfl⟩
  · exact ⟨438, 511, 7472, 300, 0, a, by decide, h.1, h.2, rfl⟩
  · exact ⟨512, 810, 18502, 800, 32768, a - 32768, by decide, by omega, by omega, by omega⟩

/-- without the PCS flag the band chain answers on canonical ARFCNs only: its conditions are their ranges -/
theorem arfcnBand_canon {n : Nat} {x : Int × Int} (h : arfcnBand false n = some x) : CanonArfcn n := by
  unfold arfcnBand at h
  rw [if_neg Bool.false_ne_true] at h
  exact (ite_some_cases h).imp (fun hc => by omega) fun h =>
    (ite_some_cases h).imp (fun hc => by omega) fun h =>
    (ite_some_cases h).imp (fun hc => by omega) fun h =>
    (ite_some_cases h).imp (fun hc => by omega) fun h =>
    (ite_some_cases h).imp (fun hc => by omega) fun h =>
    (ite_some_cases h).imp (fun hc => by omega) fun h =>
    (ite_some_cases h).imp (fun hc => by omega) fun h =>
    (ite_some_cases h).imp (fun hc => by omega) fun h => nomatch h

theorem ValidArfcn.band {a : Nat} (h : ValidArfcn a) :
    ∃ x, arfcnBand ((u16 a &&& arfcnPCS) != 0) ((u16 a &&& 4095 : Nat) : Int) = some x := by
  cases hb : arfcnBand ((u16 a &&& arfcnPCS) != 0) ((u16 a &&& 4095 : Nat) : Int) with
  | some x => exact ⟨x, rfl⟩
  | none =>
    have hm : 65535 - arfcnFlagMask = 4095 := by decide
    exact absurd (by simp only [arfcn2freq10, hm, hb]) h

theorem ValidArfcn.inRanges {a : Nat} (h : ValidArfcn a) (ha : a < 1024) : InRanges a := by
  obtain ⟨x, hx⟩ := h.band
  obtain ⟨e1, e2⟩ := flag_bits (show a < 4096 by omega) (.inl rfl)
  rw [Nat.add_zero] at e1 e2
  rw [e1, e2] at hx
  exact (arfcnBand_canon hx).inRanges

/-- both directions are defined together; both frequencies have the same number of digits -/
theorem arfcn2freq10_valid (a : Nat) (h : ValidArfcn a) :
    ∃ ul off : Nat, arfcn2freq10 a true = ul ∧ arfcn2freq10 a false = ul + off ∧ 4506 ≤ ul ∧ ul + off ≤ 26468 ∧
      100 ≤ off ∧ ((ul < 10000 ∧ ul + off < 10000) ∨ 10000 ≤ ul) := by
  obtain ⟨⟨ul, off⟩, hx⟩ := h.band
  have hn : u16 a &&& 4095 ≤ 4095 := by rw [and4095]; omega
  generalize hnn : u16 a &&& 4095 = n at hx hn
  -- with the PCS flag every channel number is taken for PCS 1900; without it the row decides
  have hb : 4506 ≤ ul ∧ ul + off ≤ 26468 ∧ 100 ≤ off ∧ ((ul < 10000 ∧ ul + off < 10000) ∨ 10000 ≤ ul) := by
    cases hp : (u16 a &&& arfcnPCS) != 0 with
    | true =>
      rw [hp] at hx
      cases hx.symm.trans (show arfcnBand true n = some (18502 + 2 * ((n : Int) - 512), 800) from rfl)
      omega
    | false =>
      rw [hp] at hx
      obtain ⟨first, last, ulFirst, dlOff, flags, k, hr, h1, h2, rfl⟩ := (arfcnBand_canon hx).inRanges
      obtain ⟨_, _, hf, g1, g2, g3, g4⟩ := gsmRanges_row hr
      obtain rfl : flags = 0 := by omega
      cases hx.symm.trans (arfcnBand_row hr h1 h2)
      omega
  have hf := arfcn2freq10_of_band rfl hnn hx (by omega) (by omega) (by omega)
  exact ⟨ul.toNat, off.toNat, hf true, hf false, by omega, by omega, by omega, by omega⟩

/-! ### FSM / queue plumbing -/

/-- the fields of `Trx` that `fsmChg` / `ctrlSend` leave alone -/
structure SameData (t t' : Trx) : Prop where
  queue : t'.queue = t.queue
  elog : t'.elog = t.elog
  rsp : t'.rsp = t.rsp

theorem fsmChg_ok (t : Trx) (new : Nat) (h : t.state < 4) (hn : new < 4) :
    ∃ t', fsmChg t new = .ok t' ∧ SameData t t' ∧ t'.sent = t.sent ∧ t'.state < 4 := by
  have hl : fsmOutMask.length = 4 := by decide
  have hg : fsmOutMask[t.state]? = some (fsmOutMask[t.state]'(by omega)) := List.getElem?_eq_getElem (by omega)
  simp only [fsmChg, hg]
  split
  · exact ⟨_, rfl, ⟨rfl, rfl, rfl⟩, rfl, hn⟩
  · exact ⟨_, rfl, ⟨rfl, rfl, rfl⟩, rfl, h⟩

theorem takeWhile_all {p : Nat → Bool} (l : List Nat) (h : ∀ c ∈ l, p c = true) : l.takeWhile p = l := by
  simpa using List.takeWhile_append_of_pos (l₂ := []) h

/-- the C string at `tcm->cmd + 4`: what follows `CMD ` -/
theorem cmdStrAt_four (m : CtrlMsg) (v : List Nat) (hcmd : m.cmd = str "CMD " ++ v) (hnz : ∀ c ∈ v, c ≠ 0) :
    cmdStrAt m 4 = v := by
  simp only [cmdStrAt, hcmd]
  rw [List.drop_left' (by decide)]
  exact takeWhile_all _ (fun c hc => by simpa using hnz c hc)

theorem cmdStrAt_zero (m : CtrlMsg) (h : ∀ c ∈ m.cmd, c ≠ 0) : cmdStrAt m 0 = m.cmd := by
  simp only [cmdStrAt, List.drop_zero]
  exact takeWhile_all _ (fun c hc => by simpa using h c hc)

theorem ctrlSend_ok (t : Trx) (h : t.state < 4) :
    ∃ t', ctrlSend t = .ok t' ∧ SameData t t' ∧ t'.state < 4 ∧
      t'.sent = t.sent ++ (t.queue.take 1).map (cmdStrAt · 0 ++ [0]) := by
  unfold ctrlSend
  split
  · rename_i hq
    exact ⟨t, rfl, ⟨rfl, rfl, rfl⟩, h, by rw [hq]; exact (List.append_nil _).symm⟩
  · rename_i m rest hq
    simp only [bind, Except.bind, pure, Except.pure]
    by_cases hs : t.state ≠ stRspWait
    · rw [if_pos (by simpa using hs)]
      obtain ⟨t1, h1, sd, hsent, hst⟩ := fsmChg_ok { t with sent := t.sent ++ [cmdStrAt m 0 ++ [0]], prevState := t.state }
        stRspWait h (by decide)
      rw [h1]
      exact ⟨_, rfl, ⟨sd.queue, sd.elog, sd.rsp⟩, hst, by rw [hsent, hq]; rfl⟩
    · rw [if_neg (by simpa using hs)]
      exact ⟨_, rfl, ⟨rfl, rfl, rfl⟩, h, by rw [hq]; rfl⟩

/-! ### SETFH: the mobile allocation text -/

def pairOf (a : Nat) : List Nat := pairText (arfcn2freq10 a false) (arfcn2freq10 a true)

/-- `ma_buf` before the last blank is overwritten -/
def maText (ma : List Nat) : List Nat := ma.flatMap pairOf

theorem fmtU_khz_len (f : Nat) (h1 : 4506 ≤ f) (h2 : f ≤ 26468) :
    (fmtU (f * 100)).length = if f < 10000 then 6 else 7 := by
  have hu : u32 (f * 100) = f * 100 := by simp only [u32]; omega
  simp only [fmtU, hu]
  split
  · exact decFuel_length 5 9 _ (by omega) (by omega) (by omega)
  · exact decFuel_length 6 9 _ (by omega) (by omega) (by omega)

theorem pairOf_facts (a : Nat) (h : ValidArfcn a) :
    ((pairOf a).length = 14 ∨ (pairOf a).length = 16) ∧ arfcn2freq10 a true ≠ 65535 := by
  obtain ⟨ul, off, e1, e2, f1, f2, f3, f4⟩ := arfcn2freq10_valid a h
  refine ⟨?_, by omega⟩
  simp only [pairOf, pairText, List.length_append, List.length_singleton, e1, e2]
  rw [fmtU_khz_len _ (by omega) (by omega), fmtU_khz_len _ (by omega) (by omega)]
  rcases f4 with ⟨g1, g2⟩ | g
  · rw [if_pos g2, if_pos g1]; left; rfl
  · rw [if_neg (by omega), if_neg (by omega)]; right; rfl

theorem maText_nz (ma : List Nat) : ∀ c ∈ maText ma, c ≠ 0 := by
  intro c hc
  obtain ⟨a, _, hc⟩ := List.mem_flatMap.mp hc
  simp only [pairOf, pairText, List.mem_append, List.mem_singleton] at hc
  rcases hc with ((hc | rfl) | hc) | rfl
  · exact fmtU_nz _ c hc
  · decide
  · exact fmtU_nz _ c hc
  · decide

theorem maText_cons (a : Nat) (ma : List Nat) : maText (a :: ma) = pairOf a ++ maText ma := by
  simp [maText]

theorem maText_length_const (k : Nat) (ma : List Nat) (h : ∀ a ∈ ma, (pairOf a).length = k) :
    (maText ma).length = k * ma.length := by
  induction ma with
  | nil => rfl
  | cons a t ih =>
    rw [maText_cons, List.length_append, List.length_cons, h a List.mem_cons_self,
      ih (fun x hx => h x (List.mem_cons_of_mem _ hx)), Nat.mul_succ, Nat.add_comm]

theorem maText_ne_nil {ma : List Nat} (hne : ma ≠ []) : maText ma ≠ [] := by
  cases ma with
  | nil => exact absurd rfl hne
  | cons a t => rw [maText_cons]; simp [pairOf, pairText]

theorem setfhLoop_step (a : Nat) (rest : List Nat) (n : Nat) (mem : List Nat) (room : Nat) (h : ValidArfcn a) :
    setfhLoop (a :: rest) (n + 1) mem room =
      if (pairOf a).length > room then .ok (.error (-eNOSPC))
      else setfhLoop rest n (mem ++ (if (pairOf a).length < room then pairOf a
                                    else snprintfStored room (pairOf a) ++ [0])) (room - (pairOf a).length) := by
  have hrx : arfcn2freq10 a false ≠ 65535 := h
  have htx := (pairOf_facts a h).2
  simp only [setfhLoop, pairOf]
  rw [if_neg (by omega)]
  rfl

theorem setfhLoop_fits (ma : List Nat) (hv : ∀ a ∈ ma, ValidArfcn a) (mem : List Nat) (room : Nat)
    (hl : (maText ma).length < room) : setfhLoop ma ma.length mem room = .ok (.ok (mem ++ maText ma)) := by
  induction ma generalizing mem room with
  | nil => simp [setfhLoop, maText]
  | cons a t ih =>
    rw [maText_cons, List.length_append] at hl
    rw [List.length_cons, setfhLoop_step a t _ mem room (hv a (by simp))]
    rw [if_neg (by omega), if_pos (by omega)]
    rw [ih (fun x hx => hv x (by simp [hx])) _ _ (by omega), maText_cons]
    simp

theorem setfhLoop_nospc (ma : List Nat) (hv : ∀ a ∈ ma, ValidArfcn a) (mem : List Nat) (room : Nat)
    (hl : (maText ma).length > room) : setfhLoop ma ma.length mem room = .ok (.error (-eNOSPC)) := by
  induction ma generalizing mem room with
  | nil => simp [maText] at hl
  | cons a t ih =>
    rw [maText_cons, List.length_append] at hl
    rw [List.length_cons, setfhLoop_step a t _ mem room (hv a (by simp))]
    by_cases h1 : (pairOf a).length > room
    · rw [if_pos h1]
    · rw [if_neg h1]
      exact ih (fun x hx => hv x (by simp [hx])) _ _ (by omega)

/-- the text fits exactly: the last blank is cut off by `snprintf` and the NUL stands in its place -/
theorem setfhLoop_exact (ma : List Nat) (hv : ∀ a ∈ ma, ValidArfcn a) (hne : ma ≠ []) (mem : List Nat) (room : Nat)
    (hl : (maText ma).length = room) :
    setfhLoop ma ma.length mem room = .ok (.ok (mem ++ (maText ma).dropLast ++ [0])) := by
  induction ma generalizing mem room with
  | nil => exact absurd rfl hne
  | cons a t ih =>
    have hva := hv a (by simp)
    have hlen := (pairOf_facts a hva).1
    obtain ⟨body, hbody⟩ : ∃ body, pairOf a = body ++ [32] := ⟨_, rfl⟩
    rw [maText_cons, List.length_append] at hl
    rw [List.length_cons, setfhLoop_step a t _ mem room hva]
    rw [if_neg (by omega)]
    by_cases ht : t = []
    · subst ht
      have hm : maText ([] : List Nat) = [] := rfl
      rw [hm, List.length_nil] at hl
      rw [if_neg (by omega)]
      simp only [List.length_nil, setfhLoop, maText_cons, snprintfStored]
      rw [hm, List.append_nil, ← hl, hbody]
      simp
    · have hne := maText_ne_nil ht
      have hpos := List.length_pos_iff.mpr hne
      rw [if_pos (by omega)]
      rw [ih (fun x hx => hv x (by simp [hx])) ht _ _ (by omega), maText_cons]
      rw [List.dropLast_append_of_ne_nil hne]
      simp

theorem cstrAt_mid (pre s post : List Nat) (cap : Nat) (hs : ∀ c ∈ s, c ≠ 0) (hc : pre.length < cap) :
    cstrAt (pre ++ s ++ 0 :: post) cap pre.length = .ok s := by
  simp only [cstrAt]
  rw [if_neg (by omega)]
  have hd : (pre ++ s ++ 0 :: post).drop pre.length = s ++ 0 :: post := by
    rw [List.append_assoc, List.drop_left]
  rw [hd]
  have h1 : (s ++ 0 :: post).contains 0 = true := by simp
  simp only [h1, if_true]
  rw [List.takeWhile_append_of_pos (fun c hc => by simpa using hs c hc)]
  simp

/-- 14 characters per channel, and two more for each of the `k` channels above 1 GHz -/
theorem maText_len (ma : List Nat) (hv : ∀ a ∈ ma, ValidArfcn a) :
    ∃ k ≤ ma.length, (maText ma).length = 14 * ma.length + 2 * k := by
  induction ma with
  | nil => exact ⟨0, Nat.le_refl _, rfl⟩
  | cons a t ih =>
    obtain ⟨k, hk, h⟩ := ih (fun x hx => hv x (List.mem_cons_of_mem _ hx))
    rw [maText_cons, List.length_append, List.length_cons, h]
    rcases (pairOf_facts a (hv a List.mem_cons_self)).1 with h14 | h16
    · exact ⟨k, by omega, by omega⟩
    · exact ⟨k + 1, by omega, by omega⟩

/-- `trx_if_cmd_setfh` before `trx_ctrl_cmd`: the string in `ma_buf`, or `-ENOSPC` -/
theorem setfhMaBuf_eq (ma : List Nat) (hne : ma ≠ []) (hv : ∀ a ∈ ma, ValidArfcn a) (hlen : ma.length < 4294967296) :
    setfhMaBuf ma.length ma =
      if (maText ma).length ≤ trxcBufSize - 24 - 1 then .ok (.ok (maText ma).dropLast) else .ok (.error (-eNOSPC)) := by
  have hcap : trxcBufSize - 24 = 1000 := by decide
  have hu : u32 ma.length = ma.length := by simp only [u32]; omega
  have hl0 : ma.length ≠ 0 := by intro e; exact hne (List.eq_nil_of_length_eq_zero e)
  have hie : ma.isEmpty = false := by cases ma with | nil => exact absurd rfl hne | cons => rfl
  have hstr : cstrAt ((maText ma).dropLast ++ [0]) 1000 0 = .ok (maText ma).dropLast :=
    cstrAt_mid [] _ [] 1000 (fun c hc => maText_nz ma c (List.dropLast_subset _ hc)) (by decide)
  simp only [setfhMaBuf, hcap, hu, bind, Except.bind, pure, Except.pure]
  rw [if_neg (by simp [hl0, hie])]
  by_cases h1 : (maText ma).length < 999
  · rw [setfhLoop_fits ma hv [] 999 h1, if_pos (by omega)]
    simp only [List.nil_append]
    have hne' : (maText ma).isEmpty = false := by simpa using maText_ne_nil hne
    simp only [hne', Bool.false_eq_true, if_false, throw, throwThe, MonadExceptOf.throw]
    rw [hstr]
  · by_cases h2 : (maText ma).length = 999
    · rw [setfhLoop_exact ma hv hne [] 999 h2, if_pos (by omega)]
      simp only [List.nil_append]
      have hne' : ((maText ma).dropLast ++ [0]).isEmpty = false := by simp
      simp only [hne', Bool.false_eq_true, if_false, List.dropLast_concat]
      rw [hstr]
    · rw [setfhLoop_nospc ma hv [] 999 (by omega), if_neg (by omega)]

/-! ### what `trx_if_handle_phyif_cmd` emits -/

/-- one emitted command: criticality, verb, argument tokens -/
structure Emitted where
  critical : Int
  verb : List Nat
  args : List (List Nat)

/-- `CMD <VERB>[ <arg>]*` -/
def Emitted.text (e : Emitted) : List Nat := str "CMD " ++ e.verb ++ e.args.flatMap (fun a => 32 :: a)
def Emitted.msg (e : Emitted) : CtrlMsg := ⟨e.text, e.critical, e.verb.length⟩

/-- the two frequency tokens of an ARFCN in `CMD SETFH` -/
def pairToks (a : Nat) : List (List Nat) := [fmtU (arfcn2freq10 a false * 100), fmtU (arfcn2freq10 a true * 100)]

/-- the commands `trx_if_handle_phyif_cmd` queues for a PHYIF command -/
def emitSpec : PhyCmd → List Emitted
  | .reset => [⟨1, str "POWEROFF", []⟩, ⟨1, str "ECHO", []⟩]
  | .poweron => [⟨1, str "POWERON", []⟩]
  | .poweroff => [⟨1, str "POWEROFF", []⟩]
  | .measure a => [⟨1, str "MEASURE", [fmtU (arfcn2freq10 a false * 100)]⟩]
  | .setfreqH0 a => [⟨1, str "RXTUNE", [fmtU (arfcn2freq10 a false * 100)]⟩,
                     ⟨1, str "TXTUNE", [fmtU (arfcn2freq10 a true * 100)]⟩]
  | .setfreqH1 hsn maio _ ma => [⟨1, str "SETFH", fmtU (u8 hsn) :: fmtU (u8 maio) :: ma.flatMap pairToks⟩]
  | .setslot tn pchan => match chanTypes[u8 pchan]? with
      | some ct => [⟨1, str "SETSLOT", [fmtU (u8 tn), fmtU ct]⟩]
      | none => []
  | .setta ta => [⟨0, str "SETTA", [fmtD (s8i ta)]⟩]
  | .raw _ => []

/-- the PHYIF commands trxcon's L1 side may issue: defined ARFCNs, a channel configuration of
`enum gsm_phys_chan_config`, a mobile allocation whose text fits `ma_buf` -/
def ValidCmd : PhyCmd → Prop
  | .measure a => ValidArfcn a
  | .setfreqH0 a => ValidArfcn a
  | .setfreqH1 _ _ n ma => n = ma.length ∧ ma ≠ [] ∧ (∀ a ∈ ma, ValidArfcn a) ∧ (maText ma).length ≤ 999
  | .setslot _ pchan => u8 pchan < chanTypes.length
  | .raw _ => False
  | _ => True

theorem fmtU_len_le (n : Nat) : (fmtU n).length ≤ 10 :=
  decFuel_length_le 10 10 _ (by omega) (by omega) (by simp only [u32]; omega)

theorem fmtU_u8_len_le (x : Nat) : (fmtU (u8 x)).length ≤ 3 :=
  decFuel_length_le 3 10 _ (by omega) (by omega) (by simp only [u32, u8]; omega)

theorem fmtD_len_le (x : Int) : (fmtD x).length ≤ 11 := by
  have hb : -2147483648 ≤ s32i x ∧ s32i x ≤ 2147483647 := by simp only [s32i, s32]; split <;> omega
  simp only [fmtD]
  split
  · have := decFuel_length_le 10 10 (s32i x).natAbs (by omega) (by omega) (by omega)
    simp only [List.length_cons]; omega
  · have := decFuel_length_le 10 10 (s32i x).toNat (by omega) (by omega) (by omega)
    omega

/-- `ma_buf` behind a blank is the token list rendered with leading blanks, and the blank to be overwritten -/
theorem maText_toks (ma : List Nat) :
    32 :: maText ma = (ma.flatMap pairToks).flatMap (fun a => 32 :: a) ++ [32] := by
  induction ma with
  | nil => rfl
  | cons a t ih =>
    rw [maText_cons, List.flatMap_cons, List.flatMap_append]
    simp only [pairOf, pairText, pairToks, List.flatMap_cons, List.flatMap_nil, List.append_nil]
    simp only [List.append_assoc, List.cons_append, List.nil_append]
    rw [ih]

theorem maText_dropLast (ma : List Nat) (hne : ma ≠ []) :
    32 :: (maText ma).dropLast = (ma.flatMap pairToks).flatMap (fun a => 32 :: a) := by
  rw [← List.dropLast_cons_of_ne_nil (maText_ne_nil hne), maText_toks, List.dropLast_concat]

theorem str_nz (s : String) (h : (str s).all (· ≠ 0) = true) : ∀ c ∈ str s, c ≠ 0 := by
  intro c hc
  have := List.all_eq_true.mp h c hc
  simpa using this

/-- `CMD <VERB>[ <arg>]*`: upper-case verb, single blanks, decimal arguments -/
def WellFormedCmd (s : List Nat) : Prop :=
  ∃ (verb : List Nat) (args : List (List Nat)), s = str "CMD " ++ verb ++ args.flatMap (fun a => 32 :: a) ∧ verb ≠ [] ∧
    (∀ c ∈ verb, 65 ≤ c ∧ c ≤ 90) ∧ ∀ a ∈ args, IsDecTok a

/-- the verbs `trx_if_cmd_*` hand to `trx_ctrl_cmd` -/
def verbs : List (List Nat) :=
  [str "POWEROFF", str "ECHO", str "POWERON", str "MEASURE", str "RXTUNE", str "TXTUNE", str "SETFH", str "SETSLOT",
    str "SETTA"]

theorem verbs_upper : ∀ v ∈ verbs, v ≠ [] ∧ v.length ≤ 8 ∧ ∀ c ∈ v, 65 ≤ c ∧ c ≤ 90 := by decide +kernel

theorem Emitted.text_nz (e : Emitted) (hup : ∀ c ∈ e.verb, 65 ≤ c ∧ c ≤ 90) (htok : ∀ a ∈ e.args, IsDecTok a) :
    ∀ ch ∈ e.text, ch ≠ 0 := by
  intro ch hch
  simp only [Emitted.text, List.mem_append, List.mem_flatMap] at hch
  rcases hch with (hch | hch) | ⟨a, ha, hch⟩
  · exact str_nz "CMD " (by decide) ch hch
  · have := hup ch hch; omega
  · rcases List.mem_cons.mp hch with rfl | hch
    · decide
    · exact (htok a ha).nz ch hch

/-- length of the SETFH text: `CMD SETFH <hsn> <maio> ` and the mobile allocation text without its last blank -/
theorem setfh_text_len (hsn maio : Nat) (ma : List Nat) :
    (Emitted.text ⟨1, str "SETFH", fmtU (u8 hsn) :: fmtU (u8 maio) :: ma.flatMap pairToks⟩).length
      = 11 + (fmtU (u8 hsn)).length + (fmtU (u8 maio)).length + (maText ma).length := by
  have hl : ((ma.flatMap pairToks).flatMap (fun a => 32 :: a)).length = (maText ma).length := by
    have := congrArg List.length (maText_toks ma)
    simp only [List.length_cons, List.length_append, List.length_nil] at this
    omega
  simp only [Emitted.text, List.flatMap_cons, List.length_append, List.length_cons, hl]
  have : (str "CMD ").length = 4 := by decide
  have : (str "SETFH").length = 5 := by decide
  omega

/-- a verb of the table with at most two arguments of at most eleven characters: far from `TRXC_BUF_SIZE` -/
theorem Emitted.text_short (e : Emitted) (hv : e.verb ∈ verbs) (h2 : e.args.length ≤ 2)
    (h11 : ∀ a ∈ e.args, a.length ≤ 11) : e.text.length ≤ 1015 := by
  have h8 := (verbs_upper _ hv).2.1
  have hl : ∀ l : List (List Nat), (∀ a ∈ l, a.length ≤ 11) → (l.flatMap (fun a => 32 :: a)).length ≤ l.length * 12 := by
    intro l
    induction l with
    | nil => intro _; exact Nat.zero_le _
    | cons a t ih =>
      intro h
      have := h a List.mem_cons_self
      have := ih (fun x hx => h x (List.mem_cons_of_mem _ hx))
      simp only [List.flatMap_cons, List.length_append, List.length_cons, Nat.succ_mul]
      omega
  have := hl e.args h11
  have : e.args.length * 12 ≤ 2 * 12 := Nat.mul_le_mul_right _ h2
  simp only [Emitted.text, List.length_append, show (str "CMD ").length = 4 by decide]
  omega

/-- **the members of `emitSpec`**: an upper-case verb, decimal arguments, at most 1015 characters (reached by SETFH
only), so that `snprintf` cuts nothing -/
theorem emitSpec_wf (c : PhyCmd) (hv : ValidCmd c) : ∀ e ∈ emitSpec c, e.verb ≠ [] ∧ (∀ c ∈ e.verb, 65 ≤ c ∧ c ≤ 90) ∧
    (∀ a ∈ e.args, IsDecTok a) ∧ e.text.length ≤ 1015 := by
  have hU : ∀ n, IsDecTok (fmtU n) ∧ (fmtU n).length ≤ 11 := fun n => ⟨fmtU_tok n, Nat.le_succ_of_le (fmtU_len_le n)⟩
  have hD : ∀ x, IsDecTok (fmtD x) ∧ (fmtD x).length ≤ 11 := fun x => ⟨fmtD_tok x, fmtD_len_le x⟩
  -- a verb of the table and decimal arguments of at most eleven characters: at most two of them, SETFH apart
  suffices h : ∀ e ∈ emitSpec c, e.verb ∈ verbs ∧ (∀ a ∈ e.args, IsDecTok a ∧ a.length ≤ 11) ∧
      (e.args.length ≤ 2 ∨ e.text.length ≤ 1015) by
    intro e he
    obtain ⟨hverb, hargs, hlen⟩ := h e he
    obtain ⟨h1, _, h3⟩ := verbs_upper _ hverb
    exact ⟨h1, h3, fun a ha => (hargs a ha).1,
      hlen.elim (fun h2 => e.text_short hverb h2 fun a ha => (hargs a ha).2) id⟩
  cases c with
  | setfreqH1 hsn maio n ma =>
    intro e he
    simp only [emitSpec, List.mem_singleton] at he; subst he
    obtain ⟨_, _, hval, hlen⟩ := hv
    refine ⟨by simp [verbs], ?_, .inr ?_⟩
    · intro a ha
      simp only [List.mem_cons, List.mem_flatMap, pairToks, List.mem_nil_iff, or_false] at ha
      rcases ha with rfl | rfl | ⟨x, _, rfl | rfl⟩ <;> exact hU _
    · have := fmtU_u8_len_le hsn
      have := fmtU_u8_len_le maio
      obtain ⟨k, _, _⟩ := maText_len ma hval
      rw [setfh_text_len hsn maio ma]
      omega
  | setslot tn pchan =>
    simp only [emitSpec]
    split <;> simp [verbs, hU]
  | raw _ => exact fun _ he => absurd he List.not_mem_nil
  -- the other PHYIF commands: one or two fixed verbs with at most one `%u` / `%d` argument
  | _ =>
    simp only [emitSpec, List.forall_mem_cons, List.not_mem_nil, false_imp_iff, implies_true, hU, hD, List.length_cons,
      List.length_nil, Nat.reduceAdd, Nat.reduceLeDiff, true_or, and_true]
    simp only [verbs, List.mem_cons, true_or, or_true, and_self]

/-! ### `trx_ctrl_cmd` and `trx_if_handle_phyif_cmd` in terms of `emitSpec` -/

/-- the `trx_ctrl_cmd` calls for `es` on top of the queue of `t`: all queued, in order; the first one goes out at
once when nothing was pending -/
structure Queued (t t' : Trx) (es : List Emitted) : Prop where
  queue : t'.queue = t.queue ++ es.map Emitted.msg
  elog : t'.elog = t.elog
  state : t'.state < 4
  sent : t'.sent = t.sent ++ if t.queue = [] then (es.take 1).map (·.text ++ [0]) else []

theorem Queued.cons {t t1 t2 : Trx} {e : Emitted} {es : List Emitted} (h1 : Queued t t1 [e]) (h2 : Queued t1 t2 es) :
    Queued t t2 (e :: es) := by
  have hne : t1.queue ≠ [] := by rw [h1.queue]; simp
  refine ⟨?_, h2.elog.trans h1.elog, h2.state, ?_⟩
  · rw [h2.queue, h1.queue]; simp
  · rw [h2.sent, if_neg hne, List.append_nil, h1.sent]; rfl

/-- the text `trx_ctrl_cmd` builds when nothing is cut off -/
def cmdText (verb : List Nat) (args : Option (List Nat)) : List Nat :=
  match args with
  | some a => str "CMD " ++ verb ++ [32] ++ a
  | none => str "CMD " ++ verb

/-- one `trx_ctrl_cmd` call whose text is not cut off -/
theorem ctrlCmd_emit (t : Trx) (e : Emitted) (args : Option (List Nat)) (hst : t.state < 4)
    (htext : cmdText e.verb args = e.text) (hfit : e.text.length + 2 ≤ cmdSize) (hnz : ∀ c ∈ e.text, c ≠ 0) :
    ∃ t', ctrlCmd t e.critical e.verb args = .ok (0, t') ∧ Queued t t' [e] := by
  have hctext : ctrlCmdText e.verb args = .ok e.text := by
    rw [← htext] at hfit ⊢
    unfold ctrlCmdText
    cases args with
    | none =>
      simp only [cmdText, snprintfStored] at hfit ⊢
      rw [List.take_of_length_le (by omega)]
    | some a =>
      simp only [cmdText, List.length_append] at hfit
      simp only [cmdText, snprintfStored]
      rw [if_neg (by simp only [List.length_append]; omega)]
      rw [List.take_of_length_le (by simp only [List.length_append]; omega),
        List.take_of_length_le (by simp only [List.length_append]; omega)]
  unfold ctrlCmd
  simp only [hctext, bind, Except.bind, pure, Except.pure]
  by_cases hq : t.queue = []
  · have hp : (!t.queue.isEmpty) = false := by simp [hq]
    simp only [hp, Bool.not_false, if_true]
    obtain ⟨t1, h1, sd, hs1, hcons⟩ := ctrlSend_ok { t with queue := t.queue ++ [e.msg] } hst
    rw [show (⟨e.text, e.critical, e.verb.length⟩ : CtrlMsg) = e.msg from rfl, h1]
    refine ⟨t1, rfl, sd.queue, sd.elog, hs1, ?_⟩
    rw [hcons, if_pos hq]
    simp only [hq, List.nil_append, List.take_succ_cons, List.take_zero, List.map_cons, List.map_nil]
    rw [cmdStrAt_zero _ hnz]; rfl
  · have hp : (!t.queue.isEmpty) = true := by simp [hq]
    simp only [hp, Bool.not_true, Bool.false_eq_true, if_false]
    exact ⟨_, rfl, rfl, rfl, hst, by rw [if_neg hq, List.append_nil]⟩

/-- … for a member of `emitSpec`: it fits and has no NUL -/
theorem ctrlCmd_spec (t : Trx) {c : PhyCmd} (hv : ValidCmd c) (e : Emitted) (he : e ∈ emitSpec c)
    (args : Option (List Nat)) (htext : cmdText e.verb args = e.text) (hst : t.state < 4) :
    ∃ t', ctrlCmd t e.critical e.verb args = .ok (0, t') ∧ Queued t t' [e] := by
  obtain ⟨_, hup, htok, _⟩ := emitSpec_wf c hv e he
  exact ctrlCmd_emit t e args hst htext (by rw [show cmdSize = 1024 by decide]; omega) (e.text_nz hup htok)

/-- **What `trx_if_handle_phyif_cmd` does** for a command the L1 side may issue, whatever is pending: it returns 0
and queues the commands of `emitSpec` -/
theorem cPhyCmd_emits (t : Trx) (c : PhyCmd) (hst : t.state < 4) (hv : ValidCmd c) :
    ∃ t', cPhyCmd t c = .ok (0, t') ∧ Queued t t' (emitSpec c) := by
  cases c with
  | reset =>
    obtain ⟨t1, h1, q1⟩ := ctrlCmd_spec t hv ⟨1, str "POWEROFF", []⟩ (by simp [emitSpec]) none
      (by simp [cmdText, Emitted.text]) hst
    obtain ⟨t2, h2, q2⟩ := ctrlCmd_spec t1 hv ⟨1, str "ECHO", []⟩ (by simp [emitSpec]) none
      (by simp [cmdText, Emitted.text]) q1.state
    refine ⟨t2, ?_, q1.cons q2⟩
    simp only [cPhyCmd, h1, h2, bind, Except.bind, pure, Except.pure]; rfl
  | poweron =>
    exact ctrlCmd_spec t hv ⟨1, str "POWERON", []⟩ (List.mem_singleton_self _) none (by simp [cmdText, Emitted.text]) hst
  | poweroff =>
    exact ctrlCmd_spec t hv ⟨1, str "POWEROFF", []⟩ (List.mem_singleton_self _) none (by simp [cmdText, Emitted.text]) hst
  | measure a =>
    simp only [cPhyCmd]
    rw [if_neg hv]
    exact ctrlCmd_spec t hv ⟨1, str "MEASURE", [_]⟩ (List.mem_singleton_self _) (some _) (by simp [cmdText, Emitted.text]) hst
  | setfreqH0 a =>
    have htx := (pairOf_facts a hv).2
    obtain ⟨t1, h1, q1⟩ := ctrlCmd_spec t hv ⟨1, str "RXTUNE", [fmtU (arfcn2freq10 a false * 100)]⟩ (by simp [emitSpec])
      (some (fmtU (arfcn2freq10 a false * 100))) (by simp [cmdText, Emitted.text]) hst
    obtain ⟨t2, h2, q2⟩ := ctrlCmd_spec t1 hv ⟨1, str "TXTUNE", [fmtU (arfcn2freq10 a true * 100)]⟩ (by simp [emitSpec])
      (some (fmtU (arfcn2freq10 a true * 100))) (by simp [cmdText, Emitted.text]) q1.state
    refine ⟨t2, ?_, q1.cons q2⟩
    change ctrlCmd t 1 (str "RXTUNE") _ = _ at h1
    simp only [cPhyCmd, bind, Except.bind, pure, Except.pure]
    rw [if_neg hv, h1]
    simp only []
    rw [if_neg (by decide), if_neg htx]
    exact h2
  | setfreqH1 hsn maio n ma =>
    obtain ⟨hn, hne, hval, hlen⟩ := hv
    subst hn
    have hbuf := setfhMaBuf_eq ma hne hval (by obtain ⟨k, _, _⟩ := maText_len ma hval; omega)
    rw [show trxcBufSize - 24 - 1 = 999 by decide, if_pos hlen] at hbuf
    simp only [cPhyCmd, hbuf, bind, Except.bind]
    exact ctrlCmd_spec t (c := .setfreqH1 hsn maio ma.length ma) ⟨rfl, hne, hval, hlen⟩ ⟨1, str "SETFH", _⟩
      (List.mem_singleton_self _) (some _)
      (by simp only [cmdText, Emitted.text, List.flatMap_cons, ← maText_dropLast ma hne]; simp) hst
  | setslot tn pchan =>
    have hg : chanTypes[u8 pchan]? = some (chanTypes[u8 pchan]'hv) := List.getElem?_eq_getElem hv
    simp only [cPhyCmd, emitSpec, hg]
    exact ctrlCmd_spec t hv ⟨1, str "SETSLOT", [_, _]⟩ (by simp [emitSpec, hg]) (some _) (by simp [cmdText, Emitted.text]) hst
  | setta ta =>
    exact ctrlCmd_spec t hv ⟨0, str "SETTA", [_]⟩ (List.mem_singleton_self _) (some _) (by simp [cmdText, Emitted.text]) hst
  | raw ty => exact absurd hv (by simp [ValidCmd])

/-! ### `trx_ctrl_read_cb` -/

/-- a C string can be taken at every offset up to the terminator the callback wrote -/
theorem cstrAt_ok (data : List Nat) (cap off : Nat) (ho : off ≤ data.length) (hc : data.length < cap) :
    ∃ s, cstrAt (data ++ [0]) cap off = .ok s := by
  simp only [cstrAt]
  rw [if_neg (by omega)]
  have h1 : ((data ++ [0]).drop off).contains 0 = true := by
    rw [List.drop_append_of_le_length ho]
    simp
  simp only [h1, if_true]
  exact ⟨_, rfl⟩

/-- `trx_if_measure_rsp_cb` touches the error-log flag (never lowering it) and the result only -/
theorem measureRspCb_data (t : Trx) (r : List Nat) :
    (measureRspCb t r).queue = t.queue ∧ (measureRspCb t r).state = t.state ∧
    (t.elog = true → (measureRspCb t r).elog = true) := by
  simp only [measureRspCb]
  split
  · exact ⟨rfl, rfl, fun _ => rfl⟩
  · split
    · exact ⟨rfl, rfl, fun _ => rfl⟩
    · exact ⟨rfl, rfl, fun h => h⟩

theorem rspDispatch_ok (t : Trx) (c4 data : List Nat) (hst : t.state < 4) (hps : t.prevState < 4)
    (hlen : data.length < trxcBufSize) :
    ∃ t', rspDispatch t c4 (data ++ [0]) data.length = .ok t' ∧ t'.state < 4 ∧ (t.elog = true → t'.elog = true) := by
  unfold rspDispatch
  split
  · obtain ⟨t', h, sd, _, hs⟩ := fsmChg_ok { t with poweredUp := true } stActive hst (by decide)
    exact ⟨t', h, hs, fun e => by rw [sd.elog]; exact e⟩
  · split
    · obtain ⟨t', h, sd, _, hs⟩ := fsmChg_ok { t with poweredUp := false } stIdle hst (by decide)
      exact ⟨t', h, hs, fun e => by rw [sd.elog]; exact e⟩
    · split
      · obtain ⟨r, hr⟩ := cstrAt_ok data trxcBufSize (min data.length 14) (Nat.min_le_left _ _) hlen
        simp only [hr, bind, Except.bind, pure, Except.pure]
        obtain ⟨_, m2, m3⟩ := measureRspCb_data t r
        exact ⟨_, rfl, by rw [m2]; exact hst, m3⟩
      · split
        · obtain ⟨t', h, sd, _, hs⟩ := fsmChg_ok t stIdle hst (by decide)
          exact ⟨t', h, hs, fun e => by rw [sd.elog]; exact e⟩
        · obtain ⟨t', h, sd, _, hs⟩ := fsmChg_ok t t.prevState hst hps
          exact ⟨t', h, hs, fun e => by rw [sd.elog]; exact e⟩

/-- what is left of `trx_ctrl_read_cb` once the status `s` has been read: log an error status, terminate on it for
a critical command, otherwise run the state machine, drop the command and send the next one -/
def statusOutcome (t : Trx) (tcm : CtrlMsg) (q : List CtrlMsg) (mem : List Nat) (readLen : Nat) (s : Int) :
    Except Fault (Int × Trx) :=
  let t := if s ≠ 0 then { t with elog := true } else t
  if s ≠ 0 ∧ tcm.critical ≠ 0 then .ok (rspError t)
  else do
    let t ← rspDispatch t (cmdStrAt tcm 4) mem readLen
    let t ← ctrlSend { t with queue := q }
    pure (0, t)

/-- the reply is accepted: the pending command leaves the queue (and the next one is sent) -/
theorem statusOutcome_accept (t : Trx) (tcm : CtrlMsg) (q : List CtrlMsg) (d : List Nat) (s : Int)
    (hst : t.state < 4) (hps : t.prevState < 4) (hlen : d.length < trxcBufSize)
    (hacc : ¬ (s ≠ 0 ∧ tcm.critical ≠ 0)) :
    ∃ t', statusOutcome t tcm q (d ++ [0]) d.length s = .ok (0, t') ∧ t'.queue = q ∧ t'.state < 4 ∧
      (s ≠ 0 → t'.elog = true) := by
  simp only [statusOutcome]
  rw [if_neg hacc]
  generalize ht2 : (if s ≠ 0 then { t with elog := true } else t : Trx) = t2
  have hst2 : t2.state < 4 := by rw [← ht2]; split <;> exact hst
  have hps2 : t2.prevState < 4 := by rw [← ht2]; split <;> exact hps
  have hel2 : s ≠ 0 → t2.elog = true := by intro h; rw [← ht2, if_pos h]
  obtain ⟨t3, h3, hs3, he3⟩ := rspDispatch_ok t2 (cmdStrAt tcm 4) d hst2 hps2 hlen
  obtain ⟨t4, h4, sd, hs4, _⟩ := ctrlSend_ok { t3 with queue := q } hs3
  simp only [bind, Except.bind, pure, Except.pure, h3, h4]
  exact ⟨t4, rfl, sd.queue, hs4, fun h => by rw [sd.elog]; exact he3 (hel2 h)⟩

/-- the reply carries an error status for a critical command: the interface is terminated -/
theorem statusOutcome_reject (t : Trx) (tcm : CtrlMsg) (q : List CtrlMsg) (mem : List Nat) (readLen : Nat) (s : Int)
    (hrej : s ≠ 0 ∧ tcm.critical ≠ 0) :
    statusOutcome t tcm q mem readLen s = .ok (-eIO, { t with elog := true, ev := t.ev ++ [Event.term termError] }) := by
  simp only [statusOutcome]
  rw [if_pos hrej, if_pos hrej.1]
  rfl

/-- from the status check on, nothing can fault -/
theorem rspStatus_ok (t : Trx) (tcm : CtrlMsg) (rest : List CtrlMsg) (data s4 : List Nat) (p : Option Nat)
    (hst : t.state < 4) (hps : t.prevState < 4) (hlen : data.length < trxcBufSize) :
    ∃ r, rspStatus t tcm rest (data ++ [0]) s4 p data.length = .ok r := by
  cases p with
  | none => exact ⟨_, rfl⟩
  | some i =>
    simp only [rspStatus]
    cases sscanfD (s4.drop (i + 1)) with
    | none => exact ⟨_, rfl⟩
    | some s =>
      by_cases hc : s ≠ 0 ∧ tcm.critical ≠ 0
      · exact ⟨_, statusOutcome_reject t tcm rest _ _ s hc⟩
      · obtain ⟨t', h, _⟩ := statusOutcome_accept t tcm rest data s hst hps hlen hc
        exact ⟨_, h⟩

theorem takeWhile_ne_zero_lt (l : List Nat) :
    ((l ++ [0]).takeWhile (fun x => decide (x ≠ 0))).length ≤ l.length := by
  induction l with
  | nil => simp
  | cons x xs ih =>
    simp only [List.cons_append, List.takeWhile_cons]
    split
    · simp only [List.length_cons]; omega
    · simp

/-! ### replies of the form the transceiver produces -/

/-- `RSP <verb> <status><rest><results>\0` for the command `CMD <verb><rest>` -/
def replyTo (verb rest results : List Nat) (status : Int) : List Nat :=
  str "RSP " ++ verb ++ [32] ++ fmtD status ++ rest ++ results ++ [0]

theorem replyTo_length (verb rest results : List Nat) (status : Int) :
    (replyTo verb rest results status).length = verb.length + (fmtD status).length + rest.length + results.length + 6 := by
  have h4 : (str "RSP ").length = 4 := by decide
  simp only [replyTo, List.length_append, List.length_singleton, h4]
  omega

structure ReplyHyp (verb rest results : List Nat) : Prop where
  hverb : ∀ c ∈ verb, c ≠ 32 ∧ c ≠ 0
  hrest : ∀ c ∈ rest, c ≠ 0
  hresults : ∀ c ∈ results, c ≠ 0
  hnodigit : NoDigitHead (rest ++ results)

/-- `trx_ctrl_read_cb` on `RSP <v> <tail>\0` with a command pending: signature, `strchr` and `strncmp` are settled
(the verb of the reply must be a prefix of what follows `CMD ` in the pending command); what is left is the status -/
theorem cReadCb_rsp (t : Trx) (tcm : CtrlMsg) (q : List CtrlMsg) (v tail : List Nat)
    (hq : t.queue = tcm :: q) (hv : ∀ c ∈ v, c ≠ 32 ∧ c ≠ 0) (htail : ∀ c ∈ tail, c ≠ 0)
    (hlen : (str "RSP " ++ v ++ [32] ++ tail ++ [0]).length ≤ trxcBufSize - 1) :
    cReadCb t (str "RSP " ++ v ++ [32] ++ tail ++ [0]) =
      if v = (cmdStrAt tcm 4).take v.length then
        rspStatus { t with ev := t.ev ++ [Event.timerDel] } tcm q (str "RSP " ++ v ++ [32] ++ tail ++ [0] ++ [0])
          (v ++ [32] ++ tail) (some v.length) (str "RSP " ++ v ++ [32] ++ tail ++ [0]).length
      else .ok (rspError { t with ev := t.ev ++ [Event.timerDel], elog := true }) := by
  have hcap : trxcBufSize = 1024 := by decide
  generalize hbody : v ++ [32] ++ tail = body
  generalize hdd : str "RSP " ++ v ++ [32] ++ tail ++ [0] = d at hlen ⊢
  have hd : d = str "RSP " ++ body ++ [0] := by rw [← hdd, ← hbody]; simp
  have hbnz : ∀ c ∈ body, c ≠ 0 := by
    intro c hc
    rw [← hbody] at hc
    simp only [List.mem_append, List.mem_singleton] at hc
    rcases hc with (hc | hc) | hc
    · exact (hv c hc).2
    · omega
    · exact htail c hc
  have hrnz : ∀ c ∈ str "RSP " ++ body, c ≠ 0 := by
    intro c hc
    rcases List.mem_append.mp hc with hc | hc
    · exact str_nz "RSP " (by decide) c hc
    · exact hbnz c hc
  have htake : d.take (trxcBufSize - 1) = d := List.take_of_length_le hlen
  have hl0 : d.length ≠ 0 := by rw [hd]; simp
  have hs0 : cstrAt (d ++ [0]) trxcBufSize 0 = .ok (str "RSP " ++ body) := by
    have := cstrAt_mid [] (str "RSP " ++ body) [0] trxcBufSize hrnz (by rw [hcap]; decide)
    simpa [hd] using this
  have hs4 : cstrAt (d ++ [0]) trxcBufSize 4 = .ok body := by
    have := cstrAt_mid (str "RSP ") body [0] trxcBufSize hbnz (by rw [hcap]; decide)
    rw [show (str "RSP ").length = 4 by decide] at this
    simpa [hd] using this
  have hsig : strncmpEq (str "RSP " ++ body) (str "RSP ") 4 = true := by
    simp only [strncmpEq, beq_iff_eq]
    rw [List.take_left' (by decide)]
    rfl
  have hidx : strchrIdx body 32 = some v.length := by
    have hi : body.idxOf 32 = v.length := by
      rw [← hbody, List.append_assoc, List.idxOf_append, if_neg (fun hm => (hv 32 hm).1 rfl)]
      simp
    simp only [strchrIdx, hi]
    rw [if_pos (by rw [← hbody]; simp)]
  have hcmp : strncmpEq body (cmdStrAt tcm 4) v.length = (v == (cmdStrAt tcm 4).take v.length) := by
    simp only [strncmpEq]
    rw [← hbody, List.append_assoc, List.take_left' rfl]
  unfold cReadCb
  simp only [bind, Except.bind, pure, Except.pure, htake]
  rw [if_neg hl0, hs0]
  by_cases hp : v = (cmdStrAt tcm 4).take v.length
  · rw [if_pos hp]
    simp only [hsig, Bool.not_true, Bool.false_eq_true, if_false, hs4, hidx, rspLenOf, hq, hcmp, beq_iff_eq.mpr hp]
  · rw [if_neg hp]
    simp only [hsig, Bool.not_true, Bool.false_eq_true, if_false, hs4, hidx, rspLenOf, hq, hcmp, beq_eq_false_iff_ne.mpr hp,
      Bool.not_false, if_true]

/-- reading the reply to the pending command: everything up to the status conversion -/
theorem cReadCb_reply (t : Trx) (tcm : CtrlMsg) (q : List CtrlMsg) (verb rest results : List Nat) (s : Int)
    (hq : t.queue = tcm :: q) (hcmd : tcm.cmd = str "CMD " ++ verb ++ rest)
    (hh : ReplyHyp verb rest results) (hs1 : -2147483648 ≤ s) (hs2 : s ≤ 2147483647)
    (hlen : (replyTo verb rest results s).length ≤ trxcBufSize - 1) :
    cReadCb t (replyTo verb rest results s) = statusOutcome { t with ev := t.ev ++ [Event.timerDel] } tcm q
      (replyTo verb rest results s ++ [0]) (replyTo verb rest results s).length s := by
  have hd : replyTo verb rest results s = str "RSP " ++ verb ++ [32] ++ (fmtD s ++ rest ++ results) ++ [0] := by
    simp only [replyTo, List.append_assoc]
  have htail : ∀ c ∈ fmtD s ++ rest ++ results, c ≠ 0 := by
    intro c hc
    simp only [List.mem_append] at hc
    rcases hc with (hc | hc) | hc
    · exact fmtD_nz s c hc
    · exact hh.hrest c hc
    · exact hh.hresults c hc
  have hc4 : cmdStrAt tcm 4 = verb ++ rest := cmdStrAt_four tcm _ (by rw [hcmd, List.append_assoc]) (fun c hc => by
    rcases List.mem_append.mp hc with hc | hc
    · exact (hh.hverb c hc).2
    · exact hh.hrest c hc)
  have hscan : sscanfD ((verb ++ [32] ++ (fmtD s ++ rest ++ results)).drop (verb.length + 1)) = some s := by
    rw [List.drop_left' (by simp), List.append_assoc]
    exact sscanfD_fmtD s _ hs1 hs2 hh.hnodigit
  rw [hd] at hlen ⊢
  rw [cReadCb_rsp t tcm q verb _ hq hh.hverb htail hlen, if_pos (by rw [hc4, List.take_left' rfl])]
  simp only [rspStatus, hscan]
  rfl

theorem str_measure : str "MEASURE" = [77, 69, 65, 83, 85, 82, 69] := by decide

theorem startsWith_append (v rest : List Nat) : startsWith (v ++ rest) v = true := by
  simp [startsWith, strncmpEq]

/-- the dispatch for a pending `CMD MEASURE …` answered `RSP MEASURE 0 <khz> <res>`: `buf + 14` is where `<khz>`
starts, so `<khz> <res>` is what `trx_if_measure_rsp_cb` scans -/
theorem rspDispatch_measure (t : Trx) (rest khz res : List Nat) (hk : ∀ c ∈ khz, c ≠ 0) (hr : ∀ c ∈ res, c ≠ 0) :
    rspDispatch t (str "MEASURE" ++ rest) (replyTo (str "MEASURE") (32 :: khz) (32 :: res) 0 ++ [0])
        (replyTo (str "MEASURE") (32 :: khz) (32 :: res) 0).length
      = .ok (measureRspCb t (khz ++ 32 :: res)) := by
  generalize hpre : str "RSP " ++ str "MEASURE" ++ [32] ++ fmtD 0 ++ [32] = pre
  have hpl : pre.length = 14 := by rw [← hpre]; decide
  have hd : replyTo (str "MEASURE") (32 :: khz) (32 :: res) 0 = pre ++ (khz ++ 32 :: res) ++ [0] := by
    simp only [replyTo, ← hpre, List.append_assoc, List.cons_append, List.nil_append]
  rw [hd]
  have hmin : min (pre ++ (khz ++ 32 :: res) ++ [0]).length 14 = pre.length := by
    simp only [List.length_append, hpl]; omega
  have hnz : ∀ c ∈ khz ++ 32 :: res, c ≠ 0 := by
    intro c hc
    rcases List.mem_append.mp hc with hc | hc
    · exact hk c hc
    · rcases List.mem_cons.mp hc with rfl | hc
      · decide
      · exact hr c hc
  have hs : cstrAt (pre ++ (khz ++ 32 :: res) ++ [0] ++ [0]) trxcBufSize pre.length = .ok (khz ++ 32 :: res) := by
    rw [List.append_assoc _ [0] [0]]
    exact cstrAt_mid pre (khz ++ 32 :: res) [0] trxcBufSize hnz (by rw [hpl]; decide)
  -- the first letters differ
  have e1 : startsWith (str "MEASURE" ++ rest) (str "POWERON") = false := rfl
  have e2 : startsWith (str "MEASURE" ++ rest) (str "POWEROFF") = false := rfl
  simp only [rspDispatch, e1, e2, startsWith_append, Bool.false_eq_true, if_false, if_true, hmin, hs, bind, Except.bind,
    pure, Except.pure]

/-- `trx_if_measure_rsp_cb` on `<kHz> <dBm>` as printed for a canonical ARFCN: `sscanf("%u %d")`, `/ 100`,
`gsm_freq102arfcn` give the ARFCN back -/
theorem measureRspCb_canon (t : Trx) (a : Nat) (dbm : Int) (ha : CanonArfcn a)
    (h1 : -2147483648 ≤ dbm) (h2 : dbm ≤ 2147483647) :
    measureRspCb t (fmtU (arfcn2freq10 a false * 100) ++ 32 :: fmtD dbm) = { t with rsp := some (a, dbm) } := by
  have hlt := arfcn2freq10_lt a false
  have hscan := sscanfUD_fmt (arfcn2freq10 a false * 100) dbm [] (by omega) h1 h2 noDigitHead_nil
  rw [List.append_nil, List.append_assoc] at hscan
  have hf16 : u16 (arfcn2freq10 a false * 100 / 100) = arfcn2freq10 a false := by
    rw [Nat.mul_div_cancel _ (by decide)]; exact Nat.mod_eq_of_lt hlt
  have ha16 : a ≠ 65535 := by unfold CanonArfcn at ha; omega
  simp only [measureRspCb, List.singleton_append ▸ hscan, hf16, ha.inRanges.roundtrip]
  rw [if_neg ha16]

/-! ### helpers for concrete examples -/

def t0 : Trx := { state := stIdle, prevState := stOffline }
def tWait (q : List CtrlMsg) : Trx := { queue := q, state := stRspWait, prevState := stIdle }
/-- observations of a result: `none` = fault -/
def sentLens (r : Except Fault (Int × Trx)) : Option (Int × List Nat) :=
  match r with | .ok (rc, t) => some (rc, t.sent.map List.length) | .error _ => none
def outcome (r : Except Fault (Int × Trx)) : Option (Int × Nat × Bool × Option (Nat × Int)) :=
  match r with | .ok (rc, t) => some (rc, t.queue.length, t.elog, t.rsp) | .error _ => none
def texts (r : Except Fault (Int × Trx)) : Option (Int × List (List Nat) × List (List Nat)) :=
  match r with | .ok (rc, t) => some (rc, t.queue.map (·.cmd), t.sent) | .error _ => none
def isCrash (r : Except Fault (Int × Trx)) : Bool :=
  match r with | .error .crash => true | _ => false

/-- what `sentLens` shows of SETFREQ_H1 in the idle state: the one datagram with its NUL, or `-ENOSPC` -/
theorem sentLens_setfh (hsn maio : Nat) (ma : List Nat) (hne : ma ≠ []) (hval : ∀ a ∈ ma, ValidArfcn a)
    (hn : ma.length < 4294967296) :
    sentLens (cPhyCmd t0 (.setfreqH1 hsn maio ma.length ma)) =
      if (maText ma).length ≤ 999 then
        some (0, [12 + (fmtU (u8 hsn)).length + (fmtU (u8 maio)).length + (maText ma).length])
      else some (-28, []) := by
  split
  · rename_i hfit
    obtain ⟨t', h, q⟩ := cPhyCmd_emits t0 (.setfreqH1 hsn maio ma.length ma) (by decide) ⟨rfl, hne, hval, hfit⟩
    rw [h, sentLens, q.sent]
    simp only [t0, if_true, emitSpec, List.take_succ_cons, List.take_zero, List.nil_append, List.map_cons, List.map_nil,
      List.length_append, List.length_singleton, setfh_text_len hsn maio ma]
    congr 3; omega
  · rename_i hbig
    have hbuf := setfhMaBuf_eq ma hne hval hn
    rw [show trxcBufSize - 24 - 1 = 999 by decide, if_neg hbig] at hbuf
    simp only [cPhyCmd, hbuf, bind, Except.bind, pure, Except.pure]
    rfl

instance : DecidablePred ValidCmd := fun c => by
  cases c <;> simp only [ValidCmd] <;> infer_instance


end OsmoVerif.TrxconIf
