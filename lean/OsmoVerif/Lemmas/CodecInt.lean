/- Lemmas on `int.from_bytes` / `int.to_bytes` of the codec model (C16). -/
import OsmoVerif.Model.Codec
namespace OsmoVerif.Codec

theorem natToLE_length (n x : Nat) : (natToLE n x).length = n := by
  induction n generalizing x with
  | zero => rfl
  | succ n ih => rw [natToLE, List.length_cons, ih]

theorem isBytes_cons (b : Nat) (bs : List Nat) : isBytes (b :: bs) = true ↔ b < 256 ∧ isBytes bs = true := by
  simp [isBytes]

theorem natToLE_isBytes (n x : Nat) : isBytes (natToLE n x) = true := by
  induction n generalizing x with
  | zero => rfl
  | succ n ih => rw [natToLE, isBytes_cons]; exact ⟨Nat.mod_lt _ (by decide), ih _⟩

theorem leToNat_natToLE (n x : Nat) : leToNat (natToLE n x) = x % 256 ^ n := by
  induction n generalizing x with
  | zero => rw [Nat.pow_zero, Nat.mod_one]; rfl
  | succ n ih => rw [natToLE, leToNat, ih, Nat.pow_succ, Nat.mul_comm (256 ^ n) 256, Nat.mod_mul]

theorem leToNat_lt (data : List Nat) (h : isBytes data = true) : leToNat data < 256 ^ data.length := by
  induction data with
  | nil => exact Nat.one_pos
  | cons b bs ih =>
    rw [isBytes_cons] at h
    have := ih h.2
    rw [leToNat, List.length_cons, Nat.pow_succ]
    omega

theorem natToLE_leToNat (data : List Nat) (h : isBytes data = true) : natToLE data.length (leToNat data) = data := by
  induction data with
  | nil => rfl
  | cons b bs ih =>
    rw [isBytes_cons] at h
    rw [leToNat, List.length_cons, natToLE, Nat.add_mul_mod_self_left, Nat.mod_eq_of_lt h.1,
      Nat.add_mul_div_left _ _ (by decide), Nat.div_eq_of_lt h.1, Nat.zero_add, ih h.2]

theorem isBytes_reverse (l : List Nat) : isBytes l.reverse = isBytes l := by
  simp [isBytes, List.all_reverse]

theorem isBytes_append (a b : List Nat) : isBytes (a ++ b) = (isBytes a && isBytes b) := by
  simp [isBytes, List.all_append]

theorem isBytes_take (a : List Nat) (n : Nat) (h : isBytes a = true) : isBytes (a.take n) = true := by
  simp only [isBytes, List.all_eq_true, decide_eq_true_eq] at h ⊢
  exact fun x hx => h x (List.mem_of_mem_take hx)

theorem isBytes_drop (a : List Nat) (n : Nat) (h : isBytes a = true) : isBytes (a.drop n) = true := by
  simp only [isBytes, List.all_eq_true, decide_eq_true_eq] at h ⊢
  exact fun x hx => h x (List.mem_of_mem_drop hx)

/-- the unsigned value read by `int.from_bytes` in either byte order -/
def uOf (bo : BO) (data : List Nat) : Nat :=
  match bo with
  | .big => leToNat data.reverse
  | .little => leToNat data

theorem uOf_lt (bo : BO) (data : List Nat) (h : isBytes data = true) : uOf bo data < 256 ^ data.length := by
  cases bo
  · have := leToNat_lt data.reverse (by rw [isBytes_reverse]; exact h)
    simpa [uOf] using this
  · exact leToNat_lt data h

/-- octets of `x mod 256^n` in the given byte order -/
def bytesOf (n : Nat) (bo : BO) (x : Nat) : List Nat :=
  match bo with
  | .big => (natToLE n x).reverse
  | .little => natToLE n x

theorem bytesOf_length (n bo x) : (bytesOf n bo x).length = n := by
  cases bo <;> simp [bytesOf, natToLE_length]

theorem bytesOf_isBytes (n bo x) : isBytes (bytesOf n bo x) = true := by
  cases bo <;> simp [bytesOf, isBytes_reverse, natToLE_isBytes]

theorem uOf_bytesOf (n bo x) : uOf bo (bytesOf n bo x) = x % 256 ^ n := by
  cases bo <;> simp [uOf, bytesOf, leToNat_natToLE]

theorem bytesOf_uOf (bo : BO) (data : List Nat) (h : isBytes data = true) :
    bytesOf data.length bo (uOf bo data) = data := by
  cases bo
  · have := natToLE_leToNat data.reverse (by rw [isBytes_reverse]; exact h)
    simp only [List.length_reverse] at this
    simp [uOf, bytesOf, this]
  · simpa [uOf, bytesOf] using natToLE_leToNat data h

theorem intFromBytes_eq (bo : BO) (sign : Bool) (data : List Nat) :
    intFromBytes bo sign data =
      if sign = true ∧ 2 * uOf bo data ≥ 256 ^ data.length ∧ data.length > 0
      then (uOf bo data : Int) - (256 ^ data.length : Nat) else (uOf bo data : Int) := by
  cases bo <;> rfl

theorem intToBytes_eq (n : Nat) (bo : BO) (sign : Bool) (x : Int) :
    intToBytes n bo sign x =
      if fitsInt n sign x = true
      then .ok (bytesOf n bo (x % ((256 ^ n : Nat) : Int)).toNat) else .error .overflow := by
  cases bo <;> rfl

theorem intToBytes_of_fits (n bo sign x) (h : fitsInt n sign x = true) :
    intToBytes n bo sign x = .ok (bytesOf n bo (x % ((256 ^ n : Nat) : Int)).toNat) := by
  rw [intToBytes_eq, if_pos h]

theorem intToBytes_of_not_fits (n bo sign x) (h : ¬ fitsInt n sign x = true) :
    intToBytes n bo sign x = .error .overflow := by
  rw [intToBytes_eq, if_neg h]

theorem fitsInt_unsigned (n x) : fitsInt n false x = true ↔ (0 ≤ x ∧ x < ((256 ^ n : Nat) : Int)) := by
  simp [fitsInt]

theorem fitsInt_signed (n x) (hn : n ≠ 0) : fitsInt n true x = true ↔
    (-((256 ^ n : Nat) : Int) ≤ 2 * x ∧ 2 * x < ((256 ^ n : Nat) : Int)) := by
  simp [fitsInt, hn]

theorem fitsInt_signed_zero (x) : fitsInt 0 true x = true ↔ (x = 0 ∨ x = -1) := by
  simp [fitsInt]

theorem intToBytes_ok (n bo sign x bs) (h : intToBytes n bo sign x = .ok bs) :
    fitsInt n sign x = true ∧ bs = bytesOf n bo (x % ((256 ^ n : Nat) : Int)).toNat := by
  by_cases hf : fitsInt n sign x = true
  · rw [intToBytes_of_fits _ _ _ _ hf] at h
    exact ⟨hf, by cases h; rfl⟩
  · rw [intToBytes_of_not_fits _ _ _ _ hf] at h
    cases h

theorem emod_of_range (x M : Int) (h1 : -M ≤ x) (h2 : x < M) :
    (x < 0 ∧ x % M = x + M) ∨ (0 ≤ x ∧ x % M = x) := by
  by_cases hx : x < 0
  · exact .inl ⟨hx, by rw [← Int.add_emod_right, Int.emod_eq_of_lt (by omega) (by omega)]⟩
  · exact .inr ⟨by omega, Int.emod_eq_of_lt (by omega) h2⟩

/-- `hn0` excludes the CPython corner `n = 0`, signed: there `-1` also converts to `b''` and reads back as `0`. -/
theorem intFromBytes_intToBytes (n bo sign x bs) (h : intToBytes n bo sign x = .ok bs)
    (hn0 : sign = true → n ≠ 0) :
    intFromBytes bo sign bs = x ∧ bs.length = n ∧ isBytes bs = true := by
  obtain ⟨hf, rfl⟩ := intToBytes_ok _ _ _ _ _ h
  refine ⟨?_, bytesOf_length _ _ _, bytesOf_isBytes _ _ _⟩
  rw [intFromBytes_eq, uOf_bytesOf, bytesOf_length]
  have hM : 0 < 256 ^ n := Nat.pow_pos (by decide)
  generalize hMe : 256 ^ n = M at *
  -- `x mod M` as a natural number `r < M`
  have hMi : (0 : Int) < M := Int.natCast_pos.2 hM
  obtain ⟨r, hr⟩ : ∃ r : Nat, x % (M : Int) = r :=
    ⟨_, (Int.toNat_of_nonneg (Int.emod_nonneg _ (Int.ne_of_gt hMi))).symm⟩
  have hlt : (r : Int) < M := hr ▸ Int.emod_lt_of_pos x hMi
  rw [hr, Int.toNat_natCast, Nat.mod_eq_of_lt (Int.ofNat_lt.1 hlt)]
  cases sign
  · rw [fitsInt_unsigned, hMe] at hf
    rw [Int.emod_eq_of_lt hf.1 hf.2] at hr
    rw [if_neg (by simp), hr]
  · rw [fitsInt_signed _ _ (hn0 rfl), hMe] at hf
    have hn := hn0 rfl
    have := emod_of_range x M (by omega) (by omega)
    rw [hr] at this
    by_cases hc : 2 * r ≥ M ∧ n > 0
    · rw [if_pos ⟨rfl, hc⟩]; omega
    · rw [if_neg (fun h => hc h.2)]; omega

theorem intToBytes_intFromBytes (bo sign) (data : List Nat) (h : isBytes data = true) :
    intToBytes data.length bo sign (intFromBytes bo sign data) = .ok data := by
  have hlt := uOf_lt bo data h
  have hb := bytesOf_uOf bo data h
  rw [intFromBytes_eq]
  have hone : data.length = 0 → 256 ^ data.length = 1 := by intro h0; rw [h0]
  generalize hM : 256 ^ data.length = M at *
  generalize uOf bo data = u at *
  -- both branches yield an `x ≡ u (mod M)` that fits
  have key : ∀ x : Int, fitsInt data.length sign x = true → x % (M : Int) = u →
      intToBytes data.length bo sign x = .ok data := by
    intro x hf he; rw [intToBytes_of_fits _ _ _ _ hf, hM, he, Int.toNat_natCast, hb]
  split
  · next hc =>
    obtain ⟨rfl, h2, hl⟩ := hc
    apply key
    · rw [fitsInt_signed _ _ (by omega), hM]; omega
    · rw [← Int.add_emod_right, Int.sub_add_cancel]; exact Int.emod_eq_of_lt (by omega) (by omega)
  · next hc =>
    apply key _ _ (Int.emod_eq_of_lt (by omega) (by omega))
    cases sign
    · rw [fitsInt_unsigned, hM]; omega
    · by_cases hl0 : data.length = 0
      · rw [hl0, fitsInt_signed_zero]; have := hone hl0; omega
      · rw [fitsInt_signed _ _ hl0, hM]; simp only [true_and, not_and] at hc; omega

theorem intFromBytes_fits (bo sign) (data : List Nat) (h : isBytes data = true) :
    fitsInt data.length sign (intFromBytes bo sign data) = true :=
  (intToBytes_ok _ _ _ _ _ (intToBytes_intFromBytes bo sign data h)).1

end OsmoVerif.Codec
