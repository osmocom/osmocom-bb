/-
Lemmas about `Model/Osmocon.lean`: the chunking of `handle_sercomm_write`, the bound of `hdlc_send_to_phone`,
the window arithmetic and the feeding of the receiver in the read loop.
-/
import OsmoVerif.Model.Osmocon
import OsmoVerif.Lemmas.SercommMsgb

namespace OsmoVerif.Osmocon
open OsmoVerif.Sercomm OsmoVerif.Gen.Sercomm OsmoVerif.Gen.Osmocon

/-- the fill loop of `handle_sercomm_write` is `pullN` -/
theorem fill_pullN : ∀ (n : Nat) (t : Tx), (fill n t).1 = (pullN n t).1 ∧ (fill n t).2.1 = (pullN n t).2
  | 0, t => ⟨rfl, rfl⟩
  | n + 1, t => by
    simp only [fill, pullN]
    rcases h : Sercomm.pull t with ⟨t', r⟩
    cases r with
    | octet c =>
      have ih := fill_pullN n t'
      simp only
      exact ⟨ih.1, by rw [ih.2]⟩
    | empty => exact ⟨rfl, rfl⟩
    | fault => exact ⟨rfl, rfl⟩

theorem pull_stop (t : Tx) (h : ∀ c, (Sercomm.pull t).2 ≠ .octet c) : (Sercomm.pull t).1 = t := by
  cases hm : t.msg with
  | none =>
    cases hd : dequeueFirst t.queues with
    | none => rw [pull_idle hm hd]
    | some r => exact absurd (congrArg Prod.snd (pull_start hm hd)) (h _)
  | some rest =>
    by_cases he : t.state = .escape
    · cases rest with
      | nil => rw [pull_fault hm he]
      | cons x r => exact absurd (congrArg Prod.snd (pull_escaped hm he)) (h _)
    · cases rest with
      | nil => exact absurd (congrArg Prod.snd (pull_end hm he)) (h _)
      | cons x r =>
        cases hs : Spec.Sercomm.special x
        · exact absurd (congrArg Prod.snd (pull_plain hm he hs)) (h _)
        · exact absurd (congrArg Prod.snd (pull_esc hm he hs)) (h _)

theorem pullN_add : ∀ (a b : Nat) (t : Tx),
    (pullN (a + b) t).2 = (pullN a t).2 ++ (pullN b (pullN a t).1).2 ∧
    (pullN (a + b) t).1 = (pullN b (pullN a t).1).1
  | 0, b, t => by simp [pullN]
  | a + 1, b, t => by
    rw [Nat.add_right_comm]
    simp only [pullN]
    rcases h : Sercomm.pull t with ⟨t', r⟩
    cases r with
    | octet c =>
      have ih := pullN_add a b t'
      simp only
      exact ⟨by rw [ih.1]; rfl, ih.2⟩
    | _ =>
      -- the pull stream has ended: further pulls return nothing either
      have hs : (Sercomm.pull t).1 = t := pull_stop t (by rw [h]; intro c hc; cases hc)
      rw [h] at hs
      simp only at hs ⊢
      subst hs
      cases b with
      | zero => simp [pullN]
      | succ b => simp [pullN, h]

open OsmoVerif.Msgb OsmoVerif.SercommMsgb

/-- what the property needs of the two literals in `hdlc_send_to_phone`: every accepted length fits the
tailroom of the buffer allocated for it, and that allocation is one `sercomm_alloc_msgb` can serve -/
theorem sendMax_le_alloc : sendMax ≤ sendAlloc := by decide
theorem sendAlloc_pos : 1 ≤ sendAlloc := by decide
theorem sendAlloc_le : sendAlloc ≤ 65531 := by decide
theorem window_pos : 1 ≤ window := by decide

/-- `0 ≤ len ≤ 512` octets of the caller's data, a DLCI inside the queue array: the message is queued —
no `MSGB_ABORT`, the buffer holds exactly `data[0 .. len)` behind the two header octets — and this is
the abstract `sercomm_sendmsg` of that payload -/
theorem hdlcSend_ok {ct : CTx} {t : Tx} (hr : TxRel ct t) {dlci : Nat} {data : List Nat} {len : Int}
    (h0 : 0 ≤ len) (h1 : len ≤ (sendMax : Int)) (hd : len.toNat ≤ data.length) (hq : dlci < ct.queues.length) :
    ∃ ct' t', hdlcSendToPhone ct dlci data len = .sent ct' ∧
      sendmsg t dlci (data.take len.toNat) = some t' ∧ TxRel ct' t' ∧ ct'.queues.length = ct.queues.length := by
  obtain ⟨k, rfl⟩ := Int.eq_ofNat_of_zero_le h0
  rw [Int.toNat_natCast] at hd ⊢
  have hk : k ≤ sendAlloc := Nat.le_trans (Int.ofNat_le.1 h1) sendMax_le_alloc
  -- the conversion of `len` to `unsigned int`
  have hmod : ((k : Int) % 4294967296).toNat = k :=
    (congrArg Int.toNat (Int.emod_eq_of_lt (Int.natCast_nonneg k)
      (Int.ofNat_lt.2 (Nat.lt_of_le_of_lt hk (by decide))))).trans (Int.toNat_natCast k)
  have hlen : (data.take k).length = k := List.length_take_of_le hd
  -- `msgb_put` + `memcpy` is `putBytes` of the first `len` octets
  obtain ⟨m, hm, im, hdat, hbody⟩ := putBytes_scBuf sendAlloc_le (hlen.symm ▸ hk)
  obtain ⟨ct', t', hs, ha, hrel, hl⟩ := csendmsg_rel hr im (by rw [hdat]; decide) hq
  rw [hbody] at ha
  refine ⟨ct', t', ?_, ha, hrel, hl⟩
  obtain ⟨⟨m1, dest⟩, hp, hw⟩ := bind_eq_ok hm
  rw [hlen] at hp
  simp only [hdlcSendToPhone, if_neg (Int.not_lt.2 h1), sercommAlloc_small sendAlloc_pos sendAlloc_le, hmod, hp,
    if_neg (Nat.not_lt.2 hd)]
  simp only [hw, hs]

/-- the window is intact: `bufptr` inside it, 7 octets, no write outside so far -/
structure HostOk (h : Host) : Prop where
  ptr : h.bufptr ≤ window
  len : h.buffer.length = window
  oob : h.oob = false

theorem storeAt_length : ∀ (bs buf : List Nat) (off : Nat), (storeAt buf off bs).length = buf.length
  | [], _, _ => rfl
  | b :: bs, buf, off => by simp [storeAt, storeAt_length bs]

theorem read_empty {fd : Fd} (h : fd.avail = []) (n : Nat) :
    fd.read n = ((if fd.eof then 0 else -1), [], fd) := by
  simp [Fd.read, h]

theorem read_nonempty {fd : Fd} (h : fd.avail ≠ []) (n : Nat) :
    fd.read n = (((fd.count n : Nat) : Int), fd.avail.take (fd.count n), { fd with avail := fd.avail.drop (fd.count n) }) := by
  have : fd.avail.isEmpty = false := by simpa using h
  simp [Fd.read, this]

theorem count_le (fd : Fd) (n : Nat) : fd.count n ≤ n ∧ fd.count n ≤ fd.avail.length := by
  unfold Fd.count
  split
  · exact ⟨Nat.min_le_right _ _, Nat.min_le_left _ _⟩
  · exact ⟨Nat.le_trans (Nat.min_le_left _ _) (Nat.min_le_right _ _),
      Nat.le_trans (Nat.min_le_left _ _) (Nat.min_le_left _ _)⟩

theorem count_pos {fd : Fd} (h : fd.avail ≠ []) {n : Nat} (hn : 1 ≤ n) : 1 ≤ fd.count n := by
  have hpos : 1 ≤ fd.avail.length := List.length_pos_iff.2 h
  unfold Fd.count
  split
  · exact Nat.le_min.2 ⟨hpos, hn⟩
  · exact Nat.le_min.2 ⟨Nat.le_min.2 ⟨hpos, hn⟩, Nat.pos_of_ne_zero ‹_›⟩

theorem read_le (fd : Fd) (n : Nat) : (fd.read n).1 ≤ n := by
  by_cases h : fd.avail = []
  · rw [read_empty h]; simp only; split <;> omega
  · rw [read_nonempty h]; simp only; have := (count_le fd n).1; omega

/-- after the slide there is room for at least one octet, and `bufptr + buf_left` is the end of the window -/
theorem slide_spec {used : Nat} {buffer : List Nat} {bufptr : Nat} (hu : 1 ≤ used) (hp : bufptr ≤ used)
    (hl : buffer.length = used) :
    (slide used buffer bufptr).2.1 + (slide used buffer bufptr).2.2 = used ∧
    1 ≤ (slide used buffer bufptr).2.2 ∧ (slide used buffer bufptr).1.length = used := by
  unfold slide
  split
  · rename_i h
    obtain rfl : bufptr = used := Nat.le_antisymm hp h
    refine ⟨Nat.sub_add_cancel hu, Nat.le_refl 1, ?_⟩
    simp only [List.length_append, List.length_take, List.length_drop, hl]
    omega
  · rename_i h
    exact ⟨Nat.add_sub_of_le (Nat.le_of_not_le h), Nat.sub_pos_of_lt (Nat.lt_of_not_le h), hl⟩

/-- `handle_buffer` in one piece: the window after the slide with what `read()` delivered stored at
`bufptr`, and those octets fed to the receiver when `read()` delivered any and HDLC mode is on -/
theorem handleBuffer_eq (c : Cfg) (h : Host) (fd : Fd) :
    handleBuffer c h fd =
      let s := slide window h.buffer h.bufptr
      let r := fd.read s.2.2
      ({ h with buffer := storeAt s.1 s.2.1 r.2.1, bufptr := s.2.1,
                oob := h.oob || decide (s.2.1 + s.2.2 > window),
                w := if 0 < r.1 ∧ h.expectHdlc = true then r.2.1.foldl (World.rxOctet c) h.w else h.w },
       r.2.2, r.1) := by
  unfold handleBuffer
  simp only
  by_cases h1 : (fd.read (slide window h.buffer h.bufptr).2.2).1 ≤ 0
  · rw [if_pos h1, if_neg (fun hh => Int.not_lt.2 h1 hh.1)]
  · cases he : h.expectHdlc
    · rw [if_neg h1, if_pos (show (!false) = true from rfl), if_neg (fun hh => Bool.false_ne_true hh.2)]
    · rw [if_neg h1, if_neg (show ¬ (!true) = true from Bool.false_ne_true), if_pos ⟨Int.not_le.1 h1, rfl⟩]

/-- **memory safety of the window**: `handle_buffer` reads into `buffer[bufptr .. bufptr + buf_left)`,
which lies inside the 7 octets, and `handle_read` leaves `bufptr` inside them -/
theorem handleBuffer_ok (c : Cfg) {h : Host} (fd : Fd) (ok : HostOk h) :
    (handleBuffer c h fd).1.buffer.length = window ∧ (handleBuffer c h fd).1.oob = false ∧
    (handleBuffer c h fd).1.bufptr + ((handleBuffer c h fd).2.2).toNat ≤ window := by
  obtain ⟨h1, h2, h3⟩ := slide_spec window_pos ok.ptr ok.len
  have r1 := read_le fd (slide window h.buffer h.bufptr).2.2
  rw [handleBuffer_eq]
  refine ⟨(storeAt_length _ _ _).trans h3, ?_, ?_⟩
  · simp only [ok.oob, h1, Nat.lt_irrefl, decide_false, Bool.or_false]
  · simp only []
    omega

/-- the `memcmp` chain touches `expect_hdlc`, the download state and the write flag only -/
theorem prompts_window (h : Host) :
    (prompts h).buffer = h.buffer ∧ (prompts h).bufptr = h.bufptr ∧ (prompts h).oob = h.oob ∧ (prompts h).w = h.w := by
  simp only [prompts, apply_ite Host.buffer, apply_ite Host.bufptr, apply_ite Host.oob, apply_ite Host.w,
    ite_self, and_self]

theorem handleRead_ok (c : Cfg) {h : Host} (fd : Fd) (ok : HostOk h) : HostOk (handleRead c h fd).1 := by
  obtain ⟨b1, b2, b3⟩ := handleBuffer_ok c fd ok
  unfold handleRead
  simp only
  split
  · exact ⟨by omega, b1, b2⟩
  · obtain ⟨p1, p2, p3, _⟩ := prompts_window (handleBuffer c h fd).1
    exact ⟨by simp only [p2]; omega, by simp only [p1]; exact b1, by simp only [p3]; exact b2⟩

def ZeroFree (l : List Nat) : Prop := ∀ x ∈ l, x ≠ 0

instance (l : List Nat) : Decidable (ZeroFree l) := by unfold ZeroFree; infer_instance

theorem storeAt_mem : ∀ (bs buf : List Nat) (off : Nat) {x : Nat}, x ∈ storeAt buf off bs → x ∈ buf ∨ x ∈ bs
  | [], _, _, _, h => .inl h
  | b :: bs, buf, off, x, h => by
    simp only [storeAt] at h
    rcases storeAt_mem bs _ _ h with h1 | h1
    · rcases List.mem_or_eq_of_mem_set h1 with h2 | h2
      · exact .inl h2
      · exact .inr (by simp [h2])
    · exact .inr (by simp [h1])

theorem slide_mem {used : Nat} {buffer : List Nat} {bufptr x : Nat} (h : x ∈ (slide used buffer bufptr).1) :
    x ∈ buffer := by
  unfold slide at h
  split at h
  · simp only [List.mem_append] at h
    rcases h with h | h
    · exact List.mem_of_mem_drop (List.mem_of_mem_take h)
    · exact List.mem_of_mem_drop h
  · exact h

theorem memEq_zeroFree {buf table : List Nat} (hz : ZeroFree buf) (h0 : 0 ∈ table) : memEq buf table = false := by
  by_cases h : memEq buf table = true
  · simp only [memEq, beq_iff_eq] at h
    have : (0 : Nat) ∈ buf := List.mem_of_mem_take (h ▸ h0)
    exact absurd rfl (hz 0 this)
  · simpa using h

/-- in HDLC mode a window without a zero octet matches no prompt that would leave HDLC mode -/
theorem prompts_keep_hdlc {h : Host} (hz : ZeroFree h.buffer) (he : h.expectHdlc = true) :
    (prompts h).expectHdlc = true := by
  have h1 : memEq h.buffer phonePrompt1 = false := memEq_zeroFree hz (by decide)
  -- every other branch leaves `expect_hdlc` alone or sets it
  simp only [prompts, h1, Bool.false_eq_true, if_false, apply_ite Host.expectHdlc, he, ite_self]

/-- what the read loop keeps: HDLC mode, the window intact and free of zero octets (so that no prompt
that leaves HDLC mode can match) -/
structure Feeding (h : Host) : Prop where
  ok : HostOk h
  zf : ZeroFree h.buffer
  hdlc : h.expectHdlc = true

theorem read_mem {fd : Fd} {n x : Nat} (h : x ∈ (fd.read n).2.1) : x ∈ fd.avail := by
  by_cases he : fd.avail = []
  · rw [read_empty he] at h; cases h
  · rw [read_nonempty he] at h; exact List.mem_of_mem_take h

/-- one `handle_read()` in HDLC mode on a zero-free stream: the octets `read()` delivered go to
`sercomm_drv_rx_char`, each once, in order; the return value and the fd are those of `read()` -/
theorem handleRead_spec (c : Cfg) {h : Host} {fd : Fd} (inv : Feeding h) (hs : ZeroFree fd.avail) :
    (handleRead c h fd).2 = ((fd.read (slide window h.buffer h.bufptr).2.2).2.2,
      (fd.read (slide window h.buffer h.bufptr).2.2).1) ∧
    (handleRead c h fd).1.w =
      (if 0 < (fd.read (slide window h.buffer h.bufptr).2.2).1
        then (fd.read (slide window h.buffer h.bufptr).2.2).2.1.foldl (World.rxOctet c) h.w else h.w) ∧
    Feeding (handleRead c h fd).1 := by
  have hok := handleRead_ok c fd inv.ok
  have hb := handleBuffer_eq c h fd
  simp only [inv.hdlc, and_true] at hb
  have hzb : ZeroFree (handleBuffer c h fd).1.buffer := by
    rw [hb]
    intro x hx
    rcases storeAt_mem _ _ _ hx with h1 | h1
    · exact inv.zf x (slide_mem h1)
    · exact hs x (read_mem h1)
  have heb : (handleBuffer c h fd).1.expectHdlc = true := by rw [hb]
  unfold handleRead at hok ⊢
  simp only at hok ⊢
  split at hok
  · rename_i h0
    rw [if_pos h0, hb] at *
    exact ⟨rfl, rfl, hok, hzb, heb⟩
  · rename_i h0
    obtain ⟨p1, -, -, p4⟩ := prompts_window (handleBuffer c h fd).1
    rw [if_neg h0]
    refine ⟨by rw [hb], ?_, hok, p1 ▸ hzb, prompts_keep_hdlc hzb heb⟩
    show (prompts (handleBuffer c h fd).1).w = _
    rw [p4, hb]

/-- **the read loop feeds everything**: in HDLC mode, with a zero-free window and a zero-free stream
(frames of the link never contain a zero octet), `serial_read` passes every readable octet to
`sercomm_drv_rx_char`, once, in order, whatever the chunking of `read()`; it ends with `EAGAIN`
(or `exit(2)` on end of file), stays in HDLC mode and keeps the window intact -/
theorem readLoop_feeds (c : Cfg) : ∀ (fuel : Nat) (h : Host) (fd : Fd), Feeding h → ZeroFree fd.avail →
    fd.avail.length < fuel →
    (readLoop c fuel h fd).1.w = fd.avail.foldl (World.rxOctet c) h.w ∧
    (readLoop c fuel h fd).2.1.avail = [] ∧
    (readLoop c fuel h fd).2.2 = (if fd.eof then 0 else -1) ∧ Feeding (readLoop c fuel h fd).1
  | 0, _, _, _, _, hf => by omega
  | fuel + 1, h, fd, inv, hs, hf => by
    obtain ⟨r1, r2, r3⟩ := handleRead_spec c inv hs
    obtain ⟨-, s2, -⟩ := slide_spec window_pos inv.ok.ptr inv.ok.len
    rw [readLoop]
    by_cases hne : fd.avail = []
    · -- nothing readable: `read()` fails or reports end of file
      rw [read_empty hne] at r1 r2
      have hle : ¬ (if fd.eof then (0 : Int) else -1) > 0 := by split <;> omega
      rw [show (handleRead c h fd).2.2 = _ from congrArg Prod.snd r1, if_neg hle]
      exact ⟨by rw [r2, if_neg hle, hne]; rfl, by rw [congrArg Prod.fst r1]; exact hne,
        congrArg Prod.snd r1, r3⟩
    · -- `read()` delivers `k ≥ 1` octets: they are fed, the loop goes on with the rest
      rw [read_nonempty hne] at r1 r2
      have hk := count_pos hne s2
      have hkl := (count_le fd (slide window h.buffer h.bufptr).2.2).2
      have hgt : ((fd.count (slide window h.buffer h.bufptr).2.2 : Nat) : Int) > 0 := Int.natCast_pos.2 hk
      rw [show (handleRead c h fd).2.2 = _ from congrArg Prod.snd r1, if_pos hgt,
        show (handleRead c h fd).2.1 = _ from congrArg Prod.fst r1]
      rw [if_pos hgt] at r2
      obtain ⟨j1, j2, j3, j4⟩ := readLoop_feeds c fuel _
        { fd with avail := fd.avail.drop (fd.count (slide window h.buffer h.bufptr).2.2) } r3
        (fun x hx => hs x (List.mem_of_mem_drop hx)) (by rw [List.length_drop]; omega)
      refine ⟨?_, j2, j3, j4⟩
      rw [j1, r2, ← List.foldl_append, List.take_append_drop]

end OsmoVerif.Osmocon
