/-
C11, firmware runtime: lemmas about the `struct mframe_scheduler` state machine
(`mframe_enable / mframe_disable / mframe_set / mframe_reset`, `mframe_schedule()` with the
`safe_fn` latch) of `Model/Mframe.lean`.
-/
import OsmoVerif.Lemmas.Mframe

namespace OsmoVerif.Mframe
open OsmoVerif.Gen OsmoVerif.Gen.FwMframe

/-- the table of task bit `i` (`[]` when `sched_set_for_task[i]` is NULL or `i ≥ 32`; only
    used where the schedule is known not to fault) -/
def itemsOf (i : Nat) : List Item :=
  match schedSetForTask[i]? with
  | some (some items) => items
  | _ => []

/-- the calls `mframe_schedule()` has to make at tick `fn` for active task bitmap `tasks`:
    for every set bit in ascending order, every row of that task's table whose trigger
    fires, in table order, each once -/
def expectedCalls (tasks fn : Nat) : List Event :=
  ((List.range 32).filter fun i => tasks.testBit i).flatMap fun i =>
    ((itemsOf i).filter fun it => fires it fn).map (eventOf i)

/-! ## what the stateless loops call -/

/-- when `mframe_schedule_set(i)` returns, it has made the calls of the firing rows of task
    `i`, in table order; it indexes outside `sched_set_for_task[]` only when `i` is outside -/
theorem scheduleSet_cases (i fn : Nat) :
    match scheduleSet i fn with
    | .ok evs => evs = ((itemsOf i).filter fun it => fires it fn).map (eventOf i)
    | .error c => c = .taskOutOfRange → schedSetForTask.length ≤ i := by
  unfold scheduleSet itemsOf
  cases hs : schedSetForTask[i]? with
  | none => exact fun _ => List.getElem?_eq_none_iff.1 hs
  | some o =>
    cases o with
    | none => exact fun h => nomatch h
    | some items =>
      simp only [scheduleItems_eq]
      by_cases hm : ∀ it ∈ items, it.modulo ≠ 0
      · rw [if_pos hm]
      · rw [if_neg hm]
        exact fun h => nomatch h

/-- the task loop: its calls are those of the set bits in list order; a fault is the fault
    of `mframe_schedule_set` for one of the set bits -/
theorem scheduleTasks_cases (tasks fn : Nat) (l : List Nat) :
    match scheduleTasks tasks fn l with
    | .ok evs => evs = (l.filter fun i => tasks.testBit i).flatMap fun i =>
        ((itemsOf i).filter fun it => fires it fn).map (eventOf i)
    | .error c => ∃ i ∈ l, tasks.testBit i = true ∧ scheduleSet i fn = .error c := by
  induction l with
  | nil => rfl
  | cons i rest ih =>
    rw [scheduleTasks, List.filter_cons]
    by_cases hb : tasks.testBit i = true
    · rw [if_pos hb, if_pos hb, List.flatMap_cons]
      have h1 := scheduleSet_cases i fn
      cases hs : scheduleSet i fn with
      | error c => exact ⟨i, List.mem_cons_self, hb, hs⟩
      | ok e1 =>
        rw [hs] at h1
        cases ht : scheduleTasks tasks fn rest with
        | error c =>
          rw [ht] at ih
          obtain ⟨j, hj, hjb, hjs⟩ := ih
          exact ⟨j, List.mem_cons_of_mem _ hj, hjb, hjs⟩
        | ok tl =>
          rw [ht] at ih
          show e1 ++ tl = _
          rw [h1, ih]
    · rw [if_neg hb, if_neg hb]
      cases ht : scheduleTasks tasks fn rest with
      | error c =>
        rw [ht] at ih
        obtain ⟨j, hj, hjb, hjs⟩ := ih
        exact ⟨j, List.mem_cons_of_mem _ hj, hjb, hjs⟩
      | ok tl =>
        rw [ht] at ih
        exact ih

/-! ## the stateful loops make the same calls as the stateless ones -/

/-- the calls of a result, the state dropped -/
def callsOf {σ} : Except FwCrash (List Event × σ) → Except FwCrash (List Event)
  | .ok (e, _) => .ok e
  | .error c => .error c

theorem scheduleItemsSt_calls (rv : RvOf) (taskId fn : Nat) (items : List Item) (sf : Nat) :
    callsOf (scheduleItemsSt rv taskId fn items sf) = scheduleItems taskId fn items := by
  induction items generalizing sf with
  | nil => rfl
  | cons it rest ih =>
    rw [scheduleItemsSt, scheduleItems]
    split
    · rfl
    · by_cases hf : fires it fn = true
      · rw [if_pos hf, ← ih (safeUpdate fn (rv it.set) sf)]
        cases scheduleItemsSt rv taskId fn rest (safeUpdate fn (rv it.set) sf) with
        | error e => rfl
        | ok p => simp only [callsOf, hf, if_true]
      · rw [if_neg hf, ih sf]
        cases scheduleItems taskId fn rest with
        | error e => rfl
        | ok tl => simp only [hf, Bool.false_eq_true, if_false]

theorem scheduleSetSt_calls (rv : RvOf) (taskId fn sf : Nat) :
    callsOf (scheduleSetSt rv taskId fn sf) = scheduleSet taskId fn := by
  unfold scheduleSetSt scheduleSet
  cases schedSetForTask[taskId]? with
  | none => rfl
  | some o =>
    cases o with
    | none => rfl
    | some items => exact scheduleItemsSt_calls rv taskId fn items sf

theorem scheduleTasksSt_calls (rv : RvOf) (tasks fn : Nat) (l : List Nat) (sf : Nat) :
    callsOf (scheduleTasksSt rv tasks fn l sf) = scheduleTasks tasks fn l := by
  induction l generalizing sf with
  | nil => rfl
  | cons i rest ih =>
    rw [scheduleTasksSt, scheduleTasks]
    split
    · rw [← scheduleSetSt_calls rv i fn sf]
      cases scheduleSetSt rv i fn sf with
      | error e => rfl
      | ok p =>
        simp only [callsOf]
        rw [← ih p.2]
        cases scheduleTasksSt rv tasks fn rest p.2 <;> rfl
    · exact ih sf

/-- `mframe_schedule()` makes the calls of the stateless loop on the latched bitmap … -/
theorem mframeScheduleOn_calls (rv : RvOf) (s : MfState) (fn : Nat) (bits : List Nat) :
    callsOf (mframeScheduleOn rv s fn bits) = scheduleTasks (latch s fn) fn bits := by
  unfold mframeScheduleOn
  rw [← scheduleTasksSt_calls rv _ _ _ s.safeFn]
  cases scheduleTasksSt rv (latch s fn) fn bits s.safeFn <;> rfl

/-- … and leaves the latched bitmap as the active one, the target bitmap unchanged -/
theorem mframeScheduleOn_state {rv : RvOf} {s s' : MfState} {fn : Nat} {bits : List Nat}
    {evs : List Event} (h : mframeScheduleOn rv s fn bits = .ok (evs, s')) :
    s'.tasks = latch s fn ∧ s'.tasksTgt = s.tasksTgt := by
  unfold mframeScheduleOn at h
  split at h
  · cases h
  · cases h
    exact ⟨rfl, rfl⟩

theorem mframeScheduleSt_ok {rv : RvOf} {s : MfState} {fn : Nat} {evs : List Event} {s' : MfState}
    (h : mframeScheduleSt rv s fn = .ok (evs, s')) :
    s'.tasks = latch s fn ∧ s'.tasksTgt = s.tasksTgt ∧ evs = expectedCalls (latch s fn) fn := by
  rw [mframeScheduleSt] at h
  have hc := mframeScheduleOn_calls rv s fn (List.range 32)
  have ht := scheduleTasks_cases (latch s fn) fn (List.range 32)
  rw [h, callsOf] at hc
  rw [← hc] at ht
  exact ⟨(mframeScheduleOn_state h).1, (mframeScheduleOn_state h).2, ht⟩

/-! ## bit facts of `mframe_enable` / `mframe_disable` and of `p3` -/

theorem u32_one_shiftLeft (t : Nat) (ht : t < 32) : u32 (1 <<< t) = 2 ^ t := by
  rw [Nat.one_shiftLeft]
  exact Nat.mod_eq_of_lt (Nat.pow_lt_pow_right (by decide) ht)

theorem enable_bit (x t : Nat) (ht : t < 32) (i : Nat) :
    (x ||| u32 (1 <<< t)).testBit i = (x.testBit i || decide (t = i)) := by
  rw [u32_one_shiftLeft t ht, Nat.testBit_or, Nat.testBit_two_pow]

/-- `~(1 << t)` in 32 bits is `2^32 - (2^t + 1)`: all bits below 32 but bit `t` -/
theorem disable_bit (x t : Nat) (ht : t < 32) (i : Nat) (hi : i < 32) :
    (x &&& (4294967295 - u32 (1 <<< t))).testBit i = (x.testBit i && !decide (t = i)) := by
  have hlt : 2 ^ t < 2 ^ 32 := Nat.pow_lt_pow_right (by decide) ht
  have hsub : 4294967295 - 2 ^ t = 2 ^ 32 - (2 ^ t + 1) := by omega
  rw [Nat.testBit_and, u32_one_shiftLeft t ht, hsub, Nat.testBit_two_pow_sub_succ hlt,
    Nat.testBit_two_pow, decide_eq_true hi, Bool.true_and]

/-- `p3 = task_id | flags << 8`: the task id is the low byte, the row's flags the high byte -/
theorem p3_bytes (t : Nat) (it : Item) (ht : t < 256) (hf : it.flags < 256) :
    p3Of t it = t + 256 * it.flags ∧ p3Of t it % 256 = t ∧ p3Of t it / 256 = it.flags := by
  have h : t ||| (it.flags <<< 8) = t + 256 * it.flags := by
    rw [Nat.or_comm, ← Nat.shiftLeft_add_eq_or_of_lt (i := 8) (by omega) it.flags, Nat.shiftLeft_eq]
    omega
  have hp : p3Of t it = t + 256 * it.flags := by
    rw [p3Of, u16, h]
    exact Nat.mod_eq_of_lt (by omega)
  refine ⟨hp, ?_, ?_⟩
  · rw [hp, Nat.add_mul_mod_self_left, Nat.mod_eq_of_lt ht]
  · rw [hp, Nat.add_mul_div_left _ _ (by decide), Nat.div_eq_of_lt ht, Nat.zero_add]

/-! ## the latch -/

theorem latch_sub_tgt {s : MfState} {fn i : Nat} (h : (latch s fn).testBit i = true) :
    s.tasksTgt.testBit i = true := by
  unfold latch at h
  split at h
  · exact h
  · rw [Nat.testBit_and] at h
    simp only [Bool.and_eq_true] at h
    exact h.2

/-- an invalid `safe_fn` (after `mframe_reset`) never holds anything back -/
theorem latch_invalid (s : MfState) (fn : Nat) (h : s.safeFn ≥ GSM_MAX_FN) : latch s fn = s.tasksTgt := by
  have : nothingInTheWay s fn = true := by
    simp only [nothingInTheWay, decide_eq_true h, Bool.or_true]
  simp only [latch, this, if_true]

theorem mem_expectedCalls (tasks fn : Nat) (e : Event) :
    e ∈ expectedCalls tasks fn ↔
      ∃ i, i < 32 ∧ tasks.testBit i = true ∧ ∃ it ∈ itemsOf i, fires it fn = true ∧ e = eventOf i it := by
  simp only [expectedCalls, List.mem_flatMap, List.mem_filter, List.mem_range, List.mem_map, and_assoc, eq_comm]

/-- with flags that fit the high byte of `p3`, the low byte of a call's `p3` is its task
    id, a set bit of the active bitmap -/
theorem expectedCalls_p3 (hfl : ∀ i, ∀ it ∈ itemsOf i, it.flags < 256) {tasks fn : Nat} {e : Event}
    (he : e ∈ expectedCalls tasks fn) : tasks.testBit (e.p3 % 256) = true := by
  obtain ⟨i, hi, hb, it, hm, _, rfl⟩ := (mem_expectedCalls tasks fn e).1 he
  rw [show (eventOf i it).p3 % 256 = i from (p3_bytes i it (by omega) (hfl i it hm)).2.1]
  exact hb

/-! ## histories of the scheduler state machine -/

inductive FwOp where
  | enable (t : Nat) | disable (t : Nat) | set (mask : Nat) | reset | tick (fn : Nat)

/-- one operation: new state and the calls made (only a tick makes calls) -/
def fwStep (rv : RvOf) (s : MfState) : FwOp → Except FwCrash (MfState × List Event)
  | .enable t => (mframeEnable s t).map fun s' => (s', [])
  | .disable t => (mframeDisable s t).map fun s' => (s', [])
  | .set m => .ok (mframeSet s m, [])
  | .reset => .ok (mframeReset, [])
  | .tick fn => (mframeScheduleSt rv s fn).map fun r => (r.2, r.1)

/-- a history: the final state and all calls made, in order -/
def fwRun (rv : RvOf) (s : MfState) : List FwOp → Except FwCrash (MfState × List Event)
  | [] => .ok (s, [])
  | op :: rest =>
    match fwStep rv s op with
    | .error e => .error e
    | .ok (s1, e1) =>
      match fwRun rv s1 rest with
      | .error e => .error e
      | .ok (s2, e2) => .ok (s2, e1 ++ e2)

/-- the operation cannot put task bit `t` into the target bitmap -/
def keepsOff (t : Nat) : FwOp → Bool
  | .enable t' => t' != t
  | .set m => !(u32 m).testBit t
  | _ => true

/-- an operation that cannot put bit `t` into the target bitmap keeps it clear there, and
    makes no call of task `t` (the flags of every row fitting the high byte of `p3`) -/
theorem fwStep_keepsOff (hfl : ∀ i, ∀ it ∈ itemsOf i, it.flags < 256) (rv : RvOf) {t : Nat}
    {s s1 : MfState} {e1 : List Event} {op : FwOp} (hop : keepsOff t op = true)
    (hoff : s.tasksTgt.testBit t = false) (hs : fwStep rv s op = .ok (s1, e1)) :
    s1.tasksTgt.testBit t = false ∧ ∀ e ∈ e1, e.p3 % 256 ≠ t := by
  cases op with
  | enable t' =>
    simp only [fwStep, mframeEnable] at hs
    split at hs
    · cases hs
    · cases hs
      simp only [keepsOff, bne_iff_ne, ne_eq] at hop
      exact ⟨by rw [enable_bit _ t' (by omega) t, hoff, decide_eq_false hop]; rfl,
        fun _ he => nomatch he⟩
  | disable t' =>
    simp only [fwStep, mframeDisable] at hs
    split at hs
    · cases hs
    · cases hs
      exact ⟨by rw [Nat.testBit_and, hoff]; rfl, fun _ he => nomatch he⟩
  | set m =>
    cases hs
    simp only [keepsOff, Bool.not_eq_true'] at hop
    exact ⟨hop, fun _ he => nomatch he⟩
  | reset =>
    cases hs
    exact ⟨Nat.zero_testBit t, fun _ he => nomatch he⟩
  | tick fn =>
    simp only [fwStep] at hs
    cases hm : mframeScheduleSt rv s fn with
    | error e => rw [hm] at hs; cases hs
    | ok r =>
      rw [hm] at hs
      cases hs
      obtain ⟨_, h2, h3⟩ := mframeScheduleSt_ok hm
      refine ⟨by rw [h2]; exact hoff, fun e he hc => ?_⟩
      have hb := latch_sub_tgt (expectedCalls_p3 hfl (h3 ▸ he))
      rw [hc, hoff] at hb
      cases hb

/-- … so over a whole history of such operations, from a state whose target bitmap does not
    have bit `t`, no row of task `t` is ever handed to the TDMA scheduler -/
theorem fwRun_keepsOff (hfl : ∀ i, ∀ it ∈ itemsOf i, it.flags < 256) (rv : RvOf) (t : Nat)
    (ops : List FwOp) (hops : ∀ op ∈ ops, keepsOff t op = true) :
    ∀ (s s' : MfState) (evs : List Event), s.tasksTgt.testBit t = false →
      fwRun rv s ops = .ok (s', evs) → s'.tasksTgt.testBit t = false ∧ ∀ e ∈ evs, e.p3 % 256 ≠ t := by
  induction ops with
  | nil =>
    intro s s' evs hoff h
    cases h
    exact ⟨hoff, fun _ he => nomatch he⟩
  | cons op rest ih =>
    intro s s' evs hoff h
    rw [fwRun] at h
    split at h
    · cases h
    · rename_i s1 e1 hs
      split at h
      · cases h
      · rename_i s2 e2 hr
        cases h
        obtain ⟨hoff1, hev1⟩ := fwStep_keepsOff hfl rv (hops op List.mem_cons_self) hoff hs
        obtain ⟨hoff2, hev2⟩ := ih (fun o ho => hops o (List.mem_cons_of_mem _ ho)) _ _ _ hoff1 hr
        exact ⟨hoff2, fun e he => (List.mem_append.1 he).elim (hev1 e) (hev2 e)⟩

end OsmoVerif.Mframe
