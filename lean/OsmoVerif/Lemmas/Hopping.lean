/-
Helper lemmas for the hopping models (C07): the `2^NBIN - 1` mask, mask = mod,
table-address bounds, Python/C primitive operations on in-range values, and the
closed form to which the Python model, the firmware model and the standard's
algorithm all reduce.  Everything is algebraic; the only kernel evaluation is the
127-case mask table `pnm_core`.
-/
import OsmoVerif.Model.Hopping
import OsmoVerif.Spec.Hopping
namespace OsmoVerif.Hopping
open OsmoVerif OsmoVerif.GsmTime
open OsmoVerif.Spec.Hopping (nbin rntable)

theorem pnm_core : ∀ n < 128, 1 ≤ n → powNbinMask n = 2 ^ (Nat.log2 n + 1) - 1 := by decide +kernel

theorem powNbinMask_eq (n : Nat) (h1 : 1 ≤ n) (h2 : n < 128) : powNbinMask n = 2 ^ nbin n - 1 :=
  pnm_core n h2 h1

theorem and_powNbinMask (x n : Nat) (h1 : 1 ≤ n) (h2 : n < 128) :
    x &&& powNbinMask n = x % 2 ^ nbin n := by
  rw [powNbinMask_eq n h1 h2, Nat.and_two_pow_sub_one_eq_mod]

theorem and_63 (x : Nat) : x &&& 63 = x % 64 := Nat.and_two_pow_sub_one_eq_mod x 6

theorem xor_lt_64 {a b : Nat} (ha : a < 64) (hb : b < 64) : a ^^^ b < 64 :=
  Nat.xor_lt_two_pow (n := 6) ha hb

theorem pyMod_nat (a n : Nat) (hn : 0 < n) : pyMod (a : Int) (n : Int) = .ok ((a % n : Nat) : Int) := by
  have : (n : Int) ≠ 0 := by omega
  simp only [pyMod, this, if_false]
  rw [Int.fmod_eq_emod_of_nonneg _ (by omega), Int.natCast_emod]

theorem pyIndex_nat {α : Type} (l : List α) (i : Nat) (h : i < l.length) :
    pyIndex l (i : Int) = .ok l[i] := by
  have : (0 : Int) ≤ (i : Int) := by omega
  simp only [pyIndex, this, if_true, Int.toNat_natCast, List.getElem?_eq_getElem h]

theorem pyXor_nat (a b : Nat) : pyXor (a : Int) b = ((a ^^^ b : Nat) : Int) := by
  have : (0 : Int) ≤ (a : Int) := by omega
  simp only [pyXor, this, if_true, Int.toNat_natCast]

/-- fewer than `n` steps apart, two numbers are not congruent modulo `n` -/
theorem add_mod_inj (a j k n : Nat) (hj : j < n) (hk : k < n) (h : (a + j) % n = (a + k) % n) : j = k := by
  have key : ∀ j k, j ≤ k → k < n → (a + j) % n = (a + k) % n → j = k := by
    intro j k hjk hk h
    have h0 := Nat.sub_mod_eq_zero_of_mod_eq h.symm
    rw [show a + k - (a + j) = k - j by omega] at h0
    have := Nat.eq_zero_of_dvd_of_lt (Nat.dvd_of_mod_eq_zero h0) (by omega)
    omega
  rcases Nat.le_total j k with hle | hle
  · exact key j k hle hk h
  · exact (key k j hle hj h.symm).symm

theorem rntable_length : rntable.length = 114 := by decide

/-- `S` once the table entry `r` is known. -/
def sVal (r t2 t3 n : Nat) : Nat :=
  if (t2 + r) % 2 ^ nbin n < n then (t2 + r) % 2 ^ nbin n
  else ((t2 + r) % 2 ^ nbin n + t3 % 2 ^ nbin n) % n

theorem spec_sOf (x t2 t3 n : Nat) (h : x + t3 < 114) :
    Spec.Hopping.sOf x t2 t3 n = some (sVal (rntable[x + t3]'(by rw [rntable_length]; exact h)) t2 t3 n) := by
  have hl : x + t3 < rntable.length := by rw [rntable_length]; exact h
  simp only [Spec.Hopping.sOf, List.getElem?_eq_getElem hl, sVal]

theorem t1r_eq (fn : Nat) : Spec.Hopping.t1r fn = fn / (26 * 51) % 64 := by
  simp only [Spec.Hopping.t1r, Spec.Hopping.t1]; omega

theorem idx_lt (hsn fn : Nat) (hh : hsn < 64) : (hsn ^^^ (fn / (26 * 51) % 64)) + fn % 51 < 114 := by
  have := xor_lt_64 hh (Nat.mod_lt (fn / (26 * 51)) (by decide : 0 < 64))
  have := Nat.mod_lt fn (by decide : 0 < 51)
  omega

/-- the standard's MAI in closed form on its domain -/
theorem spec_mai (hsn maio n fn : Nat) (hh : hsn < 64) (hn : 1 ≤ n) :
    Spec.Hopping.mai hsn maio n fn = some (
      if hsn = 0 then (fn + maio) % n
      else (sVal (rntable[(hsn ^^^ (fn / (26 * 51) % 64)) + fn % 51]'(by
              rw [rntable_length]; exact idx_lt hsn fn hh)) (fn % 26) (fn % 51) n + maio) % n) := by
  have hn0 : n ≠ 0 := by omega
  simp only [Spec.Hopping.mai, hn0, if_false]
  by_cases h0 : hsn = 0
  · simp only [h0, if_true]
  · simp only [h0, if_false, t1r_eq, Spec.Hopping.t2, Spec.Hopping.t3]
    rw [spec_sOf _ _ _ _ (idx_lt hsn fn hh)]

theorem pyPnm_eq (n : Nat) :
    ((n >>> 0) ||| (n >>> 1) ||| (n >>> 2) ||| (n >>> 3) ||| (n >>> 4) ||| (n >>> 5) ||| (n >>> 6))
      = powNbinMask n := by
  simp only [powNbinMask, Nat.shiftRight_zero]

theorem pyInit_ok {α : Type} (hsn : Nat) (maio : Int) (ma : List α) (hh : hsn < 64)
    (hn0 : ma.length ≠ 0) :
    pyInit (hsn : Int) maio ma
      = .ok { hsn := (hsn : Int), maio := maio, ma := ma, pnm := powNbinMask ma.length } := by
  have hr : ¬ ¬ ((0 : Int) ≤ (hsn : Int) ∧ (hsn : Int) < 64) := by omega
  simp only [pyInit, hn0, if_false, if_neg hr, pyPnm_eq]

theorem py_resolve_closed {α : Type} (hsn maio fn : Nat) (ma : List α)
    (hh : hsn < 64) (h1 : 1 ≤ ma.length) (h2 : ma.length ≤ 64) (htab : Gen.pyRntable = rntable) :
    ∃ i, ∃ hi : i < ma.length,
      Spec.Hopping.mai hsn maio ma.length fn = some i ∧
      pyResolve (hsn : Int) (maio : Int) ma fn = .ok ma[i] := by
  have hn0 : ma.length ≠ 0 := by omega
  have hnpos : 0 < ma.length := by omega
  rw [spec_mai hsn maio ma.length fn hh h1]
  simp only [pyResolve, pyInit_ok hsn (maio : Int) ma hh hn0]
  by_cases h0 : hsn = 0
  · subst h0
    refine ⟨(fn + maio) % ma.length, Nat.mod_lt _ hnpos, by simp only [if_true], ?_⟩
    simp only [HoppingParams.resolve, Int.natCast_zero, if_true,
      ← Int.natCast_add, pyMod_nat _ _ hnpos, pyIndex_nat _ _ (Nat.mod_lt _ hnpos)]
  · have hidx := idx_lt hsn fn hh
    have hidx' : (hsn ^^^ (fn / (26 * 51) % 64)) + fn % 51 < rntable.length := by
      rw [rntable_length]; exact hidx
    have hz : ¬ ((hsn : Int) = 0) := by omega
    refine ⟨(sVal (rntable[(hsn ^^^ (fn / (26 * 51) % 64)) + fn % 51]) (fn % 26) (fn % 51) ma.length + maio) % ma.length,
      Nat.mod_lt _ hnpos, by simp only [h0, if_false], ?_⟩
    simp only [HoppingParams.resolve, hz, if_false, pyFn2GsmTime, htab, and_63, pyXor_nat, ← Int.natCast_add, pyIndex_nat _ _ hidx',
      and_powNbinMask _ _ h1 (by omega : ma.length < 128)]
    by_cases hb : (fn % 26 + rntable[(hsn ^^^ (fn / (26 * 51) % 64)) + fn % 51]) % 2 ^ nbin ma.length < ma.length
    · simp only [hb, if_true, ← Int.natCast_add, pyMod_nat _ _ hnpos, sVal]
      rw [pyIndex_nat _ _ (Nat.mod_lt _ hnpos)]
    · simp only [hb, if_false, ← Int.natCast_add, pyMod_nat _ _ hnpos, sVal]
      rw [pyIndex_nat _ _ (Nat.mod_lt _ hnpos)]

theorem i16_roundtrip (a : Nat) (h : a < 65536) : i16ToU16 (toI16 (a : Int)) = a := by
  simp only [toI16, i16ToU16]
  have e : (a : Int) % 65536 = a := by omega
  rw [e]
  split <;> omega

theorem cMod_pos (a n : Nat) (hn : 0 < n) : cMod a n = .ok (a % n) := by
  have : n ≠ 0 := by omega
  simp only [cMod, this, if_false]

theorem cFn2GsmTime_hyper (fn : Nat) (h : fn < 2715648) :
    cFn2GsmTime fn = ⟨fn, fn / (26 * 51), fn % 26, fn % 51, fn / 51 % 8⟩ := by
  have e0 : u32 fn = fn := Nat.mod_eq_of_lt (by omega)
  have e1 : u16 (fn / (26 * 51)) = fn / (26 * 51) := Nat.mod_eq_of_lt (by omega)
  have e2 : u8 (fn % 26) = fn % 26 := Nat.mod_eq_of_lt (by omega)
  have e3 : u8 (fn % 51) = fn % 51 := Nat.mod_eq_of_lt (by omega)
  have e4 : u8 (fn / 51 % 8) = fn / 51 % 8 := Nat.mod_eq_of_lt (by omega)
  simp only [cFn2GsmTime, e0, e1, e2, e3, e4]

theorem fw_hop_closed (hsn maio n fn : Nat) (tbl : List Nat)
    (hh : hsn < 64) (hm : maio < 256) (h1 : 1 ≤ n) (h2 : n ≤ 64) (hl : n ≤ tbl.length)
    (hu : ∀ a ∈ tbl, a < 65536) (hf : fn < 2715648) (htab : Gen.fwRnTable = rntable) :
    ∃ i, ∃ hi : i < tbl.length,
      Spec.Hopping.mai hsn maio n fn = some i ∧ fwHop hsn maio n tbl fn = .ok tbl[i] := by
  have hnpos : 0 < n := by omega
  have e1 : u8 hsn = hsn := by simp only [u8]; omega
  have e2 : u8 maio = maio := by simp only [u8]; omega
  have e3 : u8 n = n := by simp only [u8]; omega
  have e4 : u32 (fn + maio) = fn + maio := by simp only [u32]; omega
  have c6 : ¬ ((6 : Nat) = 0) := by decide
  have c1 : (1 : Nat) ≠ 0 := by decide
  rw [spec_mai hsn maio n fn hh h1]
  by_cases h0 : hsn = 0
  · subst h0
    have hi : (fn + maio) % n < tbl.length := Nat.lt_of_lt_of_le (Nat.mod_lt _ hnpos) hl
    refine ⟨(fn + maio) % n, hi, by simp only [if_true], ?_⟩
    simp only [fwHop, fwGetParamsArfcn, c6, c1, ne_eq, not_false_eq_true, if_true, if_false,
      fwHopSeqGen, cFn2GsmTime_hyper fn hf, e1, e2, e3, e4, cMod_pos _ _ hnpos,
      List.getElem?_eq_getElem hi, i16_roundtrip _ (hu _ (List.getElem_mem hi))]
  · have hidx := idx_lt hsn fn hh
    have hidx' : (hsn ^^^ (fn / (26 * 51) % 64)) + fn % 51 < rntable.length := by
      rw [rntable_length]; exact hidx
    have hi : (sVal (rntable[(hsn ^^^ (fn / (26 * 51) % 64)) + fn % 51]) (fn % 26) (fn % 51) n + maio) % n
        < tbl.length := Nat.lt_of_lt_of_le (Nat.mod_lt _ hnpos) hl
    refine ⟨(sVal (rntable[(hsn ^^^ (fn / (26 * 51) % 64)) + fn % 51]) (fn % 26) (fn % 51) n + maio) % n,
      hi, by simp only [h0, if_false], ?_⟩
    simp only [fwHop, fwGetParamsArfcn, c6, c1, ne_eq, not_false_eq_true, if_true, if_false,
      fwHopSeqGen, cFn2GsmTime_hyper fn hf, e1, e2, e3, h0, htab, and_63,
      List.getElem?_eq_getElem hidx', and_powNbinMask _ _ h1 (by omega : n < 128)]
    by_cases hb : (fn % 26 + rntable[(hsn ^^^ (fn / (26 * 51) % 64)) + fn % 51]) % 2 ^ nbin n < n
    · simp only [hb, if_true, cMod_pos _ _ hnpos]
      simp only [sVal, hb, if_true] at hi ⊢
      simp only [List.getElem?_eq_getElem hi, i16_roundtrip _ (hu _ (List.getElem_mem hi))]
    · simp only [hb, if_false, cMod_pos _ _ hnpos]
      simp only [sVal, hb, if_false] at hi ⊢
      simp only [List.getElem?_eq_getElem hi, i16_roundtrip _ (hu _ (List.getElem_mem hi))]

/-! ### totality of `resolve` after a successful `__init__` -/

theorem pyMod_pos (a : Int) (n : Nat) (hn : 0 < n) :
    ∃ r : Nat, r < n ∧ pyMod a (n : Int) = .ok (r : Int) := by
  have h0 : (n : Int) ≠ 0 := by omega
  have hp : (0 : Int) < (n : Int) := by omega
  refine ⟨(a % (n : Int)).toNat, ?_, ?_⟩
  · have := Int.emod_lt_of_pos a hp
    have := Int.emod_nonneg a h0
    omega
  · simp only [pyMod, h0, if_false]
    rw [Int.fmod_eq_emod_of_nonneg _ (by omega), Int.toNat_of_nonneg (Int.emod_nonneg a h0)]

theorem pyIndex_mem {α : Type} (l : List α) (i : Nat) (h : i < l.length) :
    ∃ v, v ∈ l ∧ pyIndex l (i : Int) = .ok v :=
  ⟨l[i], List.getElem_mem h, pyIndex_nat l i h⟩

/-- what a successful `__init__` establishes -/
theorem pyInit_inv {α : Type} (hsn maio : Int) (ma : List α) (hp : HoppingParams α)
    (h : pyInit hsn maio ma = .ok hp) :
    ma.length ≠ 0 ∧ 0 ≤ hsn ∧ hsn < 64 ∧ hp.hsn = hsn ∧ hp.maio = maio ∧ hp.ma = ma ∧
      hp.pnm = powNbinMask ma.length := by
  unfold pyInit at h
  simp only [pyPnm_eq] at h
  by_cases hn : ma.length = 0
  · simp only [hn, if_true] at h; cases h
  · by_cases hr : (0 ≤ hsn ∧ hsn < 64)
    · simp only [hn, if_false, hr] at h
      cases h
      exact ⟨hn, hr.1, hr.2, rfl, rfl, rfl, rfl⟩
    · simp only [hn, if_false, hr, not_false_eq_true, if_true] at h; cases h

theorem py_resolve_total_aux {α : Type} (hsn : Nat) (maio : Int) (ma : List α) (pnm fn : Nat)
    (hh : hsn < 64) (hn : ma.length ≠ 0) (hlen : Gen.pyRntable.length = 114) :
    ∃ v, v ∈ ma ∧
      (HoppingParams.mk (hsn : Int) maio ma pnm).resolve fn = .ok v := by
  have hnpos : 0 < ma.length := by omega
  by_cases h0 : hsn = 0
  · subst h0
    obtain ⟨r, hr, hm⟩ := pyMod_pos ((fn : Int) + maio) ma.length hnpos
    obtain ⟨v, hv, hi⟩ := pyIndex_mem ma r hr
    exact ⟨v, hv, by simp only [HoppingParams.resolve, Int.natCast_zero, if_true, hm, hi]⟩
  · have hz : ¬ ((hsn : Int) = 0) := by omega
    have hidx : (hsn ^^^ (fn / (26 * 51) % 64)) + fn % 51 < Gen.pyRntable.length := by
      rw [hlen]; exact idx_lt hsn fn hh
    simp only [HoppingParams.resolve, hz, if_false, pyFn2GsmTime, and_63, pyXor_nat,
      ← Int.natCast_add, pyIndex_nat _ _ hidx]
    generalize Gen.pyRntable[(hsn ^^^ (fn / (26 * 51) % 64)) + fn % 51] = r0
    by_cases hb : (fn % 26 + r0) &&& pnm < ma.length
    · obtain ⟨r, hr, hm⟩ := pyMod_pos ((((fn % 26 + r0) &&& pnm : Nat) : Int) + maio) ma.length hnpos
      obtain ⟨v, hv, hi⟩ := pyIndex_mem ma r hr
      exact ⟨v, hv, by simp only [hb, if_true, hm, hi]⟩
    · obtain ⟨s, _, hs⟩ := pyMod_pos ((((fn % 26 + r0) &&& pnm) + (fn % 51 &&& pnm) : Nat) : Int) ma.length hnpos
      obtain ⟨r, hr, hm⟩ := pyMod_pos ((s : Int) + maio) ma.length hnpos
      obtain ⟨v, hv, hi⟩ := pyIndex_mem ma r hr
      exact ⟨v, hv, by simp only [hb, if_false, hs, hm, hi]⟩

end OsmoVerif.Hopping
