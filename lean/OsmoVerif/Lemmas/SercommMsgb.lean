/-
The serial link on real message buffers (`Model/SercommMsgb.lean`) and the abstract link of
`Model/Sercomm.lean` are the same machine: simulation relation, step lemmas, and the consequence that
no `MSGB_ABORT` / out-of-bounds access is reachable from sercomm's calls.
-/
import OsmoVerif.Lemmas.Msgb
import OsmoVerif.Lemmas.Sercomm
import OsmoVerif.Model.SercommMsgb

namespace OsmoVerif.SercommMsgb
open OsmoVerif.Sercomm OsmoVerif.Msgb OsmoVerif.Gen.Sercomm

/-- the octets from offset `off` to `tail` -/
def bodyFrom (m : Msgb) (off : Nat) : List Nat := (m.mem.drop off).take (m.tail - off)

theorem bodyFrom_data (m : Msgb) : bodyFrom m m.data = body m := rfl

/-- the abstract queues: every buffer is its octets -/
def absQueues (qs : List (List Msgb)) : List (List Buf) := qs.map (·.map body)

structure TxRel (ct : CTx) (t : Tx) : Prop where
  queues : t.queues = absQueues ct.queues
  qinv : ∀ q ∈ ct.queues, ∀ m ∈ q, Inv m
  state : t.state = ct.state
  msg : match ct.msg with
    | none => t.msg = none ∧ ct.state ≠ .escape
    | some m => Inv m ∧ ct.nextChar ≤ m.tail ∧ t.msg = some (bodyFrom m ct.nextChar) ∧
        (ct.state = .escape → ct.nextChar < m.tail)

theorem absQueues_modify (qs : List (List Msgb)) (d : Nat) (m : Msgb) :
    absQueues (qs.modify d (· ++ [m])) = (absQueues qs).modify d (· ++ [body m]) := by
  induction qs generalizing d with
  | nil => simp [absQueues]
  | cons q qs ih =>
    cases d with
    | zero => simp [absQueues]
    | succ d =>
      simp only [absQueues, List.modify_succ_cons, List.map_cons, List.cons.injEq, true_and] at ih ⊢
      exact ih d

theorem cdequeue_abs : ∀ (qs : List (List Msgb)),
    dequeueFirst (absQueues qs) = (cdequeueFirst qs).map (fun r => (body r.1, absQueues r.2))
  | [] => rfl
  | [] :: qs => by
    have ih := cdequeue_abs qs
    simp only [absQueues, List.map_cons, List.map_nil, dequeueFirst, cdequeueFirst] at ih ⊢
    rw [ih]
    cases cdequeueFirst qs <;> rfl
  | (m :: q) :: qs => by
    simp [absQueues, dequeueFirst, cdequeueFirst]

theorem cdequeue_at : ∀ (qs : List (List Msgb)) {m : Msgb} {qs' : List (List Msgb)},
    cdequeueFirst qs = some (m, qs') → ∃ i q, qs[i]? = some (m :: q) ∧ qs' = qs.set i q
  | [], _, _, h => nomatch h
  | [] :: qs, m, qs', h => by
    simp only [cdequeueFirst] at h
    split at h
    · rename_i m1 qs1 h1
      cases h
      obtain ⟨i, q, hi, rfl⟩ := cdequeue_at qs h1
      exact ⟨i + 1, q, hi, rfl⟩
    · cases h
  | (m0 :: q0) :: qs, m, qs', h => by
    cases h
    exact ⟨0, q0, rfl, rfl⟩

theorem liftM_ok {α : Type} {x : Except Fault α} {a : α} (h : x = .ok a) : liftM x = .ok a := by
  subst h; rfl

theorem absQueues_length (qs : List (List Msgb)) : (absQueues qs).length = qs.length := by
  simp [absQueues]

/-- `sercomm_sendmsg` on a buffer with two octets of headroom: never a fault, and the abstract step -/
theorem csendmsg_rel {ct : CTx} {t : Tx} (hr : TxRel ct t) {m : Msgb} (im : Inv m) (hh : 2 ≤ m.data)
    {d : Nat} (hd : d < ct.queues.length) :
    ∃ ct' t', csendmsg ct d m = .ok ct' ∧ sendmsg t d (body m) = some t' ∧ TxRel ct' t' ∧
      ct'.queues.length = ct.queues.length := by
  obtain ⟨m', hm'⟩ : ∃ m', pushBytes m [d, hdlcCUi] = .ok m' := ⟨_, pushBytes_fits im hh⟩
  obtain ⟨im', hb, -⟩ := pushBytes_ok im hm'
  refine ⟨{ ct with queues := ct.queues.modify d (· ++ [m']) },
    { t with queues := t.queues.modify d (· ++ [d :: hdlcCUi :: body m]) }, ?_, ?_, ?_, by simp⟩
  · simp only [csendmsg, bind, Except.bind, liftM_ok hm', hd, if_true]
  · have : d < t.queues.length := by rw [hr.queues, absQueues_length]; exact hd
    simp [sendmsg, this]
  · refine ⟨?_, ?_, hr.state, hr.msg⟩
    · simp only [hr.queues, absQueues_modify, hb]
      rfl
    · intro q hq x hx
      obtain ⟨l₁, a, l₂, e, -, hm⟩ := List.exists_of_modify (· ++ [m']) hd
      rw [hm] at hq
      have hqi := hr.qinv
      rw [e] at hqi
      rcases List.mem_append.1 hq with hq | hq
      · exact hqi q (List.mem_append_left _ hq) x hx
      · rcases List.mem_cons.1 hq with rfl | hq
        · rcases List.mem_append.1 hx with hx | hx
          · exact hqi a (List.mem_append_right _ List.mem_cons_self) x hx
          · exact List.mem_singleton.1 hx ▸ im'
        · exact hqi q (List.mem_append_right _ (List.mem_cons_of_mem _ hq)) x hx

theorem bodyFrom_tail (m : Msgb) : bodyFrom m m.tail = [] := by simp [bodyFrom]

variable {m : Msgb} {size : Nat}

theorem bodyFrom_ge (m : Msgb) {off : Nat} (h : off ≥ m.tail) : bodyFrom m off = [] := by
  rw [bodyFrom, Nat.sub_eq_zero_of_le h, List.take_zero]

theorem bodyFrom_step (i : Inv m) {off : Nat} (h : off < m.tail) :
    ∃ c, readAt m off = .ok c ∧ bodyFrom m off = c :: bodyFrom m (off + 1) := by
  have hl : off < m.mem.length := by rw [i.mem]; have := i.te; omega
  refine ⟨m.mem[off], ?_, ?_⟩
  · simp [readAt, List.getElem?_eq_getElem hl]
  · exact drop_take_cons h (List.getElem?_eq_getElem hl)

theorem bodyFrom_set (i : Inv m) {off : Nat} (h : off < m.tail) (v : Nat) :
    ∃ m', writeAt m off v = .ok m' ∧ Inv m' ∧ m'.tail = m.tail ∧ m'.data = m.data ∧
      bodyFrom m' off = v :: bodyFrom m (off + 1) ∧ bodyFrom m' (off + 1) = bodyFrom m (off + 1) := by
  have hl : off < m.mem.length := by rw [i.mem]; have := i.te; omega
  have hw : writeAt m off v = .ok { m with mem := m.mem.set off v } := by simp [writeAt, hl]
  refine ⟨_, hw, writeAt_inv i hw, rfl, rfl, ?_, ?_⟩
  · simp only [bodyFrom]
    rw [drop_take_cons (mem := m.mem.set off v) (v := v) h (by simp [hl])]
    rw [drop_set_gt _ _ _ _ (by omega)]
  · simp only [bodyFrom]
    rw [drop_set_gt _ _ _ _ (by omega)]

/-- `sercomm_drv_pull`: never a fault (no read at or beyond `tail`, no access outside the array), and
the abstract step -/
theorem cpull_rel {ct : CTx} {t : Tx} (hr : TxRel ct t) :
    ∃ ct', cpull ct = .ok (ct', (pull t).2) ∧ (pull t).2 ≠ .fault ∧ TxRel ct' (pull t).1 ∧
      ct'.queues.length = ct.queues.length := by
  obtain ⟨hq, hqi, hs, hm⟩ := hr
  cases hcm : ct.msg with
  | none =>
    rw [hcm] at hm
    obtain ⟨htm, hne⟩ := hm
    have hdq := cdequeue_abs ct.queues
    rw [← hq] at hdq
    cases hcd : cdequeueFirst ct.queues with
    | none =>
      rw [hcd] at hdq
      rw [pull_idle htm hdq]
      exact ⟨ct, by simp only [cpull, hcm, hcd], by simp, ⟨hq, hqi, hs, by rw [hcm]; exact ⟨htm, hne⟩⟩, rfl⟩
    | some r =>
      obtain ⟨m, qs⟩ := r
      rw [hcd] at hdq
      obtain ⟨j, q, hj, rfl⟩ := cdequeue_at ct.queues hcd
      have hmq := List.mem_of_getElem? hj
      have im : Inv m := hqi _ hmq m List.mem_cons_self
      rw [pull_start htm hdq]
      refine ⟨{ ct with queues := ct.queues.set j q, msg := some m, nextChar := m.data },
        by simp only [cpull, hcm, hcd, flag_eq], by simp,
        ⟨rfl, fun q' hq' x hx => ?_, hs, im, im.dt, rfl, fun e => absurd e hne⟩, List.length_set⟩
      rcases List.mem_or_eq_of_mem_set hq' with hq' | rfl
      · exact hqi q' hq' x hx
      · exact hqi _ hmq x (List.mem_cons_of_mem _ hx)
  | some m =>
    rw [hcm] at hm
    obtain ⟨im, hnt, htm, hesc⟩ := hm
    by_cases he : ct.state = .escape
    · -- the inverted octet behind the escape octet
      have hlt := hesc he
      obtain ⟨x, hrd, hbf⟩ := bodyFrom_step im hlt
      rw [hbf] at htm
      rw [pull_escaped htm (hs.trans he)]
      refine ⟨{ ct with nextChar := ct.nextChar + 1, state := .data }, ?_, by simp,
        ⟨hq, hqi, rfl, by simp only [hcm]; exact ⟨im, hlt, trivial, fun e => by cases e⟩⟩, rfl⟩
      simp only [cpull, hcm, he, if_true, bind, Except.bind, liftM_ok hrd]
    · have hte : t.state ≠ .escape := hs ▸ he
      by_cases hge : ct.nextChar ≥ m.tail
      · -- `next_char >= tail`: the closing flag
        rw [bodyFrom_ge m hge] at htm
        rw [pull_end htm hte]
        exact ⟨{ ct with msg := none, nextChar := 0 }, by simp only [cpull, hcm, he, hge, if_true, if_false, flag_eq],
          by simp, ⟨hq, hqi, hs, rfl, he⟩, rfl⟩
      · have hlt : ct.nextChar < m.tail := Nat.lt_of_not_le hge
        obtain ⟨x, hrd, hbf⟩ := bodyFrom_step im hlt
        rw [hbf] at htm
        cases hn : needsEscape x
        · rw [pull_plain htm hte (needsEscape_eq x ▸ hn)]
          refine ⟨{ ct with nextChar := ct.nextChar + 1 }, ?_, by simp,
            ⟨hq, hqi, hs, by simp only [hcm]; exact ⟨im, hlt, trivial, fun e => absurd e he⟩⟩, rfl⟩
          simp only [cpull, hcm, he, hge, if_false, bind, Except.bind, liftM_ok hrd, hn, Bool.false_eq_true]
        · -- `*next_char ^= (1 << 5)` in the buffer
          obtain ⟨m', hw, im', ht', -, hb1, -⟩ := bodyFrom_set im hlt (u8 (x ^^^ txEscXor))
          rw [pull_esc htm hte (needsEscape_eq x ▸ hn)]
          refine ⟨{ ct with msg := some m', state := .escape }, ?_, by simp,
            ⟨hq, hqi, rfl, im', ht' ▸ hnt, by rw [hb1], fun _ => ht' ▸ hlt⟩, rfl⟩
          simp only [cpull, hcm, he, hge, if_false, bind, Except.bind, liftM_ok hrd, hn, if_true, liftM_ok hw,
            escape_eq]

/-- a receive buffer: allocated by `sercomm_alloc_msgb(size)`, filled by `msgb_put` only -/
structure RxBuf (size : Nat) (m : Msgb) : Prop where
  inv : Inv m
  data : m.data = 4
  dataLen : m.dataLen = size + 4

structure RxRel (size : Nat) (cr : CRx) (r : Rx) : Prop where
  state : r.state = cr.state
  dlci : r.dlci = cr.dlci
  ctrl : r.ctrl = cr.ctrl
  abort : r.abort = false
  msg : match cr.msg with
    | none => r.msg = none
    | some m => RxBuf size m ∧ r.msg = some (body m)

inductive EvRel (size : Nat) : CEv → Ev → Prop
  | deliver (d : Nat) (m : Msgb) : RxBuf size m → EvRel size (.deliver d m) (.deliver d (body m))
  | overflow : EvRel size .overflow .overflow

theorem scBuf_rxBuf (h : size ≤ 65531) : RxBuf size (scBuf size) :=
  ⟨scBuf_inv h, rfl, rfl⟩

/-- a receive buffer holds at most `size` octets … -/
theorem RxBuf.len_le (h : RxBuf size m) : m.len ≤ size := by
  have := h.inv.sum; have := h.inv.te; have := h.data; have := h.dataLen
  omega

/-- … and `msgb_tailroom` is what is left of them -/
theorem RxBuf.tailroom (h : RxBuf size m) :
    tailroom m = ((size - m.len : Nat) : Int) := by
  rw [tailroom_eq h.inv, h.dataLen, ← h.inv.sum, h.data, Nat.add_comm size 4, Nat.add_sub_add_left]

theorem rxBuf_le (h : RxBuf size m) : (body m).length ≤ size :=
  body_length h.inv ▸ h.len_le

theorem rxBuf_tailroom (h : RxBuf size m) :
    tailroom m = 0 ↔ (body m).length = size := by
  have := h.len_le
  rw [h.tailroom, body_length h.inv]
  omega

/-- `ptr = msgb_put(msg, 1); *ptr = ch` behind the tailroom test: never aborts -/
theorem cstore_ok (h : RxBuf size m) (ht : tailroom m ≠ 0) (ch : Nat) :
    ∃ m', cstore m ch = .ok m' ∧ RxBuf size m' ∧ body m' = body m ++ [ch] := by
  have hlt : m.tail + 1 ≤ m.dataLen := by
    have := h.inv.te
    rw [tailroom_eq h.inv] at ht
    omega
  have hm' := putBytes_fits h.inv (bs := [ch]) hlt
  obtain ⟨i', hb, hd, -, hdl⟩ := putBytes_ok h.inv hm'
  exact ⟨_, by simp [cstore, liftM_ok hm'], ⟨i', by rw [hd, h.data], by rw [hdl, h.dataLen]⟩, hb⟩


/-- event lists correspond one by one -/
def EvsRel (size : Nat) : List CEv → List Ev → Prop
  | [], [] => True
  | a :: as, b :: bs => EvRel size a b ∧ EvsRel size as bs
  | _, _ => False

theorem cdispatch_rel (c : RxCfg) (size d : Nat) (h : RxBuf size m) :
    EvsRel size (cdispatch c d m) (dispatch c d (body m)) := by
  simp only [cdispatch, dispatch]
  split
  · trivial
  · exact ⟨.deliver d m h, trivial⟩

/-- `sercomm_drv_rx_char` on real buffers: never a fault (`msgb_put` is always behind a non-zero
tailroom), and the abstract step -/
theorem crxChar_rel {c : RxCfg} (h1 : 1 ≤ size) (h2 : size ≤ 65531) (hc : c.cap = size)
    {cr : CRx} {r : Rx} (hr : RxRel size cr r) (ch : Nat) :
    ∃ cr' ces, crxChar c size cr ch = .ok (cr', ces) ∧ RxRel size cr' (rxChar c r ch).1 ∧
      EvsRel size ces (rxChar c r ch).2 := by
  obtain ⟨cm, st, d, k⟩ := cr
  obtain ⟨rm, st', d', k', a⟩ := r
  obtain ⟨hst, hd, hk, ha, hm⟩ := hr
  simp only at hst hd hk ha hm
  subst hst hd hk ha
  -- the buffer the call works on
  obtain ⟨m0, hm0, hb0, hbuf⟩ : ∃ m0, crxBuf size ⟨cm, st', d', k'⟩ = .ok m0 ∧ RxBuf size m0 ∧ bufOf rm = body m0 := by
    cases cm with
    | none =>
      simp only at hm
      exact ⟨scBuf size, by simp [crxBuf, liftM_ok (sercommAlloc_small h1 h2)], scBuf_rxBuf h2,
        by rw [hm, scBuf_body]; rfl⟩
    | some m =>
      simp only at hm
      exact ⟨m, rfl, hm.1, by rw [hm.2]; rfl⟩
  rw [rxChar_norm, hbuf]
  have hle := rxBuf_le hb0
  have hfull := rxBuf_tailroom hb0
  simp only [crxChar, bind, Except.bind, hm0]
  by_cases ht : tailroom m0 = 0
  · have hl : (body m0).length = c.cap := by rw [hc]; exact hfull.1 ht
    rw [rx_full c hl]
    simp only [crxCharOn, ht, if_true, bind, Except.bind, liftM_ok (sercommAlloc_small h1 h2)]
    exact ⟨_, _, rfl, ⟨rfl, rfl, rfl, rfl, ⟨scBuf_rxBuf h2, by rw [scBuf_body]⟩⟩, ⟨.overflow, trivial⟩⟩
  · have hlt : (body m0).length < c.cap :=
      Nat.lt_of_le_of_ne (hc ▸ hle) fun e => ht (hfull.2 (hc ▸ e))
    -- the state of the receiver is copied in every branch; the buffer is `m0` or `m0` with one octet more
    have keep {st : St} {d k : Nat} {m : Msgb} (hb : RxBuf size m) :
        RxRel size ⟨some m, st, d, k⟩ ⟨some (body m), st, d, k, false⟩ := ⟨rfl, rfl, rfl, rfl, hb, rfl⟩
    rw [rxChar_lt c hlt]
    simp only [crxCharOn, ht, if_false]
    cases st' with
    | waitStart =>
      simp only [flag_eq, ne_eq, ite_not]
      split <;> exact ⟨_, _, rfl, keep hb0, trivial⟩
    | addr | ctrl => exact ⟨_, _, rfl, keep hb0, trivial⟩
    | data =>
      by_cases he : ch = 0x7D
      · simp only [escape_eq, he, if_true]
        exact ⟨_, _, rfl, keep hb0, trivial⟩
      · by_cases hf : ch = 0x7E
        · simp only [escape_eq, flag_eq, hf, if_true]
          exact ⟨_, _, rfl, ⟨rfl, rfl, rfl, rfl, rfl⟩, cdispatch_rel c size d' hb0⟩
        · obtain ⟨m', hs, hb', hbody⟩ := cstore_ok hb0 ht ch
          simp only [escape_eq, flag_eq, he, hf, if_false, hs, bind, Except.bind]
          exact ⟨_, _, rfl, hbody ▸ keep hb', trivial⟩
    | escape =>
      obtain ⟨m', hs, hb', hbody⟩ := cstore_ok hb0 ht (u8 (ch ^^^ rxEscXor))
      simp only [hs, bind, Except.bind]
      exact ⟨_, _, rfl, rxXor_eq ▸ hbody ▸ keep hb', trivial⟩

theorem payload_eq_body (i : Inv m) : payload m = some (body m) := by
  have := i.dt; have := i.te; have := i.len; have := i.mem
  simp only [payload, body]
  rw [if_pos (by omega), i.len]

/-- the two machines side by side -/
structure WRel (size nq : Nat) (cw : CWorld) (w : World) : Prop where
  tx : TxRel cw.tx w.tx
  rx : RxRel size cw.rx w.rx
  trace : cw.trace = w.trace
  nofault : w.fault = false
  nq : cw.tx.queues.length = nq

/-- the configurations the refinement is about: a receive buffer size `sercomm_alloc_msgb` can serve, the
echo handlers inside the queue array -/
structure CfgRel (c : Cfg) (size nq : Nat) : Prop where
  pos : 1 ≤ size
  le : size ≤ 65531
  cap : c.cap = size
  echo : ∀ d, c.echo d = true → d < nq

variable {c : Cfg} {size nq : Nat} {allocOf : Nat → Nat} {cw : CWorld} {w : World}

theorem capplyEcho_rel (hecho : ∀ d, c.echo d = true → d < nq) :
    ∀ (ces : List CEv) (es : List Ev) {cw : CWorld} {w : World}, WRel size nq cw w → EvsRel size ces es →
      ∃ cw', capplyEcho c cw ces = .ok cw' ∧ WRel size nq cw' (applyEcho c w es)
  | [], [], cw, w, hw, _ => ⟨cw, rfl, hw⟩
  | [], _ :: _, _, _, _, h => absurd h (by simp [EvsRel])
  | _ :: _, [], _, _, _, h => absurd h (by simp [EvsRel])
  | ce :: ces, e :: es, cw, w, hw, h => by
    obtain ⟨he, hrest⟩ := h
    cases he with
    | overflow =>
      simp only [capplyEcho, applyEcho]
      exact capplyEcho_rel hecho ces es ⟨hw.tx, hw.rx, by simp [hw.trace], hw.nofault, hw.nq⟩ hrest
    | deliver d m hb =>
      by_cases hd : c.echo d = true
      · have hlt : d < cw.tx.queues.length := by rw [hw.nq]; exact hecho d hd
        obtain ⟨ct', t', hs, ha, hrel, hlen⟩ := csendmsg_rel hw.tx hb.inv (by rw [hb.data]; omega) hlt
        simp only [capplyEcho, applyEcho, hd, if_true, bind, Except.bind, hs, ha]
        exact capplyEcho_rel hecho ces es ⟨hrel, hw.rx, hw.trace, hw.nofault, by rw [hlen]; exact hw.nq⟩ hrest
      · simp only [capplyEcho, applyEcho, hd, payload_eq_body hb.inv]
        exact capplyEcho_rel hecho ces es ⟨hw.tx, hw.rx, by simp [hw.trace], hw.nofault, hw.nq⟩ hrest

theorem rxOctet_rel (S : CfgRel c size nq) (hw : WRel size nq cw w) (ch : Nat) :
    ∃ cw', CWorld.rxOctet c size cw ch = .ok cw' ∧ WRel size nq cw' (World.rxOctet c w ch) := by
  obtain ⟨cr', ces, hx, hrx, hev⟩ := crxChar_rel (c := c.toRxCfg) S.pos S.le S.cap hw.rx ch
  simp only [CWorld.rxOctet, bind, Except.bind, hx, World.rxOctet]
  exact capplyEcho_rel S.echo ces _ ⟨hw.tx, hrx, hw.trace, hw.nofault, hw.nq⟩ hev

theorem rxOctets_rel (S : CfgRel c size nq) :
    ∀ (octets : List Nat) {cw : CWorld} {w : World}, WRel size nq cw w →
      ∃ cw', CWorld.rxOctets c size cw octets = .ok cw' ∧ WRel size nq cw' (octets.foldl (World.rxOctet c) w)
  | [], cw, w, hw => ⟨cw, rfl, hw⟩
  | ch :: rest, cw, w, hw => by
    obtain ⟨cw1, hx, hw1⟩ := rxOctet_rel S hw ch
    obtain ⟨cw2, hy, hw2⟩ := rxOctets_rel S rest hw1
    exact ⟨cw2, by simp only [CWorld.rxOctets, bind, Except.bind, hx, hy], by simpa using hw2⟩

/-- `memcpy(msgb_put(msg, n), payload, n)` into a fresh `sercomm_alloc_msgb(a)` buffer with `n ≤ a` -/
theorem putBytes_scBuf {a : Nat} {p : List Nat} (h2 : a ≤ 65531) (hp : p.length ≤ a) :
    ∃ m, putBytes (scBuf a) p = .ok m ∧ Inv m ∧ m.data = 4 ∧ body m = p := by
  have hi := scBuf_inv h2
  have hm := putBytes_fits hi (bs := p) (Nat.add_comm p.length 4 ▸ Nat.add_le_add_right hp 4)
  obtain ⟨i, hbody, hd, -⟩ := putBytes_ok hi hm
  exact ⟨_, hm, i, hd, by rw [hbody, scBuf_body]; rfl⟩

/-- the caller's buffer: `sercomm_alloc_msgb(a)` then `memcpy(msgb_put(msg, n), payload, n)` with `n ≤ a` -/
theorem mkMsg_ok {a : Nat} {p : List Nat} (h1 : 1 ≤ a) (h2 : a ≤ 65531) (hp : p.length ≤ a) :
    ∃ m, mkMsg a p = .ok m ∧ Inv m ∧ m.data = 4 ∧ body m = p := by
  obtain ⟨m, hm, h⟩ := putBytes_scBuf h2 hp
  exact ⟨m, by simp [mkMsg, bind, Except.bind, liftM_ok (sercommAlloc_small h1 h2), liftM_ok hm], h⟩

/-- which operations the theorem is about: queue indices inside the array (the code does not check
them), the caller's buffer big enough for its payload -/
def OpOk (nq : Nat) (allocOf : Nat → Nat) : Sercomm.Op → Prop
  | .send d p => d < nq ∧ 1 ≤ allocOf p.length ∧ allocOf p.length ≤ 65531 ∧ p.length ≤ allocOf p.length
  | _ => True

theorem step_rel (S : CfgRel c size nq) (hw : WRel size nq cw w) (op : Sercomm.Op) (hop : OpOk nq allocOf op) :
    ∃ cw', CWorld.step c size allocOf cw op = .ok cw' ∧ WRel size nq cw' (World.step c w op) := by
  -- what `sercomm_drv_pull` does, for the two operations that call it
  obtain ⟨ct', hp, hnf, hrel, hlen⟩ := cpull_rel hw.tx
  rcases hpr : Sercomm.pull w.tx with ⟨t', r⟩
  rw [hpr] at hp hnf hrel
  have hw' (o : Obs) : WRel size nq { cw with tx := ct', trace := o :: cw.trace }
      { w with tx := t', trace := o :: w.trace } :=
    ⟨hrel, hw.rx, by simp [hw.trace], hw.nofault, hlen ▸ hw.nq⟩
  cases op with
  | send d p =>
    obtain ⟨hd, ha1, ha2, hp⟩ := hop
    obtain ⟨m, hm, im, hdat, hbody⟩ := mkMsg_ok ha1 ha2 hp
    obtain ⟨ct', t', hs, ha, hrel, hlen⟩ := csendmsg_rel hw.tx im (by rw [hdat]; omega) (by rw [hw.nq]; exact hd)
    rw [hbody] at ha
    simp only [CWorld.step, bind, Except.bind, hm, hs, World.step, ha]
    exact ⟨_, rfl, ⟨hrel, hw.rx, hw.trace, hw.nofault, by rw [hlen]; exact hw.nq⟩⟩
  | pull =>
    simp only [CWorld.step, bind, Except.bind, hp, World.step, hpr]
    cases r with
    | octet _ | empty => exact ⟨_, rfl, hw' _⟩
    | fault => exact absurd rfl hnf
  | loop =>
    simp only [CWorld.step, bind, Except.bind, hp, World.step, hpr]
    cases r with
    | octet ch => exact rxOctet_rel S (hw' _) ch
    | empty => exact ⟨_, rfl, hw' _⟩
    | fault => exact absurd rfl hnf
  | rx octets => exact rxOctets_rel S octets hw

theorem init_rel (size nq : Nat) : WRel size nq (CWorld.init nq) (World.init nq) := by
  refine ⟨⟨?_, ?_, rfl, ⟨rfl, by simp [CWorld.init, CTx.init]⟩⟩, ⟨rfl, rfl, rfl, rfl, rfl⟩, rfl, rfl, by simp [CWorld.init, CTx.init]⟩
  · simp [World.init, Tx.init, CWorld.init, CTx.init, absQueues]
  · intro q hq m hm
    simp only [CWorld.init, CTx.init, List.mem_replicate] at hq
    rw [hq.2] at hm
    simp at hm

def OpsOk (nq : Nat) (allocOf : Nat → Nat) (ops : List Sercomm.Op) : Prop := ∀ op ∈ ops, OpOk nq allocOf op

theorem run_rel (S : CfgRel c size nq) :
    ∀ (ops : List Sercomm.Op) {cw : CWorld} {w : World}, WRel size nq cw w → OpsOk nq allocOf ops →
      ∃ cw', CWorld.run c size allocOf cw ops = .ok cw' ∧ WRel size nq cw' (World.run c w ops)
  | [], cw, w, hw, _ => ⟨cw, rfl, hw⟩
  | op :: ops, cw, w, hw, hops => by
    obtain ⟨cw1, hx, hw1⟩ := step_rel (allocOf := allocOf) S hw op (hops op List.mem_cons_self)
    obtain ⟨cw2, hy, hw2⟩ := run_rel S ops hw1 (fun o ho => hops o (List.mem_cons_of_mem _ ho))
    exact ⟨cw2, by simp only [CWorld.run, bind, Except.bind, hx, hy], by simpa [World.run] using hw2⟩

end OsmoVerif.SercommMsgb
