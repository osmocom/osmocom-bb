/- Lemmas on the association-list model of Python dicts and on the callbacks (C16). -/
import OsmoVerif.Spec.Codec
namespace OsmoVerif.Codec

/-! ## dicts -/

theorem Vals.keys_append (a b : Vals) : Vals.keys (a ++ b) = Vals.keys a ++ Vals.keys b :=
  List.map_append

theorem Vals.keys_cons (k : String) (x : Val) (a : Vals) : Vals.keys ((k, x) :: a) = k :: Vals.keys a := rfl

theorem Vals.keys_nil : Vals.keys [] = [] := rfl

theorem Vals.get_cons_self (n : String) (x : Val) (r : Vals) : Vals.get ((n, x) :: r) n = .ok x := by
  rw [Vals.get, if_pos rfl]

theorem Vals.get_cons_ne {k n : String} (x : Val) (r : Vals) (h : k ≠ n) :
    Vals.get ((k, x) :: r) n = Vals.get r n := by
  rw [Vals.get, if_neg h]

theorem Vals.get_append_of_ok (pre r : Vals) (n : String) (x : Val) (h : Vals.get pre n = .ok x) :
    Vals.get (pre ++ r) n = .ok x := by
  induction pre with
  | nil => cases h
  | cons kv pre ih =>
    obtain ⟨k, v⟩ := kv
    by_cases hk : k = n
    · subst hk; rw [Vals.get_cons_self] at h; rw [List.cons_append, Vals.get_cons_self, h]
    · rw [Vals.get_cons_ne _ _ hk] at h
      rw [List.cons_append, Vals.get_cons_ne _ _ hk]
      exact ih h

theorem Vals.get_append_of_not_mem (pre r : Vals) (n : String) (h : n ∉ Vals.keys pre) :
    Vals.get (pre ++ r) n = Vals.get r n := by
  induction pre with
  | nil => rfl
  | cons kv pre ih =>
    rw [Vals.keys_cons, List.mem_cons, not_or] at h
    rw [List.cons_append, Vals.get_cons_ne _ _ (Ne.symm h.1)]
    exact ih h.2

theorem Vals.get_mid (pre post : Vals) (n : String) (x : Val) (h : n ∉ pre.keys) :
    Vals.get (pre ++ [(n, x)] ++ post) n = .ok x := by
  rw [List.append_assoc, Vals.get_append_of_not_mem _ _ _ h]; exact Vals.get_cons_self ..

theorem Vals.get_error_key (v : Vals) (n : String) (e : Err) (h : Vals.get v n = .error e) : e = .key := by
  induction v with
  | nil => cases h; rfl
  | cons kx v ih =>
    obtain ⟨k, x⟩ := kx
    by_cases hk : k = n
    · subst hk; rw [Vals.get_cons_self] at h; cases h
    · rw [Vals.get_cons_ne _ _ hk] at h; exact ih h

theorem Vals.set_of_not_mem (pre : Vals) (n : String) (x : Val) (h : n ∉ Vals.keys pre) :
    Vals.set pre n x = pre ++ [(n, x)] := by
  induction pre with
  | nil => rfl
  | cons kv pre ih =>
    rw [Vals.keys_cons, List.mem_cons, not_or] at h
    rw [Vals.set, if_neg (Ne.symm h.1), ih h.2, List.cons_append]

theorem Vals.get_set_self (v : Vals) (n : String) (x : Val) : Vals.get (Vals.set v n x) n = .ok x := by
  induction v with
  | nil => exact Vals.get_cons_self ..
  | cons ky v ih =>
    rw [Vals.set]
    by_cases hk : ky.1 = n
    · rw [if_pos hk, hk]; exact Vals.get_cons_self ..
    · rw [if_neg hk, Vals.get_cons_ne _ _ hk]; exact ih

theorem Vals.get_set_ne (v : Vals) (n m : String) (x : Val) (h : m ≠ n) :
    Vals.get (Vals.set v n x) m = Vals.get v m := by
  induction v with
  | nil => rw [Vals.set, Vals.get_cons_ne _ _ (Ne.symm h)]
  | cons ky v ih =>
    obtain ⟨k, y⟩ := ky
    rw [Vals.set]
    by_cases hk : k = n
    · rw [if_pos hk, Vals.get_cons_ne _ _ (hk ▸ Ne.symm h), Vals.get_cons_ne _ _ (hk ▸ Ne.symm h)]
    · rw [if_neg hk]
      by_cases hm : k = m
      · rw [hm, Vals.get_cons_self, Vals.get_cons_self]
      · rw [Vals.get_cons_ne _ _ hm, Vals.get_cons_ne _ _ hm]; exact ih

/-- the names are distinct and none of them is a key of the dict yet -/
def Fresh (names : List String) (pre : Vals) : Prop := (∀ n ∈ names, n ∉ pre.keys) ∧ names.Nodup

theorem Fresh.of_nodup {names : List String} (h : names.Nodup) : Fresh names [] :=
  ⟨fun _ _ => List.not_mem_nil, h⟩

theorem Fresh.left {a b : List String} {pre : Vals} (h : Fresh (a ++ b) pre) : Fresh a pre :=
  ⟨fun n hn => h.1 n (List.mem_append_left _ hn), (List.nodup_append.1 h.2).1⟩

theorem Fresh.right {a b : List String} {pre : Vals} (h : Fresh (a ++ b) pre) : Fresh b pre :=
  ⟨fun n hn => h.1 n (List.mem_append_right _ hn), (List.nodup_append.1 h.2).2.1⟩

theorem Fresh.right_append {a b : List String} {pre c : Vals} (h : Fresh (a ++ b) pre)
    (hc : ∀ x ∈ c.keys, x ∈ a) : Fresh b (pre ++ c) := by
  refine ⟨fun n hn => ?_, h.right.2⟩
  rw [Vals.keys_append, List.mem_append, not_or]
  exact ⟨h.right.1 n hn, fun hnc => (List.nodup_append.1 h.2).2.2 n (hc n hnc) n hn rfl⟩

/-! ## presence callbacks -/

def Pres.reads : Pres → List String
  | .always => []
  | .flagTrue n | .flagFalse n => [n]

theorem getPres_error {p : Pres} {v : Vals} {e : Err} (h : getPres p v = .error e) : e = .key := by
  cases p with
  | always => cases h
  | flagTrue n | flagFalse n =>
    simp only [getPres] at h
    cases hg : Vals.get v n with
    | error e' => rw [hg] at h; cases h; exact Vals.get_error_key _ _ _ hg
    | ok x => rw [hg] at h; cases h

/-- presence evaluated on the decoded prefix agrees with presence evaluated on the whole dict -/
theorem getPres_append (p : Pres) (pre r : Vals) (b : Bool) (h : getPres p pre = .ok b) :
    getPres p (pre ++ r) = .ok b := by
  cases p with
  | always => exact h
  | flagTrue n | flagFalse n =>
    simp only [getPres] at h ⊢
    cases hg : Vals.get pre n with
    | error e => rw [hg] at h; cases h
    | ok v => rw [Vals.get_append_of_ok pre r n v hg]; rwa [hg] at h

theorem getPres_set_ne (p : Pres) (v : Vals) (n : String) (x : Val) (h : n ∉ p.reads) :
    getPres p (Vals.set v n x) = getPres p v := by
  cases p with
  | always => rfl
  | flagTrue m | flagFalse m =>
    simp only [getPres]
    rw [Vals.get_set_ne v n m x (fun e => h (e ▸ List.mem_singleton_self m))]

/-! ## length callbacks -/

theorem getLen_append (ld : LenD) (pre r : Vals) (dlen n : Nat) (h : getLen ld pre dlen = .ok n) :
    getLen ld (pre ++ r) dlen = .ok n := by
  cases ld with
  | fixed k => exact h
  | rest => exact h
  | thresh t a b => exact h
  | ofField f | table f tbl =>
    simp only [getLen] at h ⊢
    cases hg : Vals.get pre f with
    | error e => rw [hg] at h; cases h
    | ok v => rw [Vals.get_append_of_ok pre r f v hg]; rwa [hg] at h

theorem lenOK_iff (ld : LenD) (pre : Vals) (L rest : Nat) :
    lenOK ld pre L rest = true ↔ getLen ld pre (L + rest) = .ok L := by
  unfold lenOK
  cases getLen ld pre (L + rest) <;> simp

theorem getLen_spare_indep (ld : LenD) (h : wfSpareLen ld = true) (pre : Vals) (a b : Nat) :
    getLen ld pre a = getLen ld pre b := by
  cases ld with
  | fixed n =>
    have : n ≠ 0 := by simpa [wfSpareLen, Nat.pos_iff_ne_zero] using h
    simp only [getLen, this, if_false]
  | rest => cases h
  | thresh t a b => cases h
  | ofField f => rfl
  | table f tbl => rfl

theorem selfLen_of_getLen {ld : LenD} {pre : Vals} {dlen L : Nat} (h : getLen ld pre dlen = .ok L)
    (hs : ld.selfLen > 0) : L = ld.selfLen := by
  cases ld with
  | fixed n =>
    have hn : n ≠ 0 := Nat.pos_iff_ne_zero.1 hs
    rw [getLen, if_neg hn] at h
    cases h; rfl
  | _ => cases hs

theorem fillerBytes_length (filler : List Nat) (n : Nat) : (fillerBytes filler n).length = n * filler.length := by
  induction n with
  | zero => simp [fillerBytes]
  | succ n ih => simp [fillerBytes, ih, Nat.succ_mul, Nat.add_comm]

end OsmoVerif.Codec
