/-
Helper lemmas about `OsmoVerif.Model.Clck` (used by `Props/C09.lean`).
-/
import OsmoVerif.Model.Clck

namespace OsmoVerif.Clck

/-! ### list helpers -/

theorem mem_take_of_getElem? {α : Type} {l : List α} {j k : Nat} {d : α} (h : l[j]? = some d)
    (hj : j < k) : d ∈ l.take k := by
  apply List.mem_of_getElem? (i := j)
  rw [List.getElem?_take, if_pos hj, h]

theorem mem_drop_take_of_getElem? {α : Type} {l : List α} {i j m : Nat} {d : α} (h : l[j]? = some d)
    (hi : i ≤ j) (hj : j < i + m) : d ∈ (l.drop i).take m := by
  apply mem_take_of_getElem? (j := j - i) _ (by omega)
  rw [List.getElem?_drop]
  have : i + (j - i) = j := by omega
  rw [this, h]

/-! ### decimal rendering -/

theorem decValue_append_single (xs : List Nat) (c : Nat) :
    decValue (xs ++ [c]) = 10 * decValue xs + (c - 48) := by
  simp only [decValue, List.foldl_append, List.foldl_cons, List.foldl_nil]

theorem decValue_decDigitsAux : ∀ (fuel n : Nat), n ≤ fuel → decValue (decDigitsAux fuel n) = n := by
  intro fuel
  induction fuel with
  | zero =>
    intro n h
    have : n = 0 := by omega
    subst this
    rfl
  | succ f ih =>
    intro n h
    unfold decDigitsAux
    by_cases h10 : n < 10
    · rw [if_pos h10]
      simp only [decValue, List.foldl_cons, List.foldl_nil]
      omega
    · rw [if_neg h10, decValue_append_single, ih (n / 10) (by omega)]
      omega

theorem decDigitsAux_digits : ∀ (fuel n : Nat), ∀ c ∈ decDigitsAux fuel n, 48 ≤ c ∧ c ≤ 57 := by
  intro fuel
  induction fuel with
  | zero =>
    intro n c hc
    simp only [decDigitsAux, List.mem_singleton] at hc
    omega
  | succ f ih =>
    intro n c hc
    unfold decDigitsAux at hc
    by_cases h10 : n < 10
    · rw [if_pos h10] at hc
      simp only [List.mem_singleton] at hc
      omega
    · rw [if_neg h10] at hc
      rcases List.mem_append.1 hc with h | h
      · exact ih _ _ h
      · simp only [List.mem_singleton] at h
        omega

/-! ### one loop iteration -/

theorem deadline_fst (c : Cfg) (s : Loop) :
    (deadline c s).1 = max (s.tNext + (c.tTick : Int)) s.now := by
  unfold deadline
  dsimp only
  split <;> dsimp only <;> omega

theorem deadline_snd (c : Cfg) (s : Loop) :
    (deadline c s).2 = max 0 (s.tNext + (c.tTick : Int) - s.now) := by
  unfold deadline
  dsimp only
  split <;> dsimp only <;> omega

/-- the wait ends exactly at the (possibly reset) deadline -/
theorem deadline_now (c : Cfg) (s : Loop) : s.now + (deadline c s).2 = (deadline c s).1 := by
  rw [deadline_fst, deadline_snd]; omega

theorem wrap_ne_zero : Gen.clckWrap ≠ 0 := by decide

theorem sendClckInd_next (c : Cfg) (src : Nat) (hp : 0 < c.period) :
    (sendClckInd c src).next = .ok ((src + 1) % Gen.clckWrap) := by
  unfold sendClckInd
  rw [if_neg (by omega)]
  dsimp only
  rw [if_neg wrap_ne_zero]

theorem sendClckInd_sends (c : Cfg) (src : Nat) (hp : 0 < c.period) :
    (sendClckInd c src).sends =
      if src % c.period = 0 then c.links.map (fun l => (l, payload src)) else [] := by
  unfold sendClckInd
  rw [if_neg (by omega)]

theorem sendClckInd_call (c : Cfg) (src : Nat) (hp : 0 < c.period) :
    (sendClckInd c src).call = if c.handler then some src else none := by
  unfold sendClckInd
  rw [if_neg (by omega)]

/-- the tick fired from loop state `s` -/
def tickOf (c : Cfg) (s : Loop) : Tick :=
  { dt := (deadline c s).2, time := s.now + (deadline c s).2, fn := s.src,
    sends := (sendClckInd c s.src).sends, call := (sendClckInd c s.src).call }

/-- the loop state after the tick fired from `s` whose handler took `d` -/
def next (c : Cfg) (s : Loop) (d : Nat) : Loop :=
  { tNext := (deadline c s).1, now := s.now + (deadline c s).2 + (dur c d : Int),
    src := (s.src + 1) % Gen.clckWrap }

theorem loop_cons (c : Cfg) (s : Loop) (d : Nat) (ds : List Nat) (hp : 0 < c.period) :
    loop c s (d :: ds) = (tickOf c s :: (loop c (next c s d) ds).1, (loop c (next c s d) ds).2) := by
  rw [loop]
  simp only [sendClckInd_next c s.src hp]
  rfl

theorem loop_nil (c : Cfg) (s : Loop) :
    loop c s [] = ([], .broke (deadline c s).2 (s.now + (deadline c s).2) s.src) := by
  rw [loop]

/-- time of the tick fired from the state that follows a tick: one tick period after that tick,
or the end of its handler if that is later -/
theorem tickOf_next_time (c : Cfg) (s : Loop) (d : Nat) :
    (tickOf c (next c s d)).time = (tickOf c s).time + max (c.tTick : Int) (dur c d : Int) := by
  simp only [tickOf]
  rw [deadline_now c (next c s d), deadline_fst c (next c s d)]
  simp only [next]
  rw [deadline_now c s]
  omega

theorem tickOf_next_dt (c : Cfg) (s : Loop) (d : Nat) :
    (tickOf c (next c s d)).dt = max 0 ((c.tTick : Int) - (dur c d : Int)) := by
  simp only [tickOf]
  rw [deadline_snd c (next c s d)]
  simp only [next]
  rw [deadline_now c s]
  omega

/-! ### the whole loop -/

theorem loop_length (c : Cfg) (hp : 0 < c.period) :
    ∀ (ds : List Nat) (s : Loop), (loop c s ds).1.length = ds.length := by
  intro ds
  induction ds with
  | nil => intro s; rw [loop_nil]; rfl
  | cons d ds ih => intro s; rw [loop_cons c s d ds hp]; simp only [List.length_cons, ih]

theorem loop_head (c : Cfg) (hp : 0 < c.period) (ds : List Nat) (s : Loop) (a : Tick)
    (h : (loop c s ds).1[0]? = some a) : a = tickOf c s := by
  cases ds with
  | nil => rw [loop_nil] at h; nomatch h
  | cons d ds =>
    rw [loop_cons c s d ds hp] at h
    simp only [List.getElem?_cons_zero, Option.some.injEq] at h
    exact h.symm

/-- facts about a single tick that do not depend on its position -/
theorem loop_tick_local (c : Cfg) (hp : 0 < c.period) :
    ∀ (ds : List Nat) (s : Loop) (k : Nat) (a : Tick), (loop c s ds).1[k]? = some a →
      a.sends = (sendClckInd c a.fn).sends ∧ a.call = (sendClckInd c a.fn).call ∧ 0 ≤ a.dt := by
  intro ds
  induction ds with
  | nil => intro s k a h; rw [loop_nil] at h; nomatch h
  | cons d ds ih =>
    intro s k a h
    rw [loop_cons c s d ds hp] at h
    cases k with
    | zero =>
      simp only [List.getElem?_cons_zero, Option.some.injEq] at h
      subst h
      refine ⟨rfl, rfl, ?_⟩
      simp only [tickOf]
      rw [deadline_snd]; omega
    | succ k =>
      rw [List.getElem?_cons_succ] at h
      exact ih _ _ _ h

/-- every tick but the first has a predecessor, whose handler time decides when it fires -/
theorem loop_prev (c : Cfg) (hp : 0 < c.period) :
    ∀ (ds : List Nat) (s : Loop) (k : Nat) (b : Tick), (loop c s ds).1[k + 1]? = some b →
      ∃ a d, (loop c s ds).1[k]? = some a ∧ ds[k]? = some d ∧
        b.time = a.time + max (c.tTick : Int) (dur c d : Int) ∧
        b.fn = (a.fn + 1) % Gen.clckWrap ∧
        b.dt = max 0 ((c.tTick : Int) - (dur c d : Int)) := by
  intro ds
  induction ds with
  | nil => intro s k b h; rw [loop_nil] at h; nomatch h
  | cons d0 ds ih =>
    intro s k b hb
    rw [loop_cons c s d0 ds hp] at hb ⊢
    rw [List.getElem?_cons_succ] at hb
    cases k with
    | zero =>
      cases loop_head c hp ds (next c s d0) b hb
      exact ⟨_, d0, rfl, rfl, tickOf_next_time c s d0, rfl, tickOf_next_dt c s d0⟩
    | succ k => exact ih _ _ _ hb

theorem loop_consecutive (c : Cfg) (hp : 0 < c.period) (ds : List Nat) (s : Loop) (k : Nat) (a b : Tick) (d : Nat)
    (ha : (loop c s ds).1[k]? = some a) (hb : (loop c s ds).1[k + 1]? = some b) (hd : ds[k]? = some d) :
    b.time = a.time + max (c.tTick : Int) (dur c d : Int) ∧
    b.fn = (a.fn + 1) % Gen.clckWrap ∧
    b.dt = max 0 ((c.tTick : Int) - (dur c d : Int)) := by
  obtain ⟨a', d', ha', hd', h⟩ := loop_prev c hp ds s k b hb
  cases ha.symm.trans ha'
  cases hd.symm.trans hd'
  exact h

/-- under a positive period the worker never raises: it leaves through the breaker -/
theorem loop_end (c : Cfg) (hp : 0 < c.period) :
    ∀ (ds : List Nat) (s : Loop), ∃ dt t src, (loop c s ds).2 = .broke dt t src := by
  intro ds
  induction ds with
  | nil => intro s; rw [loop_nil]; exact ⟨_, _, _, rfl⟩
  | cons d ds ih => intro s; rw [loop_cons c s d ds hp]; exact ih _

/-! ### histories -/

theorem history_append (c : Cfg) : ∀ (xs ys : List Op) (o : Obj),
    history c o (xs ++ ys) =
      ((history c (history c o xs).1 ys).1, (history c o xs).2 ++ (history c (history c o xs).1 ys).2) := by
  intro xs
  induction xs with
  | nil => intro ys o; simp only [List.nil_append, history]
  | cons x xs ih =>
    intro ys o
    simp only [List.cons_append, history, ih, List.cons_append]

end OsmoVerif.Clck
