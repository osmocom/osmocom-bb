/- `_tdma_sched_bucket_sort`: the exchange sort on `seq[]` (C08). -/
import OsmoVerif.Lemmas.TdmaSchedBasic

set_option linter.unusedVariables false

namespace OsmoVerif.TdmaSched

/-! ### exchanging two entries of `seq[]` -/

/-- `k = seq[i]; seq[i] = seq[j]; seq[j] = k;` -/
def swap (seq : List Nat) (i j : Nat) : List Nat := (seq.set i (seq.getD j 0)).set j (seq.getD i 0)

theorem set_perm_cons (x : Nat) : ∀ (t : List Nat) (j : Nat), j < t.length →
    (t.getD j 0 :: t.set j x).Perm (x :: t)
  | [], _, h => nomatch h
  | y :: t, 0, _ => List.Perm.swap _ _ _
  | y :: t, j + 1, h =>
    (List.Perm.swap _ _ _).trans
      (((set_perm_cons x t j (by simpa using h)).cons y).trans (List.Perm.swap _ _ _))

theorem swap_perm : ∀ (l : List Nat) (i j : Nat), i < l.length → j < l.length → (swap l i j).Perm l
  | [], _, _, h, _ => nomatch h
  | x :: t, 0, 0, _, _ => by simp [swap]
  | x :: t, 0, j + 1, _, hj => set_perm_cons x t j (by simpa using hj)
  | x :: t, i + 1, 0, hi, _ => set_perm_cons x t i (by simpa using hi)
  | x :: t, i + 1, j + 1, hi, hj => (swap_perm t i j (by simpa using hi) (by simpa using hj)).cons x

theorem getD_set_eq {α : Type} (l : List α) (i : Nat) (a d : α) (h : i < l.length) :
    (l.set i a).getD i d = a := by
  simp [List.getD_eq_getElem?_getD, h]

theorem getD_set_ne {α : Type} (l : List α) (i k : Nat) (a d : α) (h : i ≠ k) :
    (l.set i a).getD k d = l.getD k d := by
  simp [List.getD_eq_getElem?_getD, List.getElem?_set_ne h]

theorem getD_swap (l : List Nat) (i j k : Nat) (hi : i < l.length) (hj : j < l.length) :
    (swap l i j).getD k 0 = if k = j then l.getD i 0 else if k = i then l.getD j 0 else l.getD k 0 := by
  unfold swap
  by_cases h1 : k = j
  · rw [if_pos h1, h1, getD_set_eq _ _ _ _ (by simpa using hj)]
  · rw [if_neg h1, getD_set_ne _ _ _ _ _ (Ne.symm h1)]
    by_cases h2 : k = i
    · rw [if_pos h2, h2, getD_set_eq _ _ _ _ hi]
    · rw [if_neg h2, getD_set_ne _ _ _ _ _ (Ne.symm h2)]

/-! ### the two loops -/

/-- item referenced by position `k` of `seq` (proof-level accessor; all uses are in bounds) -/
def itemAt (items : List Item) (seq : List Nat) (k : Nat) : Item :=
  items.getD (seq.getD k 0) zeroItem

def prioAt (items : List Item) (seq : List Nat) (k : Nat) : Int := (itemAt items seq k).prio

theorem prioAt_swap (items : List Item) (l : List Nat) (i j k : Nat) (hi : i < l.length) (hj : j < l.length) :
    prioAt items (swap l i j) k =
      if k = j then prioAt items l i else if k = i then prioAt items l j else prioAt items l k := by
  simp only [prioAt, itemAt, getD_swap l i j k hi hj]
  split
  · rfl
  · split <;> rfl

theorem perm_range_lt {seq : List Nat} {n : Nat} (hp : seq.Perm (List.range n)) (k : Nat) (hk : k < n) :
    seq.getD k 0 < n := by
  have hl : k < seq.length := by simpa [hp.length_eq] using hk
  have : seq.getD k 0 ∈ List.range n := hp.mem_iff.mp (by rw [getD_eq_getElem' seq k 0 hl]; exact List.getElem_mem hl)
  simpa using this

theorem sortInner_succ (items : List Item) (i rem j : Nat) (seq : List Nat) (itemI : Item)
    (hi : i < seq.length) (hj : j < seq.length) (hs : seq.getD j 0 < items.length) :
    sortInner items i (rem + 1) j seq itemI =
      if itemI.prio > prioAt items seq j then
        sortInner items i rem (j + 1) (swap seq i j) (itemAt items seq j)
      else sortInner items i rem (j + 1) seq itemI := by
  simp only [sortInner, bind, Except.bind, idx_ok_getD seq j 0 hj, idx_ok_getD items _ zeroItem hs,
    idx_ok_getD seq i 0 hi, setIdx_ok seq i _ hi, setIdx_ok (seq.set i _) j _ (by simpa using hj)]
  rfl

/-- The inner loop for position `i`, from `j` on, over the window `[i, n)` of `seq[]`: `item_i` is the
item at position `i` and has the least priority of the positions `(i, j)`.  Afterwards position `i`
has the least priority of the window; outside the window nothing moved, and the window holds the
values it held (`P`: any property of a slot number). -/
theorem sortInner_spec (items : List Item) (n i : Nat) (hn : n ≤ items.length) :
    ∀ (rem j : Nat) (seq : List Nat) (itemI : Item), j + rem = n → i < j →
      seq.Perm (List.range items.length) → itemI = itemAt items seq i →
      (∀ k, i < k → k < j → itemI.prio ≤ prioAt items seq k) →
      ∃ seq', sortInner items i rem j seq itemI = .ok seq' ∧ seq'.Perm (List.range items.length) ∧
        (∀ k, k < i ∨ n ≤ k → seq'.getD k 0 = seq.getD k 0) ∧
        (∀ k, i < k → k < n → prioAt items seq' i ≤ prioAt items seq' k) ∧
        (∀ P : Nat → Prop, (∀ k, i ≤ k → k < n → P (seq.getD k 0)) →
          ∀ k, i ≤ k → k < n → P (seq'.getD k 0)) := by
  intro rem
  induction rem with
  | zero =>
    intro j seq itemI hj hij hp hI hmin
    subst hI
    exact ⟨seq, rfl, hp, fun _ _ => rfl, fun k h1 h2 => hmin k h1 (by omega), fun P h => h⟩
  | succ rem ih =>
    intro j seq itemI hj hij hp hI hmin
    have hl : seq.length = items.length := by simpa using hp.length_eq
    have hjn : j < n := hj ▸ Nat.lt_add_of_pos_right (Nat.succ_pos rem)
    have hjl : j < seq.length := hl ▸ Nat.lt_of_lt_of_le hjn hn
    have hil : i < seq.length := Nat.lt_trans hij hjl
    have hj' : j + 1 + rem = n := (Nat.succ_add_eq_add_succ j rem).trans hj
    rw [sortInner_succ items i rem j seq itemI hil hjl (perm_range_lt hp j (hl ▸ hjl))]
    by_cases hgt : itemI.prio > prioAt items seq j
    · -- exchange: the new `item_i` is the item that was at `j`
      rw [if_pos hgt]
      have hsw := prioAt_swap items seq i j
      obtain ⟨seq', he, hp', hfix, hmin', hval⟩ :=
        ih (j + 1) (swap seq i j) (itemAt items seq j) hj' (Nat.lt_succ_of_lt hij)
          ((swap_perm seq i j hil hjl).trans hp)
          (by simp only [itemAt, getD_swap seq i j i hil hjl, if_neg (Nat.ne_of_lt hij), if_true])
          (fun k h1 h2 => by
            have := hmin k h1
            rw [hsw k hil hjl]
            show prioAt items seq j ≤ _
            split
            · rw [hI] at hgt; exact Int.le_of_lt hgt
            · rename_i hkj
              rw [if_neg (Nat.ne_of_gt h1)]
              exact Int.le_trans (Int.le_of_lt hgt) (this (Nat.lt_of_le_of_ne (Nat.le_of_lt_succ h2) hkj)))
      refine ⟨seq', he, hp', fun k hk => ?_, hmin', fun P hP => hval P fun k h1 h2 => ?_⟩
      · have hkij : k ≠ j ∧ k ≠ i := by omega
        rw [hfix k hk, getD_swap seq i j k hil hjl, if_neg hkij.1, if_neg hkij.2]
      · rw [getD_swap seq i j k hil hjl]
        split
        · exact hP i (Nat.le_refl i) (Nat.lt_trans hij hjn)
        · split
          · exact hP j (Nat.le_of_lt hij) hjn
          · exact hP k h1 h2
    · -- keep
      rw [if_neg hgt]
      exact ih (j + 1) seq itemI hj' (Nat.lt_succ_of_lt hij) hp hI fun k h1 h2 => by
        by_cases hkj : k = j
        · exact hkj ▸ Int.not_lt.mp hgt
        · exact hmin k h1 (Nat.lt_of_le_of_ne (Nat.le_of_lt_succ h2) hkj)

/-- The outer loop from position `i` on: the positions below `i` are final — in ascending priority
order and not above anything behind them. -/
theorem sortOuter_spec (items : List Item) (n : Nat) (hn : n ≤ items.length) :
    ∀ (rem i : Nat) (seq : List Nat), i + rem = n → seq.Perm (List.range items.length) →
      (∀ a b, a < i → a < b → b < n → prioAt items seq a ≤ prioAt items seq b) →
      ∃ seq', sortOuter items n rem i seq = .ok seq' ∧ seq'.Perm (List.range items.length) ∧
        (∀ k, n ≤ k → seq'.getD k 0 = seq.getD k 0) ∧
        (∀ a b, a < b → b < n → prioAt items seq' a ≤ prioAt items seq' b) := by
  intro rem
  induction rem with
  | zero =>
    intro i seq hi hp hs
    exact ⟨seq, rfl, hp, fun _ _ => rfl, fun a b h1 h2 => hs a b (by omega) h1 h2⟩
  | succ rem ih =>
    intro i seq hi hp hs
    have hl : seq.length = items.length := by simpa using hp.length_eq
    have hin : i < n := hi ▸ Nat.lt_add_of_pos_right (Nat.succ_pos rem)
    have hil : i < items.length := Nat.lt_of_lt_of_le hin hn
    obtain ⟨seq1, he, hp1, hfix, hmin, hval⟩ :=
      sortInner_spec items n i hn (n - (i + 1)) (i + 1) seq (itemAt items seq i)
        (Nat.add_sub_cancel' hin) (Nat.lt_succ_self i) hp rfl
        (fun k h1 h2 => absurd h1 (Nat.not_lt.mpr (Nat.le_of_lt_succ h2)))
    obtain ⟨seq', he', hp', hfix', hs'⟩ := ih (i + 1) seq1 ((Nat.succ_add_eq_add_succ i rem).trans hi) hp1
      (fun a b ha hab hb => by
      by_cases hai : a = i
      · exact hai ▸ hmin b (hai ▸ hab) hb
      · -- `a` is outside the window of the inner loop, `b` holds a value of the window or is outside too
        have hai : a < i := Nat.lt_of_le_of_ne (Nat.le_of_lt_succ ha) hai
        have ea : prioAt items seq1 a = prioAt items seq a := by
          simp only [prioAt, itemAt, hfix a (Or.inl hai)]
        rw [ea]
        by_cases hbi : b < i
        · simp only [prioAt, itemAt, hfix b (Or.inl hbi)]
          exact hs a b hai hab hb
        · exact hval (fun v => prioAt items seq a ≤ (items.getD v zeroItem).prio)
            (fun k h1 h2 => hs a k hai (Nat.lt_of_lt_of_le hai h1) h2) b (Nat.le_of_not_lt hbi) hb)
    refine ⟨seq', ?_, hp', fun k hk => by rw [hfix' k hk, hfix k (Or.inr hk)], hs'⟩
    simp only [sortOuter, bind, Except.bind, idx_ok_getD seq i 0 (hl ▸ hil),
      idx_ok_getD items _ zeroItem (perm_range_lt hp i hil)]
    exact he ▸ he'

/-- what `_tdma_sched_bucket_sort` leaves in `seq[]`: its first `num_items` entries are the live slots
in ascending priority order, its other entries are untouched (`seq[k] = k`) -/
theorem bucketSort_spec (b : Bucket) (hb : BucketWF b) :
    ∃ seq, bucketSort b = .ok seq ∧ seq.length = 8 ∧
      (seq.take b.numItems).Perm (List.range b.numItems) ∧
      (seq.take b.numItems).Pairwise
        (fun j k => (b.item.getD j zeroItem).prio ≤ (b.item.getD k zeroItem).prio) ∧
      seq.drop b.numItems = (List.range 8).drop b.numItems := by
  obtain ⟨hlen, hn⟩ := hb
  obtain ⟨seq, he, hp, hfix, hs⟩ := sortOuter_spec b.item b.numItems (hlen ▸ hn) b.numItems 0
    (List.range b.item.length) (Nat.zero_add _) (List.Perm.refl _) nofun
  rw [hlen] at he hp hfix
  have hl : seq.length = 8 := by simpa using hp.length_eq
  have hdrop : seq.drop b.numItems = (List.range 8).drop b.numItems := by
    apply List.ext_getElem (by simp [hl])
    intro k h1 h2
    have hk : b.numItems + k < 8 := by simp [hl] at h1; omega
    have := hfix (b.numItems + k) (Nat.le_add_right ..)
    rw [getD_eq_getElem' seq _ 0 (hl ▸ hk), getD_eq_getElem' _ _ 0 (by simpa using hk)] at this
    rw [List.getElem_drop, List.getElem_drop, this]
  refine ⟨seq, by rw [bucketSort, nc]; exact he, hl, ?_, ?_, hdrop⟩
  · -- behind `num_items` the two lists agree, so the prefixes are permutations of each other
    have h1 : (seq.take b.numItems ++ seq.drop b.numItems).Perm
        ((List.range 8).take b.numItems ++ (List.range 8).drop b.numItems) := by
      rw [List.take_append_drop, List.take_append_drop]
      exact hp
    rw [hdrop, List.take_range, Nat.min_eq_left hn] at h1
    exact (List.perm_append_right_iff _).mp h1
  · refine List.pairwise_iff_getElem.mpr fun i j hi hj hij => ?_
    have hjn : j < b.numItems := Nat.lt_of_lt_of_le hj (List.length_take_le ..)
    have hj8 : j < seq.length := hl ▸ Nat.lt_of_lt_of_le hjn hn
    have := hs i j hij hjn
    rwa [prioAt, prioAt, itemAt, itemAt, getD_eq_getElem' seq i 0 (Nat.lt_trans hij hj8),
      getD_eq_getElem' seq j 0 hj8, ← List.getElem_take (h := hi), ← List.getElem_take (h := hj)] at this

end OsmoVerif.TdmaSched
