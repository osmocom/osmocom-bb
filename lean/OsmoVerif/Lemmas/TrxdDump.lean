/-
Helper lemmas about `OsmoVerif.Model.TrxdDump` (capture files) for C14 and C15: what one header read does,
that no read raises or touches the content, records, `_parse_msg` / `_seek2msg` / `parse_all` over a capture
made of complete records followed by a cut tail, the structure of a file cut at an arbitrary offset.
-/
import OsmoVerif.Model.TrxdDump
import OsmoVerif.Lemmas.Trxd
namespace OsmoVerif.TrxdDump
open OsmoVerif OsmoVerif.Trxd

/-- one iteration of the `while True` loop of `parse_all` -/
theorem parseLoop_eq (count : Option Nat) (f : File) (result : List Msg) :
    parseLoop count f result =
      (match parseOne f with
       | .error e => .error e
       | .ok (.none, f') => .ok (result, f')
       | .ok (.false, f') => parseLoop count f' result
       | .ok (.msg m, f') =>
         if count = some (result ++ [m]).length then .ok (result ++ [m], f')
         else parseLoop count f' (result ++ [m])) := by
  rw [parseLoop]
  split
  · rename_i e h; simp only [h]
  · rename_i r f' h
    split
    · simp only [h]
    · simp only [h]
    · simp only [h]

/-! ### one header read at the cursor

`_parse_msg` and the loop of `_seek2msg` begin alike: `read(3)`, a length check, `parse_hdr`.  What they do
is decided by the octets from the cursor on (`rest`): fewer than three, or a tag and a big-endian length. -/

/-- the octets from the cursor on -/
abbrev File.rest (f : File) : Bytes := f.data.drop f.pos

/-- the message class of a tag octet -/
def kind? (t : Nat) : Option Kind :=
  if [t] = Gen.Trxd.dumpTagTx then some .tx else if [t] = Gen.Trxd.dumpTagRx then some .rx else none

theorem hdrLength_eq : Gen.Trxd.dumpHdrLength = 3 := by decide

theorem parseHdr_cons (t a b : Nat) : parseHdr [t, a, b] = .ok ((kind? t).map fun k => (k, a * 256 + b)) := by
  have hu : unpackBE16u (slice [t, a, b] 1 3) = .ok (a * 256 + b) := rfl
  have ht : List.take 1 [t, a, b] = [t] := rfl
  unfold parseHdr kind?
  rw [hu, ht]
  show (if [t] = Gen.Trxd.dumpTagTx then _ else if [t] = Gen.Trxd.dumpTagRx then _ else _) = _
  split
  · rfl
  · split <;> rfl

theorem read_short (f : File) (n : Nat) (h : (File.rest f).length < n) :
    f.read n = (File.rest f, ⟨f.data, f.pos + (File.rest f).length⟩) := by
  simp only [File.read, List.take_of_length_le (Nat.le_of_lt h)]

theorem parseOne_short (f : File) (h : (File.rest f).length < 3) :
    parseOne f = .ok (.none, ⟨f.data, f.pos + (File.rest f).length⟩) := by
  simp only [parseOne, hdrLength_eq, read_short f 3 h, bind, Except.bind, pure, Except.pure, ne_eq, Nat.ne_of_lt h,
    not_false_eq_true, if_true]

theorem parseOne_cons (f : File) {t a b : Nat} {rest : Bytes} (h : File.rest f = t :: a :: b :: rest) :
    parseOne f = .ok (match kind? t with
      | none => (.none, ⟨f.data, f.pos + 3⟩)
      | some k =>
        if rest.length < a * 256 + b then (.none, ⟨f.data, f.pos + 3 + rest.length⟩)
        else (parseRaw k (rest.take (a * 256 + b)), ⟨f.data, f.pos + 3 + (a * 256 + b)⟩)) := by
  unfold File.rest at h
  have h2 : f.data.drop (f.pos + 3) = rest := by
    rw [← List.drop_drop, h]; rfl
  simp only [parseOne, File.read, hdrLength_eq, h, List.take_succ_cons, List.take_zero, List.length_cons,
    List.length_nil, bind, Except.bind, pure, Except.pure, ne_eq, not_true_eq_false, if_false, parseHdr_cons,
    Nat.zero_add, Nat.reduceAdd, h2]
  cases kind? t with
  | none => rfl
  | some k =>
    simp only [Option.map_some, List.length_take]
    by_cases hl : rest.length < a * 256 + b
    · simp only [hl, if_true, Nat.min_eq_right (Nat.le_of_lt hl), show ¬ (rest.length = a * 256 + b) by omega,
        not_false_eq_true]
    · simp only [hl, if_false, Nat.min_eq_left (Nat.le_of_not_lt hl), not_true_eq_false]

theorem seekLoop_short (n : Nat) (f : File) (h : (File.rest f).length < 3) :
    seekLoop (n + 1) f = .ok (false, ⟨f.data, f.pos + (File.rest f).length⟩) := by
  simp only [seekLoop, hdrLength_eq, read_short f 3 h, bind, Except.bind, pure, Except.pure, ne_eq, Nat.ne_of_lt h,
    not_false_eq_true, if_true]

theorem seekLoop_cons (n : Nat) (f : File) {t a b : Nat} {rest : Bytes} (h : File.rest f = t :: a :: b :: rest) :
    seekLoop (n + 1) f = match kind? t with
      | none => .ok (false, ⟨f.data, f.pos + 3⟩)
      | some _ => seekLoop n ⟨f.data, f.pos + 3 + (a * 256 + b)⟩ := by
  unfold File.rest at h
  simp only [seekLoop, File.read, hdrLength_eq, h, List.take_succ_cons, List.take_zero, List.length_cons,
    List.length_nil, bind, Except.bind, pure, Except.pure, ne_eq, not_true_eq_false, if_false, parseHdr_cons,
    Nat.zero_add, Nat.reduceAdd, File.seekCur]
  cases kind? t <;> rfl

theorem rest_cases (f : File) :
    (File.rest f).length < 3 ∨ ∃ t a b rest, File.rest f = t :: a :: b :: rest := by
  by_cases h : (File.rest f).length < 3
  · exact Or.inl h
  · obtain ⟨t, a, b, rest, hr⟩ := exists_cons3 (File.rest f) (by omega)
    exact Or.inr ⟨t, a, b, rest, hr⟩

theorem rest_advance (f : File) {x r : Bytes} (h : File.rest f = x ++ r) :
    File.rest ⟨f.data, f.pos + x.length⟩ = r := by
  unfold File.rest at h ⊢
  simp only [← List.drop_drop, h, List.drop_left]

theorem seekLoop_eof (f : File) (h : File.rest f = []) (n : Nat) : seekLoop (n + 1) f = .ok (false, f) := by
  rw [seekLoop_short n f (by rw [h]; decide), h]
  rfl

/-! ### no read raises; reads leave the content alone -/

theorem parseOne_total (f : File) : ∃ r f', parseOne f = .ok (r, f') ∧ f'.data = f.data := by
  rcases rest_cases f with h | ⟨t, a, b, rest, h⟩
  · exact ⟨_, _, parseOne_short f h, rfl⟩
  · rw [parseOne_cons f h]
    cases kind? t with
    | none => exact ⟨_, _, rfl, rfl⟩
    | some k => by_cases hl : rest.length < a * 256 + b <;> simp only [hl, if_true, if_false] <;> exact ⟨_, _, rfl, rfl⟩

theorem seekLoop_total : ∀ (n : Nat) (f : File), ∃ rc f', seekLoop n f = .ok (rc, f') ∧ f'.data = f.data
  | 0, f => ⟨true, f, rfl, rfl⟩
  | n + 1, f => by
    rcases rest_cases f with h | ⟨t, a, b, rest, h⟩
    · exact ⟨_, _, seekLoop_short n f h, rfl⟩
    · rw [seekLoop_cons n f h]
      cases kind? t with
      | none => exact ⟨_, _, rfl, rfl⟩
      | some k => exact seekLoop_total n ⟨f.data, f.pos + 3 + (a * 256 + b)⟩

theorem seek2msg_total (f : File) (idx : Nat) :
    ∃ rc f', seek2msg f idx = .ok (rc, f') ∧ f'.data = f.data := seekLoop_total idx f.seek0

theorem parseLoop_total (count : Option Nat) :
    ∀ (n : Nat) (f : File) (acc : List Msg), f.data.length - f.pos < n →
      ∃ res f', parseLoop count f acc = .ok (res, f') ∧ f'.data = f.data := by
  intro n
  induction n with
  | zero => intro f acc hn; omega
  | succ n ih =>
    intro f acc hn
    obtain ⟨r, f', h1, hd⟩ := parseOne_total f
    cases r with
    | none => exact ⟨acc, f', by rw [parseLoop_eq, h1], hd⟩
    | false =>
      have hp := parseOne_progress f f' .false h1 (by intro h; cases h)
      obtain ⟨res, f'', h2, hd2⟩ := ih f' acc (by omega)
      exact ⟨res, f'', by rw [parseLoop_eq, h1]; exact h2, by rw [hd2, hd]⟩
    | msg m =>
      have hp := parseOne_progress f f' (.msg m) h1 (by intro h; cases h)
      by_cases hc : count = some (acc ++ [m]).length
      · exact ⟨acc ++ [m], f', by rw [parseLoop_eq, h1]; simp only [hc, if_true], hd⟩
      · obtain ⟨res, f'', h2, hd2⟩ := ih f' (acc ++ [m]) (by omega)
        exact ⟨res, f'', by rw [parseLoop_eq, h1]; simp only [hc, if_false]; exact h2, by rw [hd2, hd]⟩

theorem parseMsg_total (f : File) (idx : Nat) :
    ∃ r f', parseMsg f idx = .ok (r, f') ∧ f'.data = f.data := by
  obtain ⟨rc, f1, h1, hd1⟩ := seek2msg_total f idx
  cases rc with
  | false =>
    exact ⟨.none, f1, by simp only [parseMsg, h1, bind, Except.bind, pure, Except.pure, Bool.false_eq_true,
      not_false_eq_true, if_true], hd1⟩
  | true =>
    obtain ⟨r, f2, h2, hd2⟩ := parseOne_total f1
    refine ⟨r, f2, ?_, by rw [hd2, hd1]⟩
    simp only [parseMsg, h1, bind, Except.bind, pure, Except.pure, not_true_eq_false, if_false]
    exact h2

theorem parseAll_total (f : File) (skip count : Option Nat) :
    ∃ r f', parseAll f skip count = .ok (r, f') ∧ f'.data = f.data := by
  cases skip with
  | none =>
    obtain ⟨res, f2, h2, hd2⟩ := parseLoop_total count _ f.seek0 [] (Nat.lt_succ_self _)
    refine ⟨some res, f2, ?_, by rw [hd2]; rfl⟩
    simp only [parseAll, bind, Except.bind, pure, Except.pure, h2, not_true_eq_false, if_false]
  | some s =>
    obtain ⟨rc, f1, h1, hd1⟩ := seek2msg_total f s
    cases rc with
    | false =>
      exact ⟨none, f1, by simp only [parseAll, h1, bind, Except.bind, pure, Except.pure, Bool.false_eq_true,
        not_false_eq_true, if_true], hd1⟩
    | true =>
      obtain ⟨res, f2, h2, hd2⟩ := parseLoop_total count _ f1 [] (Nat.lt_succ_self _)
      refine ⟨some res, f2, ?_, by rw [hd2, hd1]⟩
      simp only [parseAll, h1, bind, Except.bind, pure, Except.pure, h2, not_true_eq_false, if_false]

/-! ### stored records -/

def tagOf : Kind → Bytes
  | .tx => Gen.Trxd.dumpTagTx
  | .rx => Gen.Trxd.dumpTagRx

/-- a record of the capture file: tag, 16-bit big-endian length, TRXD message octets -/
structure Rec where
  kind : Kind
  raw : Bytes

def Rec.bytes (r : Rec) : Bytes :=
  tagOf r.kind ++ [r.raw.length / 256 % 256, r.raw.length % 256] ++ r.raw

def recsBytes (rs : List Rec) : Bytes := (rs.map Rec.bytes).flatten

theorem tagOf_eq (k : Kind) : ∃ t, tagOf k = [t] ∧ kind? t = some k := by
  cases k
  · exact ⟨1, rfl, by decide⟩
  · exact ⟨2, rfl, by decide⟩

/-- a record whose length fits 16 bits, as the reader sees it: tag octet, length octets, message -/
theorem Rec.bytes_eq (r : Rec) (hl : r.raw.length < 65536) :
    ∃ t a b, r.bytes = t :: a :: b :: r.raw ∧ kind? t = some r.kind ∧ a * 256 + b = r.raw.length := by
  obtain ⟨t, ht, hk⟩ := tagOf_eq r.kind
  exact ⟨t, r.raw.length / 256 % 256, r.raw.length % 256,
    by simp only [Rec.bytes, ht, List.cons_append, List.nil_append], hk, by omega⟩

theorem Rec.bytes_length (r : Rec) : r.bytes.length = 3 + r.raw.length := by
  obtain ⟨t, ht, _⟩ := tagOf_eq r.kind
  simp only [Rec.bytes, ht, List.length_append, List.length_cons, List.length_nil]

theorem parseOne_record (f : File) {r : Rec} {rest : Bytes} (h : File.rest f = r.bytes ++ rest)
    (hl : r.raw.length < 65536) :
    parseOne f = .ok (parseRaw r.kind r.raw, { f with pos := f.pos + r.bytes.length }) := by
  obtain ⟨t, a, b, hb, hk, hab⟩ := r.bytes_eq hl
  rw [hb] at h
  rw [parseOne_cons f (rest := r.raw ++ rest) h, hk, hab, r.bytes_length]
  simp only [List.length_append, show ¬ (r.raw.length + rest.length < r.raw.length) by omega, if_false,
    List.take_left' rfl, Nat.add_assoc]

/-- what a crash while writing leaves after the last complete record: nothing, or a strict prefix of
a record -/
def IsCutTail (p : Bytes) : Prop :=
  p = [] ∨ ∃ r : Rec, ∃ n, p = r.bytes.take n ∧ n < r.bytes.length ∧ r.raw.length < 65536

/-- a cut tail as the reader sees it: too short for a header, or a header that announces more than is left -/
theorem cutTail_cases {p : Bytes} (hp : IsCutTail p) :
    p.length < 3 ∨ ∃ t a b rest k, p = t :: a :: b :: rest ∧ kind? t = some k ∧ rest.length < a * 256 + b := by
  rcases hp with rfl | ⟨r, n, rfl, hn, hl⟩
  · exact Or.inl (by decide)
  · obtain ⟨t, a, b, hb, hk, hab⟩ := r.bytes_eq hl
    have hbl := r.bytes_length
    by_cases h3 : n < 3
    · exact Or.inl (by rw [List.length_take]; omega)
    · obtain ⟨m, rfl⟩ : ∃ m, n = m + 3 := ⟨n - 3, by omega⟩
      refine Or.inr ⟨t, a, b, r.raw.take m, r.kind, by rw [hb]; rfl, hk, ?_⟩
      rw [hab, List.length_take]
      omega

theorem parseOne_tail (f : File) {p : Bytes} (h : File.rest f = p) (hp : IsCutTail p) :
    ∃ f', parseOne f = .ok (.none, f') := by
  rcases cutTail_cases hp with hs | ⟨t, a, b, rest, k, rfl, hk, hl⟩
  · exact ⟨_, parseOne_short f (h ▸ hs)⟩
  · rw [parseOne_cons f h, hk]
    simp only [hl, if_true]
    exact ⟨_, rfl⟩

/-- the list `parse_all` builds from the messages of the successive records -/
def loopSpec (count : Option Nat) : List Msg → List Msg → List Msg
  | acc, [] => acc
  | acc, m :: ms => if count = some (acc ++ [m]).length then acc ++ [m] else loopSpec count (acc ++ [m]) ms

/-- records with the message each one parses to -/
def StoredWF (st : List (Rec × Msg)) : Prop :=
  ∀ x ∈ st, x.1.raw.length < 65536 ∧ parseRaw x.1.kind x.1.raw = .msg x.2

theorem recsBytes_cons (r : Rec) (rs : List Rec) : recsBytes (r :: rs) = r.bytes ++ recsBytes rs := by
  simp only [recsBytes, List.map_cons, List.flatten_cons]

theorem parseLoop_records (count : Option Nat) :
    ∀ (st : List (Rec × Msg)) (f : File) (acc : List Msg) (p : Bytes),
      File.rest f = recsBytes (st.map (·.1)) ++ p → IsCutTail p → StoredWF st →
      ∃ f', parseLoop count f acc = .ok (loopSpec count acc (st.map (·.2)), f') := by
  intro st
  induction st with
  | nil =>
    intro f acc p h hp _
    simp only [List.map_nil, recsBytes, List.flatten_nil, List.nil_append] at h
    obtain ⟨f', hf'⟩ := parseOne_tail f h hp
    exact ⟨f', by rw [parseLoop_eq, hf']; rfl⟩
  | cons x st ih =>
    intro f acc p h hp hwf
    obtain ⟨r, m⟩ := x
    have hx := hwf (r, m) (List.mem_cons_self ..)
    simp only at hx
    simp only [List.map_cons, recsBytes_cons, List.append_assoc] at h
    have h1 := parseOne_record f h hx.1
    rw [hx.2] at h1
    have hnext := rest_advance f h
    have hwf' : StoredWF st := fun y hy => hwf y (List.mem_cons_of_mem _ hy)
    rw [parseLoop_eq, h1]
    simp only [List.map_cons, loopSpec]
    split
    · exact ⟨_, rfl⟩
    · exact ih _ (acc ++ [m]) p hnext hp hwf'

theorem loopSpec_none (acc ms : List Msg) : loopSpec none acc ms = acc ++ ms := by
  induction ms generalizing acc with
  | nil => simp [loopSpec]
  | cons m ms ih => simp [loopSpec, ih]

theorem loopSpec_some (c : Nat) (acc ms : List Msg) (h : acc.length < c) :
    loopSpec (some c) acc ms = acc ++ ms.take (c - acc.length) := by
  induction ms generalizing acc with
  | nil => simp [loopSpec]
  | cons m ms ih =>
    simp only [loopSpec, List.length_append, List.length_cons, List.length_nil, Option.some.injEq]
    by_cases hc : c = acc.length + 0 + 1
    · have e : c - acc.length = 1 := by omega
      simp only [hc, if_true]
      simp
    · simp only [hc, if_false]
      rw [ih (acc ++ [m]) (by simp only [List.length_append, List.length_cons, List.length_nil]; omega)]
      have e : c - acc.length = (c - (acc ++ [m]).length) + 1 := by
        simp only [List.length_append, List.length_cons, List.length_nil]; omega
      rw [e, List.take_succ_cons]
      simp

theorem seekLoop_records_add :
    ∀ (rs : List Rec) (f : File) (rest : Bytes) (k : Nat),
      File.rest f = recsBytes rs ++ rest → (∀ r ∈ rs, r.raw.length < 65536) →
      seekLoop (rs.length + k) f = seekLoop k { f with pos := f.pos + (recsBytes rs).length } := by
  intro rs
  induction rs with
  | nil => intro f rest k _ _; simp [recsBytes]
  | cons r rs ih =>
    intro f rest k h hl
    obtain ⟨t, a, b, hb, hk, hab⟩ := r.bytes_eq (hl r (List.mem_cons_self ..))
    simp only [recsBytes_cons, List.append_assoc] at h
    have hnext := rest_advance f h
    rw [hb] at h
    have e1 : (r :: rs).length + k = (rs.length + k) + 1 := by simp only [List.length_cons]; omega
    rw [e1, seekLoop_cons _ f h, hk]
    simp only [hab, Nat.add_assoc, ← r.bytes_length]
    rw [ih _ rest k hnext (fun r' hr' => hl r' (List.mem_cons_of_mem _ hr'))]
    simp only [recsBytes_cons, List.length_append, Nat.add_assoc]

theorem seek2msg_records (rs : List Rec) (rest : Bytes) (hl : ∀ r ∈ rs, r.raw.length < 65536) (pos k : Nat) :
    seek2msg ⟨recsBytes rs ++ rest, pos⟩ (rs.length + k)
      = seekLoop k ⟨recsBytes rs ++ rest, (recsBytes rs).length⟩ ∧
    File.rest ⟨recsBytes rs ++ rest, (recsBytes rs).length⟩ = rest := by
  have := seekLoop_records_add rs ⟨recsBytes rs ++ rest, 0⟩ rest k rfl hl
  rw [Nat.zero_add] at this
  exact ⟨this, List.drop_left⟩

/-- `_seek2msg` loop asked to go beyond a cut tail: fails, or ends at/after the end of the file -/
theorem seekLoop_tail (f : File) {p : Bytes} (n : Nat) (h : File.rest f = p) (hp : IsCutTail p) :
    ∃ rc f', seekLoop (n + 1) f = .ok (rc, f') ∧ (rc = true → File.rest f' = []) := by
  rcases cutTail_cases hp with hs | ⟨t, a, b, rest, k, rfl, hk, hl⟩
  · exact ⟨false, _, seekLoop_short n f (h ▸ hs), fun h => by cases h⟩
  · have hstep := seekLoop_cons n f h
    rw [hk] at hstep
    -- the seek over the announced length ends behind the last octet
    have hend : File.rest ⟨f.data, f.pos + 3 + (a * 256 + b)⟩ = [] := by
      unfold File.rest at h ⊢
      rw [Nat.add_assoc, ← List.drop_drop, h]
      exact List.drop_eq_nil_of_le (by simp only [List.length_cons]; omega)
    cases n with
    | zero => exact ⟨true, _, by rw [hstep]; rfl, fun _ => hend⟩
    | succ n => exact ⟨false, _, by rw [hstep, seekLoop_eof _ hend n], fun h => by cases h⟩

/-- number of records that lie completely within the first `cut` octets -/
def completeRecs : List Rec → Nat → Nat
  | [], _ => 0
  | r :: rs, cut => if r.bytes.length ≤ cut then completeRecs rs (cut - r.bytes.length) + 1 else 0

/-- a file cut at any offset = its complete records followed by a cut tail; the cut lies behind the
complete records and inside the next one -/
theorem take_recsBytes :
    ∀ (rs : List Rec) (cut : Nat), (∀ r ∈ rs, r.raw.length < 65536) →
      ∃ p, (recsBytes rs).take cut = recsBytes (rs.take (completeRecs rs cut)) ++ p ∧ IsCutTail p ∧
        completeRecs rs cut ≤ rs.length ∧
        (recsBytes (rs.take (completeRecs rs cut))).length ≤ cut ∧
        (completeRecs rs cut < rs.length → cut < (recsBytes (rs.take (completeRecs rs cut + 1))).length) := by
  intro rs
  induction rs with
  | nil => intro cut _; exact ⟨[], by simp [recsBytes, completeRecs], Or.inl rfl, by simp [recsBytes, completeRecs]⟩
  | cons r rs ih =>
    intro cut hl
    by_cases hc : r.bytes.length ≤ cut
    · obtain ⟨p, hp, ht, hk, h1, h2⟩ := ih (cut - r.bytes.length) (fun r' hr' => hl r' (List.mem_cons_of_mem _ hr'))
      simp only [completeRecs, hc, if_true, List.take_succ_cons, recsBytes_cons, List.take_append,
        List.take_of_length_le hc, hp, List.append_assoc, List.length_append, List.length_cons]
      exact ⟨p, rfl, ht, by omega, by omega, fun h => by have := h2 (by omega); omega⟩
    · simp only [completeRecs, hc, if_false, List.take_zero, recsBytes, List.map_nil, List.flatten_nil,
        List.nil_append, List.map_cons, List.flatten_cons, List.length_nil, Nat.zero_le, Nat.zero_add,
        List.take_succ_cons, List.append_nil, true_and]
      exact ⟨r.bytes.take cut, List.take_append_of_le_length (by omega),
        Or.inr ⟨r, cut, rfl, by omega, hl r (List.mem_cons_self ..)⟩, fun _ => by omega⟩

theorem recsBytes_append (a b : List Rec) : recsBytes (a ++ b) = recsBytes a ++ recsBytes b := by
  simp only [recsBytes, List.map_append, List.flatten_append]

/-- the content of a capture: complete records `st` followed by a cut tail `p` -/
structure Capture (data : Bytes) (st : List (Rec × Msg)) : Prop where
  tail : ∃ p, data = recsBytes (st.map (·.1)) ++ p ∧ IsCutTail p
  wf : StoredWF st

theorem Capture.lens {data : Bytes} {st : List (Rec × Msg)} (c : Capture data st) :
    ∀ r ∈ st.map (·.1), r.raw.length < 65536 := by
  intro r hr
  obtain ⟨x, hx, rfl⟩ := List.mem_map.mp hr
  exact (c.wf x hx).1

theorem parseAll_noskip {data : Bytes} {st : List (Rec × Msg)} (c : Capture data st) (pos : Nat)
    (count : Option Nat) :
    ∃ f', parseAll ⟨data, pos⟩ none count = .ok (some (loopSpec count [] (st.map (·.2))), f') := by
  obtain ⟨p, hd, hp⟩ := c.tail
  obtain ⟨f', hf'⟩ := parseLoop_records count st ⟨data, 0⟩ [] p hd hp c.wf
  refine ⟨f', ?_⟩
  simp only [parseAll, File.seek0, bind, Except.bind, pure, Except.pure, hf', not_true_eq_false, if_false]

theorem seek2msg_le {data : Bytes} {st : List (Rec × Msg)} (c : Capture data st) (p : Bytes)
    (hd : data = recsBytes (st.map (·.1)) ++ p) (pos s : Nat) (hs : s ≤ st.length) :
    seek2msg ⟨data, pos⟩ s = .ok (true, ⟨data, (recsBytes ((st.take s).map (·.1))).length⟩) ∧
    data.drop (recsBytes ((st.take s).map (·.1))).length = recsBytes ((st.drop s).map (·.1)) ++ p := by
  have hsplit : data = recsBytes ((st.take s).map (·.1)) ++ (recsBytes ((st.drop s).map (·.1)) ++ p) := by
    rw [hd, ← List.append_assoc, ← recsBytes_append, ← List.map_append, List.take_append_drop]
  have hlen : ((st.take s).map (·.1)).length = s := by simp [List.length_take, Nat.min_eq_left hs]
  have := seek2msg_records ((st.take s).map (·.1)) (recsBytes ((st.drop s).map (·.1)) ++ p)
    (fun r hr => c.lens r (List.map_subset _ (List.take_subset s st) hr)) pos 0
  rw [← hsplit, hlen] at this
  exact this

theorem parseAll_skip {data : Bytes} {st : List (Rec × Msg)} (c : Capture data st) (pos s : Nat)
    (count : Option Nat) (hs : s ≤ st.length) :
    ∃ f', parseAll ⟨data, pos⟩ (some s) count
      = .ok (some (loopSpec count [] ((st.drop s).map (·.2))), f') := by
  obtain ⟨p, hd, hp⟩ := c.tail
  obtain ⟨hseek, hdrop⟩ := seek2msg_le c p hd pos s hs
  obtain ⟨f', hf'⟩ := parseLoop_records count (st.drop s) ⟨data, _⟩ [] p hdrop hp
    (fun x hx => c.wf x (List.mem_of_mem_drop hx))
  refine ⟨f', ?_⟩
  simp only [parseAll, hseek, bind, Except.bind, pure, Except.pure, hf', not_true_eq_false, if_false]

theorem parseMsg_idx {data : Bytes} {st : List (Rec × Msg)} (c : Capture data st) (pos i : Nat)
    (hi : i < st.length) :
    ∃ f', parseMsg ⟨data, pos⟩ i = .ok (.msg (st[i]).2, f') := by
  obtain ⟨p, hd, hp⟩ := c.tail
  obtain ⟨hseek, hdrop⟩ := seek2msg_le c p hd pos i (by omega)
  have hdi : st.drop i = st[i] :: st.drop (i + 1) := (List.drop_eq_getElem_cons hi)
  rw [hdi, List.map_cons, recsBytes_cons, List.append_assoc] at hdrop
  have hx := c.wf st[i] (List.getElem_mem hi)
  have h1 := parseOne_record ⟨data, _⟩ hdrop hx.1
  rw [hx.2] at h1
  exact ⟨_, by simp only [parseMsg, hseek, bind, Except.bind, pure, Except.pure, not_true_eq_false,
    if_false]; exact h1⟩

/-- `_seek2msg(s)` for `s` at or beyond the complete records: fails, or ends where nothing but a cut tail is left -/
theorem seek2msg_beyond {data : Bytes} {st : List (Rec × Msg)} (c : Capture data st) (pos s : Nat)
    (hs : st.length ≤ s) :
    ∃ rc f', seek2msg ⟨data, pos⟩ s = .ok (rc, f') ∧ (rc = true → IsCutTail (File.rest f')) := by
  obtain ⟨p, rfl, hp⟩ := c.tail
  obtain ⟨n, rfl⟩ : ∃ n, s = (st.map (·.1)).length + n := ⟨s - st.length, by simp; omega⟩
  obtain ⟨hseek, hrest⟩ := seek2msg_records (st.map (·.1)) p c.lens pos n
  cases n with
  | zero => exact ⟨true, _, hseek, fun _ => by rw [hrest]; exact hp⟩
  | succ n =>
    obtain ⟨rc, f', hf', hrc⟩ := seekLoop_tail _ n hrest hp
    exact ⟨rc, f', by rw [hseek, hf'], fun h => Or.inl (hrc h)⟩

/-- `parse_all(skip, count)` with `skip` beyond the complete records: the range error `False`, or
(when the cut record's header survived) the empty list; never an exception, never a message -/
theorem parseAll_beyond {data : Bytes} {st : List (Rec × Msg)} (c : Capture data st) (pos s : Nat)
    (count : Option Nat) (hs : st.length < s) :
    ∃ f', parseAll ⟨data, pos⟩ (some s) count = .ok (none, f') ∨
          parseAll ⟨data, pos⟩ (some s) count = .ok (some [], f') := by
  obtain ⟨rc, f1, h1, hrc⟩ := seek2msg_beyond c pos s (by omega)
  cases rc with
  | false =>
    exact ⟨f1, Or.inl (by simp only [parseAll, h1, bind, Except.bind, pure, Except.pure,
      Bool.false_eq_true, not_false_eq_true, if_true])⟩
  | true =>
    obtain ⟨f2, h2⟩ := parseLoop_records count [] f1 [] _ rfl (hrc rfl) (fun _ h => nomatch h)
    refine ⟨f2, Or.inr ?_⟩
    simp only [parseAll, h1, bind, Except.bind, pure, Except.pure, not_true_eq_false, if_false, h2]
    rfl

theorem parseMsg_beyond {data : Bytes} {st : List (Rec × Msg)} (c : Capture data st) (pos i : Nat)
    (hi : st.length ≤ i) :
    ∃ f', parseMsg ⟨data, pos⟩ i = .ok (.none, f') := by
  obtain ⟨rc, f1, h1, hrc⟩ := seek2msg_beyond c pos i hi
  cases rc with
  | false =>
    exact ⟨f1, by simp only [parseMsg, h1, bind, Except.bind, pure, Except.pure, Bool.false_eq_true,
      not_false_eq_true, if_true]⟩
  | true =>
    obtain ⟨f2, h2⟩ := parseOne_tail f1 rfl (hrc rfl)
    exact ⟨f2, by simp only [parseMsg, h1, bind, Except.bind, pure, Except.pure, not_true_eq_false, if_false, h2]⟩

/-! ### writing -/

theorem write_at_end (data b : Bytes) :
    (⟨data, data.length⟩ : File).write b = ⟨data ++ b, (data ++ b).length⟩ := by
  simp only [File.write, List.take_length, Nat.sub_self, List.replicate_zero, List.append_nil,
    List.length_append, File.mk.injEq, and_true]
  rw [List.drop_eq_nil_of_le (by omega), List.append_nil]

theorem seek2msg_beyond_eof {data : Bytes} {st : List (Rec × Msg)} (c : Capture data st)
    (hd : data = recsBytes (st.map (·.1))) (pos s : Nat) (hs : st.length < s) :
    ∃ f', seek2msg ⟨data, pos⟩ s = .ok (false, f') := by
  obtain ⟨n, rfl⟩ : ∃ n, s = (st.map (·.1)).length + (n + 1) := ⟨s - st.length - 1, by simp; omega⟩
  obtain ⟨hseek, hrest⟩ := seek2msg_records (st.map (·.1)) [] c.lens pos (n + 1)
  rw [List.append_nil, ← hd] at hseek hrest
  exact ⟨_, by rw [hseek, seekLoop_eof _ hrest n]⟩

end OsmoVerif.TrxdDump
