/- Lemmas on BitFieldSet: the derived offsets, packing and unpacking, truncation (C16). -/
import OsmoVerif.Lemmas.CodecVals
namespace OsmoVerif.Codec

/-! ## derived offsets -/

/-- the derived offsets form a chain: every field sits directly below its predecessor -/
def Chain : Nat → List (BitF × Nat) → Prop
  | _, [] => True
  | off, (f, o) :: rest => o + f.bl = off ∧ Chain o rest

theorem bitsOffsets_chain (fs : List BitF) (off : Nat) (offs : List (BitF × Nat))
    (h : bitsOffsets off fs = .ok offs) : Chain off offs ∧ offs.map (·.1) = fs := by
  induction fs generalizing off offs with
  | nil => cases h; exact ⟨trivial, rfl⟩
  | cons f fs ih =>
    rw [bitsOffsets] at h
    split at h
    · cases h
    · split at h
      · cases h
      · cases hr : bitsOffsets (off - f.bl) fs with
        | error e => rw [hr] at h; cases h
        | ok rest =>
          rw [hr] at h
          cases h
          obtain ⟨hc, hm⟩ := ih _ rest hr
          exact ⟨⟨by omega, hc⟩, by rw [List.map_cons, hm]⟩

/-- what `BitFieldSet.__init__` derives: the length, and for the fields in processing order a chain of
offsets starting at the top bit -/
theorem bitsDerive_ok {len : Nat} {little : Bool} {fs : List BitF} {l : Nat} {offs : List (BitF × Nat)}
    (h : bitsDerive len little fs = .ok (l, offs)) :
    l = bitsLen len (bitsOrdered little fs) ∧ Chain (l * 8) offs ∧ offs.map (·.1) = bitsOrdered little fs := by
  unfold bitsDerive at h
  cases ho : bitsOffsets (bitsLen len (bitsOrdered little fs) * 8) (bitsOrdered little fs) with
  | error e => rw [ho] at h; cases h
  | ok o =>
    rw [ho] at h
    cases h
    exact ⟨rfl, bitsOffsets_chain _ _ _ ho⟩

theorem mem_bitsOrdered {little : Bool} {fs : List BitF} {b : BitF} : b ∈ bitsOrdered little fs ↔ b ∈ fs := by
  cases little <;> simp [bitsOrdered]

/-- the names a set stores, in processing order -/
def bitNames (offs : List (BitF × Nat)) : List String := offs.filterMap (·.1.name)

theorem bitNames_eq {offs : List (BitF × Nat)} {fs : List BitF} (h : offs.map (·.1) = fs) :
    bitNames offs = fs.filterMap (·.name) := by
  rw [← h, List.filterMap_map]; rfl

theorem bitsOrdered_names (little : Bool) (fs : List BitF) :
    (∀ x, x ∈ (bitsOrdered little fs).filterMap (·.name) ↔ x ∈ fs.filterMap (·.name))
    ∧ ((bitsOrdered little fs).filterMap (·.name)).length = (fs.filterMap (·.name)).length
    ∧ ((fs.filterMap (·.name)).Nodup → ((bitsOrdered little fs).filterMap (·.name)).Nodup) := by
  cases little with
  | false => exact ⟨fun _ => Iff.rfl, rfl, id⟩
  | true =>
    simp only [bitsOrdered, if_true, List.filterMap_reverse, List.mem_reverse, List.length_reverse]
    refine ⟨fun _ => trivial, trivial, fun h => ?_⟩
    rw [List.Nodup, List.pairwise_reverse]
    exact h.imp Ne.symm

/-! ## packing -/

/-- the integer a list of stored bit-field values packs to -/
def packVals : List (BitF × Nat) → Vals → Nat
  | [], _ => 0
  | (f, o) :: rest, c =>
    match f.name with
    | none => packVals rest c
    | some _ =>
      match c with
      | (_, .int x) :: c' => x.toNat * 2 ^ o + packVals rest c'
      | _ => 0

theorem inRangeBits_cons_named {f : BitF} {o : Nat} {rest : List (BitF × Nat)} {pre c : Vals} {n : String}
    (hn : f.name = some n) (h : inRangeBits ((f, o) :: rest) pre c = true) :
    ∃ x c', c = (n, .int x) :: c' ∧ n ∉ pre.keys ∧ 0 ≤ x ∧ x < ((2 ^ f.bl : Nat) : Int)
      ∧ (∀ cst, f.val = some cst → x = cst) ∧ inRangeBits rest (pre ++ [(n, .int x)]) c' = true := by
  simp only [inRangeBits, hn] at h
  match c, h with
  | (k, .int x) :: c', h =>
    simp only [Bool.and_eq_true, decide_eq_true_eq] at h
    obtain ⟨⟨⟨⟨⟨rfl, hnm⟩, h0⟩, hlt⟩, hv⟩, hr⟩ := h
    refine ⟨x, c', rfl, hnm, h0, hlt, fun cst hc => ?_, hr⟩
    simpa [hc] using hv

theorem inRangeBits_cons_of {f : BitF} {o : Nat} {rest : List (BitF × Nat)} {pre c' : Vals} {n : String} {x : Int}
    (hn : f.name = some n) (hnm : n ∉ pre.keys) (h0 : 0 ≤ x) (hlt : x < ((2 ^ f.bl : Nat) : Int))
    (hv : ∀ cst, f.val = some cst → x = cst) (hr : inRangeBits rest (pre ++ [(n, .int x)]) c' = true) :
    inRangeBits ((f, o) :: rest) pre ((n, .int x) :: c') = true := by
  simp only [inRangeBits, hn, hr, Bool.and_true, Bool.and_eq_true, decide_eq_true_eq]
  refine ⟨⟨⟨⟨trivial, hnm⟩, h0⟩, hlt⟩, ?_⟩
  cases hval : f.val with
  | none => rfl
  | some cst => simp [hv cst hval]

private theorem regroup (hi o bl xn P : Nat) :
    hi * 2 ^ (o + bl) + (xn * 2 ^ o + P) = (hi * 2 ^ bl + xn) * 2 ^ o + P := by
  rw [Nat.pow_add, Nat.add_mul, Nat.mul_assoc, Nat.mul_comm (2 ^ o) (2 ^ bl), Nat.add_assoc]

private theorem extract (hi o bl xn P : Nat) (hx : xn < 2 ^ bl) (hP : P < 2 ^ o) :
    ((hi * 2 ^ (o + bl) + (xn * 2 ^ o + P)) >>> o) % 2 ^ bl = xn := by
  rw [regroup, Nat.shiftRight_eq_div_pow, Nat.mul_comm _ (2 ^ o), Nat.mul_add_div (Nat.pow_pos (by decide)),
    Nat.div_eq_of_lt hP, Nat.add_zero, Nat.mul_add_mod_self_right, Nat.mod_eq_of_lt hx]

private theorem pack_bound (o bl xn P : Nat) (hx : xn < 2 ^ bl) (hP : P < 2 ^ o) :
    xn * 2 ^ o + P < 2 ^ (o + bl) :=
  calc xn * 2 ^ o + P < xn * 2 ^ o + 2 ^ o := Nat.add_lt_add_left hP _
    _ = (xn + 1) * 2 ^ o := (Nat.succ_mul ..).symm
    _ ≤ 2 ^ bl * 2 ^ o := Nat.mul_le_mul_right _ hx
    _ = 2 ^ (o + bl) := by rw [Nat.pow_add, Nat.mul_comm]

theorem inRangeBits_get (offs : List (BitF × Nat)) (pre c post : Vals) (hr : inRangeBits offs pre c = true) :
    ∀ kx ∈ c, Vals.get (pre ++ c ++ post) kx.1 = .ok kx.2 := by
  induction offs generalizing pre c with
  | nil => rw [inRangeBits, List.isEmpty_iff] at hr; subst hr; exact fun _ h => nomatch h
  | cons fo rest ih =>
    cases hn : fo.1.name with
    | none => simp only [inRangeBits, hn] at hr; exact ih pre c hr
    | some n =>
      obtain ⟨x, c', rfl, hnm, _, _, _, hr'⟩ := inRangeBits_cons_named (o := fo.2) hn hr
      have e : pre ++ (n, Val.int x) :: c' ++ post = (pre ++ [(n, Val.int x)]) ++ c' ++ post := by simp
      intro kx hkx
      rcases List.mem_cons.1 hkx with rfl | hkx
      · rw [List.append_assoc, Vals.get_append_of_not_mem _ _ _ hnm]; exact Vals.get_cons_self ..
      · rw [e]; exact ih _ c' hr' kx hkx

/-- Encoding a dict `v` in which the in-range bit-field values `c` are found, and decoding the packed integer,
returns them, whatever the higher-order bits `hi` are; the packed integer fits below `2^off`. -/
theorem bits_roundtrip (offs : List (BitF × Nat)) (off : Nat) (v pre c : Vals) (acc : Nat)
    (hc : Chain off offs) (hr : inRangeBits offs pre c = true) (hg : ∀ kx ∈ c, Vals.get v kx.1 = .ok kx.2) :
    bitsEnc offs v acc = .ok (acc ||| packVals offs c)
      ∧ packVals offs c < 2 ^ off
      ∧ ∀ hi, bitsDec offs pre (hi * 2 ^ off + packVals offs c) = .ok (pre ++ c) := by
  induction offs generalizing off pre c acc with
  | nil =>
    rw [inRangeBits, List.isEmpty_iff] at hr
    subst hr
    exact ⟨by rw [bitsEnc, packVals, Nat.or_zero], Nat.pow_pos (by decide),
      fun hi => by rw [bitsDec, List.append_nil]⟩
  | cons fo rest ih =>
    obtain ⟨f, o⟩ := fo
    obtain ⟨hoff, hch⟩ := hc
    subst hoff
    cases hn : f.name with
    | none =>
      simp only [inRangeBits, hn] at hr
      obtain ⟨e1, e2, e3⟩ := ih o pre c acc hch hr hg
      refine ⟨?_, ?_, fun hi => ?_⟩
      · simp only [bitsEnc, bitEnc, hn, packVals, Nat.or_zero]; exact e1
      · simp only [packVals, hn]
        exact Nat.lt_of_lt_of_le e2 (Nat.pow_le_pow_right (by decide) (Nat.le_add_right ..))
      · simp only [bitsDec, hn, packVals]
        rw [Nat.pow_add, Nat.mul_comm (2 ^ o), ← Nat.mul_assoc]; exact e3 _
    | some n =>
      obtain ⟨x, c', rfl, hnm, h0, hlt, hv, hr'⟩ := inRangeBits_cons_named hn hr
      obtain ⟨e1, e2, e3⟩ := ih o (pre ++ [(n, .int x)]) c' (acc ||| (x.toNat <<< o)) hch hr'
        (fun kx hkx => hg kx (List.mem_cons_of_mem _ hkx))
      have hxn : x.toNat < 2 ^ f.bl := by omega
      have hxx : ((x.toNat : Nat) : Int) = x := Int.toNat_of_nonneg h0
      -- the field contributes its value, or its fixed value which is the same
      have henc : bitEnc f o v = .ok (x.toNat <<< o) := by
        simp only [bitEnc, hn]
        cases hval : f.val with
        | none => simp only [hg _ (List.mem_cons_self ..)]; rw [Int.emod_eq_of_lt h0 hlt]
        | some cst => simp only; rw [← hv cst hval, Int.emod_eq_of_lt h0 hlt]
      refine ⟨?_, ?_, fun hi => ?_⟩
      · simp only [bitsEnc, henc, packVals, hn]
        rw [e1, Nat.or_assoc, ← Nat.shiftLeft_add_eq_or_of_lt e2, Nat.shiftLeft_eq]
      · simp only [packVals, hn]
        exact pack_bound o f.bl x.toNat _ hxn e2
      · have hcont := e3 (hi * 2 ^ f.bl + x.toNat)
        rw [← regroup] at hcont
        simp only [bitsDec, hn, packVals]
        rw [extract hi o f.bl x.toNat _ hxn e2, hxx, Vals.set_of_not_mem _ _ _ hnm]
        cases hval : f.val with
        | none => simp only; rw [hcont, List.append_assoc]; rfl
        | some cst =>
          rw [hv cst hval] at hcont ⊢
          simp only [ne_eq, not_true_eq_false, if_false]
          rw [hcont, List.append_assoc]; rfl

/-- the blob of a derived set fits the set's length (`blob.to_bytes(self.len, 'big')` cannot overflow) -/
theorem packVals_fits (l : Nat) (P : Nat) (h : P < 2 ^ (l * 8)) : fitsInt l false (P : Int) = true := by
  have : 256 ^ l = 2 ^ (l * 8) := by rw [Nat.mul_comm, Nat.pow_mul]
  simp only [fitsInt, Bool.false_eq_true, if_false, decide_eq_true_eq]
  omega

/-! ## unpacking -/

def chainEnd : Nat → List (BitF × Nat) → Nat
  | off, [] => off
  | _, (_, o) :: rest => chainEnd o rest

theorem chainEnd_sum (offs : List (BitF × Nat)) (off : Nat) (h : Chain off offs) :
    chainEnd off offs + (offs.map (·.1.bl)).sum = off := by
  induction offs generalizing off with
  | nil => rfl
  | cons fo rest ih =>
    have := ih fo.2 h.2
    have := h.1
    simp only [chainEnd, List.map_cons, List.sum_cons]
    omega

private theorem mod_split (blob o bl : Nat) :
    (blob >>> o) % 2 ^ bl * 2 ^ o + blob % 2 ^ o = blob % 2 ^ (o + bl) := by
  rw [Nat.shiftRight_eq_div_pow, Nat.pow_add, Nat.mod_mul, Nat.mul_comm, Nat.add_comm]

theorem bitsDec_error {offs : List (BitF × Nat)} {pre : Vals} {blob : Nat} {e : Err}
    (h : bitsDec offs pre blob = .error e) : e = .decode := by
  induction offs generalizing pre with
  | nil => cases h
  | cons fo rest ih =>
    simp only [bitsDec] at h
    split at h
    · exact ih h
    · split at h
      · split at h
        · cases h; rfl
        · exact ih h
      · exact ih h

/-- What a set decodes is in range: the names in processing order, each value below `2^bl`, fixed values
respected.  When every field is named the values pack back to the bits of the blob that the set covers. -/
theorem bitsDec_ok (offs : List (BitF × Nat)) (off : Nat) (pre pre' : Vals) (blob : Nat) (hc : Chain off offs)
    (hfr : Fresh (bitNames offs) pre) (h : bitsDec offs pre blob = .ok pre') :
    ∃ c, pre' = pre ++ c ∧ c.keys = bitNames offs ∧ inRangeBits offs pre c = true
      ∧ ((∀ x ∈ offs, x.1.name.isSome = true) →
          packVals offs c + blob % 2 ^ (chainEnd off offs) = blob % 2 ^ off) := by
  induction offs generalizing off pre with
  | nil => cases h; exact ⟨[], (List.append_nil _).symm, rfl, rfl, fun _ => Nat.zero_add _⟩
  | cons fo rest ih =>
    obtain ⟨f, o⟩ := fo
    obtain ⟨hoff, hch⟩ := hc
    subst hoff
    cases hname : f.name with
    | none =>
      have hb : bitNames ((f, o) :: rest) = bitNames rest := by simp [bitNames, hname]
      rw [hb] at hfr
      simp only [bitsDec, hname] at h
      obtain ⟨c, e1, e2, e3, _⟩ := ih o pre hch hfr h
      exact ⟨c, e1, by rw [hb]; exact e2, by simp only [inRangeBits, hname]; exact e3,
        fun hall => by simpa [hname] using hall (f, o) (List.mem_cons_self ..)⟩
    | some n =>
      have hb : bitNames ((f, o) :: rest) = n :: bitNames rest := by simp [bitNames, hname]
      rw [hb] at hfr
      have hnm : n ∉ pre.keys := hfr.1 n (List.mem_cons_self ..)
      simp only [bitsDec, hname, Vals.set_of_not_mem _ _ _ hnm] at h
      generalize hx : (blob >>> o) % 2 ^ f.bl = x at h
      have hlt : x < 2 ^ f.bl := hx ▸ Nat.mod_lt _ (Nat.pow_pos (by decide))
      have hfr' : Fresh (bitNames rest) (pre ++ [(n, Val.int (x : Int))]) :=
        Fresh.right_append (a := [n]) hfr (fun _ h => h)
      -- a fixed value has been checked
      have hrest : bitsDec rest (pre ++ [(n, Val.int (x : Int))]) blob = .ok pre'
          ∧ (∀ cst, f.val = some cst → (x : Int) = cst) := by
        cases hv : f.val with
        | none => simp only [hv] at h; exact ⟨h, fun _ hc => by cases hc⟩
        | some cst =>
          simp only [hv] at h
          split at h
          · cases h
          · rename_i hne
            exact ⟨h, fun c hc => by cases hc; exact Decidable.not_not.1 hne⟩
      obtain ⟨c, e1, e2, e3, e4⟩ := ih o _ hch hfr' hrest.1
      refine ⟨(n, .int (x : Int)) :: c, by rw [e1, List.append_assoc]; rfl, by rw [Vals.keys_cons, e2, hb],
        inRangeBits_cons_of hname hnm (by omega) (by omega) hrest.2 e3, fun hall => ?_⟩
      have := e4 (fun y hy => hall y (List.mem_cons_of_mem _ hy))
      simp only [packVals, hname, Int.toNat_natCast, chainEnd]
      rw [← mod_split blob o f.bl, hx]
      omega

/-! ## over-wide values -/

theorem bitEnc_trunc (f : BitF) (o : Nat) (v : Vals) (n : String) (y : Int) (hb : f.name = some n) :
    bitEnc f o (Vals.set v n (.int y)) = bitEnc f o (Vals.set v n (.int (y % ((2 ^ f.bl : Nat) : Int)))) := by
  simp only [bitEnc, hb, Vals.get_set_self]
  cases f.val with
  | some c => rfl
  | none => simp only [Int.emod_emod_of_dvd _ (Int.dvd_refl _)]

theorem bitEnc_other (f : BitF) (o : Nat) (v : Vals) (n : String) (x y : Val) (hb : f.name ≠ some n) :
    bitEnc f o (Vals.set v n x) = bitEnc f o (Vals.set v n y) := by
  simp only [bitEnc]
  cases hn : f.name with
  | none => rfl
  | some m =>
    have : m ≠ n := by intro e; subst e; exact hb hn
    simp only [Vals.get_set_ne v n m _ this]

/-- an over-wide value of the bit-field `n` (width `bl`) packs exactly like the value masked to `bl` bits:
every other field of the set contributes the same bits -/
theorem bitsEnc_trunc (offs : List (BitF × Nat)) (v : Vals) (n : String) (y : Int) (bl acc : Nat)
    (h : ∀ f ∈ offs, f.1.name = some n → f.1.bl = bl) :
    bitsEnc offs (Vals.set v n (.int y)) acc
      = bitsEnc offs (Vals.set v n (.int (y % ((2 ^ bl : Nat) : Int)))) acc := by
  induction offs generalizing acc with
  | nil => rfl
  | cons fo rest ih =>
    obtain ⟨f, o⟩ := fo
    have he : bitEnc f o (Vals.set v n (.int y)) = bitEnc f o (Vals.set v n (.int (y % ((2 ^ bl : Nat) : Int)))) := by
      by_cases hb : f.name = some n
      · rw [← h (f, o) (List.mem_cons_self ..) hb]; exact bitEnc_trunc f o v n y hb
      · exact bitEnc_other f o v n _ _ hb
    rw [bitsEnc, bitsEnc, he]
    cases bitEnc f o (Vals.set v n (.int (y % ((2 ^ bl : Nat) : Int)))) with
    | error e => rfl
    | ok x => exact ih _ (fun g hg => h g (List.mem_cons_of_mem _ hg))

end OsmoVerif.Codec
