/- C16: error classes.  Under WF, neither direction can fail with ProtocolError, and the decoder
cannot hang (a sequence item consumes at least one octet); every other Python exception is wrapped
into the codec's own DecodeError / EncodeError by the envelope. -/
import OsmoVerif.Lemmas.CodecDI
namespace OsmoVerif.Codec

/-- the outcome is a real Python exception that `except Exception` catches -/
def Err.catchable : Err → Bool
  | .protocol | .hang | .unmodelled => false
  | _ => true

theorem wrapDec_cases (e : Err) : wrapDec e = .decode ∨ (wrapDec e = e ∧ e.catchable = false) := by
  cases e <;> simp [wrapDec, Err.catchable]

theorem wrapEnc_cases (e : Err) : wrapEnc e = .encode ∨ (wrapEnc e = e ∧ e.catchable = false) := by
  cases e <;> simp [wrapEnc, Err.catchable]

/-- outcomes allowed for a well-formed definition: no ProtocolError, no hang -/
def Err.benign (e : Err) : Prop := e ≠ .protocol ∧ e ≠ .hang

instance (e : Err) : Decidable e.benign := by unfold Err.benign; infer_instance

theorem benign_wrapDec {e : Err} (h : e.benign) : (wrapDec e).benign := by
  rcases wrapDec_cases e with h' | ⟨h', _⟩ <;> rw [h']
  · decide
  · exact h

theorem benign_wrapEnc {e : Err} (h : e.benign) : (wrapEnc e).benign := by
  rcases wrapEnc_cases e with h' | ⟨h', _⟩ <;> rw [h']
  · decide
  · exact h

theorem benign_not_catchable {e : Err} (h1 : e.benign) (h2 : e.catchable = false) : e = .unmodelled := by
  cases e with
  | protocol => exact absurd rfl h1.1
  | hang => exact absurd rfl h1.2
  | unmodelled => rfl
  | _ => cases h2

/-! ## callbacks and leaves -/

theorem tableGet_benign {tbl : List (Int × Nat)} {i : Int} {e : Err} (h : tableGet tbl i = .error e) : e.benign := by
  induction tbl with
  | nil => cases h; decide
  | cons kv rest ih =>
    rw [tableGet] at h
    split at h
    · cases h
    · exact ih h

theorem getLen_benign {ld : LenD} {v : Vals} {n : Nat} {e : Err} (h : getLen ld v n = .error e) : e.benign := by
  cases ld with
  | fixed k => cases h
  | rest => cases h
  | thresh t a b => cases h
  | ofField f =>
    simp only [getLen] at h
    cases hg : Vals.get v f with
    | error e' => rw [hg] at h; cases h; rw [Vals.get_error_key _ _ _ hg]; decide
    | ok x =>
      rw [hg] at h
      cases x with
      | int i => simp only at h; split at h <;> cases h; decide
      | _ => cases h; decide
  | table f tbl =>
    simp only [getLen] at h
    cases hg : Vals.get v f with
    | error e' => rw [hg] at h; cases h; rw [Vals.get_error_key _ _ _ hg]; decide
    | ok x =>
      rw [hg] at h
      cases x with
      | int i => exact tableGet_benign h
      | _ => cases h; decide

/-- a typed lookup fails with `KeyError` or, on a value of another type, `unmodelled` -/
theorem getTyped_benign {v : Vals} {n : String} {e : Err} :
    (Vals.getInt v n = .error e → e.benign) ∧ (Vals.getBytes v n = .error e → e.benign)
    ∧ (Vals.getDict v n = .error e → e.benign) ∧ (Vals.getList v n = .error e → e.benign) := by
  simp only [Vals.getInt, Vals.getBytes, Vals.getDict, Vals.getList]
  cases hg : Vals.get v n with
  | error e' =>
    cases Vals.get_error_key _ _ _ hg
    refine ⟨?_, ?_, ?_, ?_⟩ <;> (intro h; cases h; decide)
  | ok x => cases x <;> (refine ⟨?_, ?_, ?_, ?_⟩ <;> intro h <;> cases h <;> decide)

theorem bitEnc_benign {f : BitF} {o : Nat} {v : Vals} {e : Err} (h : bitEnc f o v = .error e) : e.benign := by
  simp only [bitEnc] at h
  cases hn : f.name with
  | none => simp [hn] at h
  | some name =>
    simp only [hn] at h
    cases hv : f.val with
    | some c => simp [hv] at h
    | none =>
      simp only [hv] at h
      cases hg : Vals.get v name with
      | error e' => rw [hg] at h; cases h; rw [Vals.get_error_key _ _ _ hg]; decide
      | ok x => rw [hg] at h; cases x <;> cases h <;> decide

theorem bitsEnc_benign {offs : List (BitF × Nat)} {v : Vals} {acc : Nat} {e : Err}
    (h : bitsEnc offs v acc = .error e) : e.benign := by
  induction offs generalizing acc with
  | nil => cases h
  | cons fo rest ih =>
    rw [bitsEnc] at h
    cases hb : bitEnc fo.1 fo.2 v with
    | error e' => rw [hb] at h; cases h; exact bitEnc_benign hb
    | ok x => rw [hb] at h; exact ih h

theorem intToBytes_benign {n bo sg x e} (h : intToBytes n bo sg x = .error e) : e.benign := by
  rw [intToBytes_eq] at h
  split at h <;> cases h
  decide

/-! ## decoding: consumed octets are at least the static lower bound -/

theorem minLenField_le (f : FDef) {pre v' : Vals} {data : List Nat} {k : Nat}
    (h : fieldFrom f pre data = .ok (v', k)) : minLenField f ≤ k := by
  have hfix : ∀ {n : Nat}, getLen (.fixed n) pre data.length = .ok k → n ≤ k := by
    intro n hg
    simp only [getLen, Except.ok.injEq] at hg
    split at hg <;> omega
  unfold minLenField
  split
  · rw [fieldFrom] at h
    have hg := ((fieldFromCore_present rfl).1 h).1
    simp only [Except.ok.injEq] at hg
    split at hg <;> omega
  · next len little fs =>
    rw [fieldFrom] at h
    cases hd : bitsDerive len little fs with
    | error e => rw [hd] at h; cases h
    | ok r =>
      simp only [hd] at h
      rw [← (bitsDerive_ok hd).1]
      exact Nat.le_of_eq (Except.ok.inj ((fieldFromCore_present rfl).1 h).1)
  · rw [fieldFrom] at h; exact hfix ((fieldFromCore_present rfl).1 h).1
  · rw [fieldFrom] at h; exact hfix ((fieldFromCore_present rfl).1 h).1
  · rw [fieldFrom] at h; exact hfix ((fieldFromCore_present rfl).1 h).1
  · rw [fieldFrom] at h; exact hfix ((fieldFromCore_present rfl).1 h).1
  · exact Nat.zero_le _

theorem minLen_le (fs : List FDef) {pre v' : Vals} {data : List Nat} {n : Nat}
    (h : envFrom fs pre data 0 = .ok (v', n)) : minLen fs ≤ n := by
  induction fs generalizing pre data n with
  | nil => exact Nat.zero_le _
  | cons f fs ih =>
    obtain ⟨p1, k, k', hf, hr, rfl⟩ := envFrom_cons_ok h
    have := minLenField_le f hf
    have := ih hr
    simp only [minLen, List.map_cons, List.sum_cons] at *
    omega

/-! ## no ProtocolError / hang from a well-formed definition -/

def FieldEB (f : FDef) : Prop :=
  wfField f = true →
    (∀ pre data e, fieldFrom f pre data = .error e → e.benign) ∧ (∀ v e, fieldTo f v = .error e → e.benign)

def EnvEB (fs : List FDef) : Prop :=
  wfFields fs = true →
    (∀ pre data off e, envFrom fs pre data off = .error e → e.benign) ∧ (∀ v e, envTo fs v = .error e → e.benign)

theorem envEB_nil : EnvEB [] := by
  refine fun _ => ⟨fun _ _ _ _ h => ?_, fun _ _ h => ?_⟩
  · rw [envFrom] at h; cases h
  · rw [envTo] at h; cases h

theorem envEB_cons {f : FDef} {fs : List FDef} (hf : FieldEB f) (ih : EnvEB fs) : EnvEB (f :: fs) := by
  intro hw
  rw [wfFields, Bool.and_eq_true] at hw
  obtain ⟨hf1, hf2⟩ := hf hw.1
  obtain ⟨ih1, ih2⟩ := ih hw.2
  refine ⟨fun pre data off e h => ?_, fun v e h => ?_⟩
  · rw [envFrom] at h
    cases hff : fieldFrom f pre (List.drop off data) with
    | error e' => rw [hff] at h; cases h; exact benign_wrapDec (hf1 _ _ _ hff)
    | ok r => rw [hff] at h; exact ih1 _ _ _ _ h
  · rw [envTo] at h
    cases hft : fieldTo f v with
    | error e' => rw [hft] at h; cases h; exact benign_wrapEnc (hf2 _ _ hft)
    | ok a =>
      rw [hft] at h
      cases hr : envTo fs v with
      | error e' => rw [hr] at h; cases h; exact ih2 _ _ hr
      | ok b => rw [hr] at h; cases h

/-- The sequence loop fails only with an error of its item decoder, provided the fuel covers the remaining
octets and an item consumes at least one. -/
theorem seqLoop_error {P : Err → Prop} (proc : List Nat → Except Err (Vals × Nat))
    (H1 : ∀ x e, proc x = .error e → P e) (H2 : ∀ x v k, proc x = .ok (v, k) → k ≥ 1)
    (fuel : Nat) (data : List Nat) (off : Nat) (acc : List Val) (e : Err)
    (hfuel : fuel + off ≥ data.length) (h : seqLoop proc fuel data off acc = .error e) : P e := by
  induction fuel generalizing off acc with
  | zero => rw [seqLoop_done (by omega)] at h; cases h
  | succ fuel ih =>
    by_cases hlt : off < data.length
    · rw [seqLoop_step hlt] at h
      cases hp : proc (List.drop off data) with
      | error e' => rw [hp] at h; cases h; exact H1 _ _ hp
      | ok r =>
        obtain ⟨v, k⟩ := r
        have := H2 _ _ _ hp
        simp only [hp] at h
        rw [if_neg (by omega)] at h
        exact ih (off + k) _ (by omega) h
    · rw [seqLoop_done (by omega)] at h; cases h

theorem seqEnc_benign (enc : Vals → Except Err (List Nat)) (H : ∀ v e, enc v = .error e → e.benign)
    (items : List Val) (e : Err) (h : seqEnc enc items = .error e) : e.benign := by
  induction items with
  | nil => cases h
  | cons it rest ih =>
    cases it with
    | dict v =>
      rw [seqEnc] at h
      cases ha : enc v with
      | error e' => rw [ha] at h; cases h; exact H _ _ ha
      | ok a =>
        rw [ha] at h
        cases hb : seqEnc enc rest with
        | error e' => rw [hb] at h; cases h; exact ih hb
        | ok b => rw [hb] at h; cases h
    | _ => cases h; decide

theorem fieldEB_flat_from {pres glen body} (hg : ∀ pre n e, glen pre n = .error e → e.benign)
    (hb : ∀ pre d e, body pre d = .error e → e.benign) :
    ∀ pre data e, fieldFromCore pres glen body pre data = .error e → e.benign :=
  fun pre _ _ h => fieldFromCore_error (by decide) (by decide) (hg pre) (hb pre) h

theorem fieldEB_int (name pres len bo sg off mult) : FieldEB (.int name pres len bo sg off mult) := by
  refine fun _ => ⟨fun pre data e h => ?_, fun v e h => ?_⟩
  · rw [fieldFrom] at h
    exact fieldEB_flat_from (fun _ _ _ h => by cases h) (fun _ _ _ h => by cases h) _ _ _ h
  · rw [fieldTo] at h
    refine fieldToCore_error (by decide) (by decide) (fun e hb => ?_) h
    rw [intEnc] at hb
    cases hg : Vals.getInt v name with
    | error e' => rw [hg] at hb; cases hb; exact getTyped_benign.1 hg
    | ok x =>
      simp only [hg] at hb
      split at hb
      · cases hb; decide
      · exact intToBytes_benign hb

theorem fieldEB_buf (name pres ld) : FieldEB (.buf name pres ld) := by
  refine fun _ => ⟨fun pre data e h => ?_, fun v e h => ?_⟩
  · rw [fieldFrom] at h
    exact fieldEB_flat_from (fun _ _ _ h => getLen_benign h) (fun _ _ _ h => by cases h) _ _ _ h
  · rw [fieldTo] at h
    exact fieldToCore_error (by decide) (by decide) (fun e hb => getTyped_benign.2.1 hb) h

theorem fieldEB_spare (name pres ld filler) : FieldEB (.spare name pres ld filler) := by
  refine fun _ => ⟨fun pre data e h => ?_, fun v e h => ?_⟩
  · rw [fieldFrom] at h
    exact fieldEB_flat_from (fun _ _ _ h => getLen_benign h) (fun _ _ _ h => by cases h) _ _ _ h
  · rw [fieldTo] at h
    refine fieldToCore_error (by decide) (by decide) (fun e hb => ?_) h
    cases hg : getLen ld v 0 with
    | error e' => simp only [hg] at hb; cases hb; exact getLen_benign hg
    | ok n => simp only [hg] at hb; cases hb

theorem fieldEB_bits (pres len little fs) : FieldEB (.bits pres len little fs) := by
  intro hw
  obtain ⟨l, offs, hd⟩ := wfField_bits_derive hw
  refine ⟨fun pre data e h => ?_, fun v e h => ?_⟩
  · simp only [fieldFrom, hd] at h
    exact fieldEB_flat_from (fun _ _ _ h => by cases h) (fun _ _ _ h => bitsDec_error h ▸ by decide) _ _ _ h
  · simp only [fieldTo, hd] at h
    refine fieldToCore_error (by decide) (by decide) (fun e hb => ?_) h
    rw [bitsEncBytes] at hb
    cases hg : bitsEnc offs v 0 with
    | error e' => rw [hg] at hb; cases hb; exact bitsEnc_benign hg
    | ok blob => rw [hg] at hb; exact intToBytes_benign hb

theorem fieldEB_env (name pres ld cl fs) (hfs : EnvEB fs) : FieldEB (.env name pres ld cl fs) := by
  intro hw
  simp only [wfField, Bool.and_eq_true, decide_eq_true_eq] at hw
  obtain ⟨ih1, ih2⟩ := hfs hw.1.2
  refine ⟨fun pre data e h => ?_, fun v e h => ?_⟩
  · rw [fieldFrom] at h
    refine fieldEB_flat_from (fun _ _ _ h => getLen_benign h) (fun _ d e hb => ?_) _ _ _ h
    cases ht : tailCheck cl d.length (envFrom fs [] d 0) with
    | error e' =>
      rw [ht] at hb; cases hb
      rcases tailCheck_error ht with h1 | rfl
      · exact ih1 _ _ _ _ h1
      · decide
    | ok r => rw [ht] at hb; cases hb
  · rw [fieldTo] at h
    refine fieldToCore_error (by decide) (by decide) (fun e hb => ?_) h
    cases hg : Vals.getDict v name with
    | error e' => simp only [hg] at hb; cases hb; exact getTyped_benign.2.2.1 hg
    | ok inner => simp only [hg] at hb; exact ih2 _ _ hb

theorem fieldEB_seq (name pres ld item) (hitem : EnvEB item) : FieldEB (.seq name pres ld item) := by
  intro hw
  simp only [wfField, Bool.and_eq_true, decide_eq_true_eq] at hw
  obtain ⟨ih1, ih2⟩ := hitem hw.1.1
  refine ⟨fun pre data e h => ?_, fun v e h => ?_⟩
  · rw [fieldFrom] at h
    refine fieldEB_flat_from (fun _ _ _ h => getLen_benign h) (fun _ d e hb => ?_) _ _ _ h
    cases hs : seqLoop (fun x => envFrom item [] x 0) d.length d 0 [] with
    | error e' =>
      rw [hs] at hb; cases hb
      -- an item consumes at least `minLen item ≥ 1` octets, so the fuel `len(data)` suffices
      exact seqLoop_error _ (fun x e h => ih1 _ _ _ _ h)
        (fun x v k hp => Nat.le_trans hw.2 (minLen_le item hp)) _ _ _ _ _ (Nat.le_refl _) hs
    | ok r => rw [hs] at hb; cases hb
  · rw [fieldTo] at h
    refine fieldToCore_error (by decide) (by decide) (fun e hb => ?_) h
    cases hg : Vals.getList v name with
    | error e' => simp only [hg] at hb; cases hb; exact getTyped_benign.2.2.2 hg
    | ok items => simp only [hg] at hb; exact seqEnc_benign _ (fun v e h => ih2 v e h) items e hb

theorem envEB (fs : List FDef) : EnvEB fs :=
  FDef.rec_1 (motive_1 := FieldEB) fieldEB_int fieldEB_buf fieldEB_spare fieldEB_bits fieldEB_env fieldEB_seq
    envEB_nil (fun _ _ => envEB_cons) fs

/-! ## a well-formed definition can be constructed -/

mutual
theorem constructField_of_wf : ∀ (f : FDef), wfField f = true → constructField f = true
  | .int .., _ => rfl
  | .buf .., _ => rfl
  | .spare .., _ => rfl
  | .bits pres len little fs, hw => by
    obtain ⟨l, offs, hd⟩ := wfField_bits_derive hw
    rw [constructField, hd]
  | .env name pres ld cl fs, hw => by
    simp only [wfField, Bool.and_eq_true] at hw
    rw [constructField]; exact constructFields_of_wf fs hw.1.2
  | .seq name pres ld item, hw => by
    simp only [wfField, Bool.and_eq_true] at hw
    rw [constructField]; exact constructFields_of_wf item hw.1.1
theorem constructFields_of_wf : ∀ (fs : List FDef), wfFields fs = true → constructFields fs = true
  | [], _ => rfl
  | f :: fs, hw => by
    rw [wfFields, Bool.and_eq_true] at hw
    rw [constructFields, constructField_of_wf f hw.1, constructFields_of_wf fs hw.2]; rfl
end

/-! ## envelope level: only DecodeError / EncodeError are catchable outcomes -/

theorem envFrom_error_cases (fs : List FDef) (pre : Vals) (data : List Nat) (off : Nat) (e : Err)
    (h : envFrom fs pre data off = .error e) : e = .decode ∨ e.catchable = false := by
  induction fs generalizing pre off with
  | nil => rw [envFrom] at h; cases h
  | cons f fs ih =>
    rw [envFrom] at h
    cases hf : fieldFrom f pre (List.drop off data) with
    | error e' =>
      rw [hf] at h; cases h
      rcases wrapDec_cases e' with h1 | ⟨h1, h2⟩
      · exact .inl h1
      · rw [h1]; exact .inr h2
    | ok r => rw [hf] at h; exact ih _ _ h

theorem envTo_error_cases (fs : List FDef) (v : Vals) (e : Err)
    (h : envTo fs v = .error e) : e = .encode ∨ e.catchable = false := by
  induction fs with
  | nil => rw [envTo] at h; cases h
  | cons f fs ih =>
    rw [envTo] at h
    cases hf : fieldTo f v with
    | error e' =>
      rw [hf] at h; cases h
      rcases wrapEnc_cases e' with h1 | ⟨h1, h2⟩
      · exact .inl h1
      · rw [h1]; exact .inr h2
    | ok a =>
      rw [hf] at h
      cases hr : envTo fs v with
      | error e' => rw [hr] at h; cases h; exact ih hr
      | ok b => rw [hr] at h; cases h

end OsmoVerif.Codec
