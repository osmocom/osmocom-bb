/-
Lemmas about `Model/Msgb.lean`: what each operation does when it returns normally, the buffer
invariant, the room conditions, the octets between `data` and `tail`.
-/
import OsmoVerif.Model.Msgb
import OsmoVerif.Lemmas.Basics

namespace OsmoVerif.Msgb

/-- The buffer invariant: `head = _data`, `head ≤ data ≤ tail ≤ head + data_len`, `len = tail − data`,
`_data` has `data_len` octets, `data_len` is a `uint16_t`. -/
structure Inv (m : Msgb) : Prop where
  head : m.head = 0
  dt : m.data ≤ m.tail
  te : m.tail ≤ m.dataLen
  len : m.len = m.tail - m.data
  mem : m.mem.length = m.dataLen
  dl : m.dataLen < 65536

instance (m : Msgb) : Decidable (Inv m) :=
  if h : m.head = 0 ∧ m.data ≤ m.tail ∧ m.tail ≤ m.dataLen ∧ m.len = m.tail - m.data ∧
      m.mem.length = m.dataLen ∧ m.dataLen < 65536 then
    isTrue ⟨h.1, h.2.1, h.2.2.1, h.2.2.2.1, h.2.2.2.2.1, h.2.2.2.2.2⟩
  else isFalse (fun i => h ⟨i.head, i.dt, i.te, i.len, i.mem, i.dl⟩)

variable {m m' : Msgb} {n p : Nat}

/-! ### the C widths -/

theorem toI32_small (h : n < 2147483648) : toI32 n = n := by simp [toI32, h]
theorem toI32_big (h : ¬ n < 2147483648) : toI32 n = (n : Int) - 4294967296 := by simp [toI32, h]

theorem u16_of_lt {x : Nat} (h : x < 65536) : u16 x = x := Nat.mod_eq_of_lt h

/-- `len -= n` on the `uint16_t`: the model subtracts from `len + 2^32`, and 2^32 is a multiple of 2^16 -/
theorem u16_sub {l n : Nat} (hn : n ≤ l) (hl : l < 65536) : u16 (l + 4294967296 - n) = l - n := by
  rw [Nat.add_comm, Nat.add_sub_assoc hn, Nat.add_comm]
  exact (Nat.add_mul_mod_self_left (l - n) 65536 65536).trans
    (Nat.mod_eq_of_lt (Nat.lt_of_le_of_lt (Nat.sub_le l n) hl))

theorem u16i_natCast (k : Nat) : u16i k = u16 k := by
  rw [u16, ← Int.toNat_natCast (k % 65536), Int.natCast_emod]
  rfl

/-! ### the invariant in the forms the proofs use -/

theorem Inv.sum (i : Inv m) : m.data + m.len = m.tail := by
  rw [i.len]; exact Nat.add_sub_of_le i.dt

theorem Inv.len_lt (i : Inv m) : m.len < 65536 :=
  Nat.lt_of_le_of_lt (i.len ▸ Nat.le_trans (Nat.sub_le _ _) i.te) i.dl

/-- Every operation only moves `data` and `tail` and sets `len`: the result satisfies the invariant
exactly when `len` is the distance of the new pointers and `tail` is still inside the array. -/
theorem Inv.move_iff (i : Inv m) {d t l : Nat} :
    Inv { m with data := d, tail := t, len := l } ↔ d + l = t ∧ t ≤ m.dataLen :=
  ⟨fun i' => ⟨i'.sum, i'.te⟩,
   fun h => ⟨i.head, h.1 ▸ Nat.le_add_right d l, h.2, by rw [← h.1, Nat.add_sub_cancel_left], i.mem, i.dl⟩⟩

theorem tailroom_eq (i : Inv m) : tailroom m = ((m.dataLen - m.tail : Nat) : Int) := by
  rw [tailroom, i.head, Nat.zero_add, Int.ofNat_sub i.te]

theorem headroom_eq (i : Inv m) : headroom m = (m.data : Int) := by
  simp [headroom, i.head]

theorem le_tailroom_iff (i : Inv m) : (n : Int) ≤ tailroom m ↔ m.tail + n ≤ m.dataLen := by
  rw [tailroom_eq i]; exact Int.ofNat_le.trans (Nat.le_sub_iff_add_le' i.te)

theorem le_headroom_iff (i : Inv m) : (n : Int) ≤ headroom m ↔ n ≤ m.data := by
  rw [headroom_eq i]; exact Int.ofNat_le

/-! ### what a normal return means -/

/-- a failed check is the only way out of an operation before its last statement -/
theorem ite_error_eq_ok {ε α : Type} {c : Prop} [Decidable c] {e : ε} {x : Except ε α} {r : α}
    (h : (if c then .error e else x) = .ok r) : ¬ c ∧ x = .ok r := by
  split at h
  · cases h
  · exact ⟨‹_›, h⟩

theorem bind_eq_ok {ε α β : Type} {x : Except ε α} {f : α → Except ε β} {b : β}
    (h : (x >>= f) = .ok b) : ∃ a, x = .ok a ∧ f a = .ok b := by
  cases x with
  | error e => cases h
  | ok a => exact ⟨a, rfl, h⟩

theorem bind_ok {ε α : Type} (x : Except ε α) : (x >>= fun a => Except.ok a) = x := by
  cases x <;> rfl

theorem put_ok (h : put m n = .ok (m', p)) :
    ¬ tailroom m < toI32 n ∧ m.tail + n ≤ m.dataLen ∧
      m' = { m with tail := m.tail + n, len := u16 (m.len + n) } ∧ p = m.tail := by
  obtain ⟨h1, h⟩ := ite_error_eq_ok h
  obtain ⟨h2, h⟩ := ite_error_eq_ok h
  cases h
  exact ⟨h1, Nat.le_of_not_lt h2, rfl, rfl⟩

theorem push_ok (h : push m n = .ok (m', p)) :
    ¬ headroom m < toI32 n ∧ n ≤ m.data ∧
      m' = { m with data := m.data - n, len := u16 (m.len + n) } ∧ p = m.data - n := by
  obtain ⟨h1, h⟩ := ite_error_eq_ok h
  obtain ⟨h2, h⟩ := ite_error_eq_ok h
  cases h
  exact ⟨h1, Nat.le_of_not_lt h2, rfl, rfl⟩

theorem get_ok (h : get m n = .ok (m', p)) :
    n ≤ m.data ∧ n ≤ m.len ∧ n ≤ m.tail ∧
      m' = { m with tail := m.tail - n, len := u16 (m.len + 4294967296 - n) } ∧ p = m.data - n := by
  obtain ⟨h1, h⟩ := ite_error_eq_ok h
  obtain ⟨h2, h⟩ := ite_error_eq_ok h
  obtain ⟨h3, h⟩ := ite_error_eq_ok h
  cases h
  exact ⟨Nat.le_of_not_lt h1, Nat.le_of_not_lt h2, Nat.le_of_not_lt h3, rfl, rfl⟩

theorem pull_ok (h : pull m n = .ok (m', p)) :
    m.data + n ≤ m.dataLen ∧
      m' = { m with data := m.data + n, len := u16 (m.len + 4294967296 - n) } ∧ p = m.data + n := by
  obtain ⟨h1, h⟩ := ite_error_eq_ok h
  cases h
  exact ⟨Nat.le_of_not_lt h1, rfl, rfl⟩

theorem reserve_ok {n : Int} (h : reserve m n = .ok m') :
    (0 ≤ (m.data : Int) + n ∧ (m.data : Int) + n ≤ m.dataLen ∧ 0 ≤ (m.tail : Int) + n ∧
      (m.tail : Int) + n ≤ m.dataLen) ∧
      m' = { m with data := ((m.data : Int) + n).toNat, tail := ((m.tail : Int) + n).toNat } := by
  obtain ⟨h1, h⟩ := ite_error_eq_ok h
  cases h
  simp only [not_or, Int.not_lt] at h1
  exact ⟨h1, rfl⟩

theorem trim_ok {n r : Int} (h : trim m n = .ok (m', r)) :
    (n > m.dataLen ∧ m' = m ∧ r = -1) ∨
    (n ≤ m.dataLen ∧ 0 ≤ (m.data : Int) + n ∧ (m.data : Int) + n ≤ m.dataLen ∧
      m' = { m with len := u16i n, tail := ((m.data : Int) + n).toNat } ∧ r = 0) := by
  by_cases h1 : n > m.dataLen
  · rw [trim, if_pos h1] at h
    cases h
    exact .inl ⟨h1, rfl, rfl⟩
  · rw [trim, if_neg h1] at h
    obtain ⟨h2, h⟩ := ite_error_eq_ok h
    cases h
    exact .inr ⟨Int.not_lt.1 h1, Int.not_lt.1 (not_or.1 h2).1, Int.not_lt.1 (not_or.1 h2).2, rfl, rfl⟩

theorem writeAt_ok {off v : Nat} (h : writeAt m off v = .ok m') :
    off < m.mem.length ∧ m' = { m with mem := m.mem.set off v } := by
  unfold writeAt at h
  split at h
  · cases h
    exact ⟨‹_›, rfl⟩
  · cases h

theorem readAt_ok {off v : Nat} (h : readAt m off = .ok v) : m.mem[off]? = some v := by
  unfold readAt at h
  split at h
  · cases h
    assumption
  · cases h

/-! ### `memcpy` into the array -/

theorem drop_set_gt (l : List Nat) (i j b : Nat) (h : i < j) :
    (l.set i b).drop j = l.drop j := by
  rw [List.drop_set]
  simp [h]

/-- `mem` with `bs` written at `off` -/
def splice (mem : List Nat) (off : Nat) (bs : List Nat) : List Nat :=
  mem.take off ++ bs ++ mem.drop (off + bs.length)

theorem splice_nil (mem : List Nat) (off : Nat) : splice mem off [] = mem := by
  simp [splice]

theorem splice_cons (mem : List Nat) (off b : Nat) (bs : List Nat) (h : off < mem.length) :
    splice (mem.set off b) (off + 1) bs = splice mem off (b :: bs) := by
  simp only [splice, take_set_succ mem off b h, List.length_cons]
  rw [drop_set_gt mem off _ b (by omega)]
  simp [Nat.add_assoc, Nat.add_comm 1]

theorem splice_length (mem : List Nat) (off : Nat) (bs : List Nat) (h : off + bs.length ≤ mem.length) :
    (splice mem off bs).length = mem.length := by
  simp [splice]; omega

theorem writeBytes_fits : ∀ (bs : List Nat) (m : Msgb) (off : Nat), off + bs.length ≤ m.mem.length →
    writeBytes m off bs = .ok { m with mem := splice m.mem off bs }
  | [], m, off, _ => by simp [writeBytes, splice_nil]
  | b :: bs, m, off, h => by
    simp only [List.length_cons] at h
    have hlt : off < m.mem.length := by omega
    simp only [writeBytes, writeAt, hlt, ↓reduceIte, bind, Except.bind]
    rw [writeBytes_fits bs _ (off + 1) (by simp; omega)]
    simp [splice_cons m.mem off b bs hlt]

theorem writeBytes_ok : ∀ (bs : List Nat) {m m' : Msgb} {off : Nat}, writeBytes m off bs = .ok m' →
    bs ≠ [] → off + bs.length ≤ m.mem.length
  | [], _, _, _, _, hne => absurd rfl hne
  | b :: bs, m, m', off, h, _ => by
    simp only [writeBytes, bind, Except.bind] at h
    split at h
    · cases h
    · rename_i m1 h1
      obtain ⟨hlt, rfl⟩ := writeAt_ok h1
      by_cases hbs : bs = []
      · subst hbs; simp; omega
      · have := writeBytes_ok bs h hbs
        simp only [List.length_set] at this
        simp only [List.length_cons]; omega

/-! ### the invariant is kept -/

def isOk {ε α : Type} : Except ε α → Bool
  | .ok _ => true
  | .error _ => false

theorem put_inv (i : Inv m) (h : put m n = .ok (m', p)) : Inv m' := by
  obtain ⟨-, h2, rfl, -⟩ := put_ok h
  have hs := i.sum; have := i.dl
  exact i.move_iff.2 ⟨by rw [u16_of_lt (by omega)]; omega, h2⟩

theorem push_inv (i : Inv m) (h : push m n = .ok (m', p)) : Inv m' := by
  obtain ⟨-, h2, rfl, -⟩ := push_ok h
  have hs := i.sum; have := i.te; have := i.dl
  exact i.move_iff.2 ⟨by rw [u16_of_lt (by omega)]; omega, i.te⟩

theorem get_inv (i : Inv m) (h : get m n = .ok (m', p)) : Inv m' := by
  obtain ⟨-, h2, -, rfl, -⟩ := get_ok h
  have hs := i.sum
  exact i.move_iff.2 ⟨by rw [u16_sub h2 i.len_lt]; omega, Nat.le_trans (Nat.sub_le _ _) i.te⟩

/-- `msgb_pull` has no check: it keeps the invariant exactly when at most `len` octets are pulled -/
theorem pull_inv_iff (i : Inv m) (h : pull m n = .ok (m', p)) :
    Inv m' ↔ n ≤ m.len := by
  obtain ⟨-, rfl, -⟩ := pull_ok h
  have hs := i.sum
  rw [i.move_iff]
  constructor
  · intro ⟨h1, _⟩; omega
  · intro hn; exact ⟨by rw [u16_sub hn i.len_lt]; omega, i.te⟩

theorem reserve_inv {n : Int} (i : Inv m) (h : reserve m n = .ok m') : Inv m' := by
  obtain ⟨⟨h1, -, h3, h2⟩, rfl⟩ := reserve_ok h
  have hs := i.sum
  -- the new pointers as natural numbers
  have e1 := Int.toNat_of_nonneg h1
  have e2 := Int.toNat_of_nonneg h3
  generalize ((m.data : Int) + n).toNat = d at e1 ⊢
  generalize ((m.tail : Int) + n).toNat = t at e2 ⊢
  exact i.move_iff.2 (by omega)

/-- `msgb_trim` checks `len > data_len` only: it keeps the invariant exactly when `len ≥ 0` -/
theorem trim_inv_iff {n r : Int} (i : Inv m) (h : trim m n = .ok (m', r)) :
    Inv m' ↔ (0 ≤ n ∨ n > m.dataLen) := by
  rcases trim_ok h with ⟨h1, rfl, -⟩ | ⟨h1, h2, h3, rfl, -⟩
  · exact iff_of_true i (.inr h1)
  · rw [i.move_iff]
    constructor
    · intro ⟨hs, _⟩; left; omega
    · intro hn
      obtain ⟨k, rfl⟩ := Int.eq_ofNat_of_zero_le (show 0 ≤ n by omega)
      have := i.dl
      rw [u16i_natCast, u16_of_lt (by omega), ← Int.natCast_add, Int.toNat_natCast]
      exact ⟨rfl, by omega⟩

theorem writeAt_inv {off v : Nat} (i : Inv m) (h : writeAt m off v = .ok m') : Inv m' := by
  obtain ⟨_, rfl⟩ := writeAt_ok h
  exact ⟨i.head, i.dt, i.te, i.len, by simpa using i.mem, i.dl⟩

theorem writeBytes_inv : ∀ (bs : List Nat) {m m' : Msgb} {off : Nat}, Inv m → writeBytes m off bs = .ok m' → Inv m'
  | [], m, m', off, i, h => by
    cases h
    exact i
  | b :: bs, m, m', off, i, h => by
    obtain ⟨m1, h1, h⟩ := bind_eq_ok h
    exact writeBytes_inv bs (writeAt_inv i h1) h

/-! ### the room conditions: an operation fails exactly when its room check fails -/

theorem isOk_iff {ε α : Type} {x : Except ε α} : isOk x = true ↔ ∃ r, x = .ok r := by
  cases x <;> simp [isOk]

theorem put_fits (i : Inv m) (h : m.tail + n ≤ m.dataLen) :
    put m n = .ok ({ m with tail := m.tail + n, len := u16 (m.len + n) }, m.tail) := by
  have hn : n < 2147483648 := by have := i.dl; omega
  rw [put, toI32_small hn, if_neg (Int.not_lt.2 ((le_tailroom_iff i).2 h)), if_neg (Nat.not_lt.2 h)]

/-- `msgb_put` with `len` from 2^31 on: `(int) len` is negative, the check passes, the pointer leaves the array -/
theorem put_huge (i : Inv m) (hn : ¬ n < 2147483648) (hn' : n < 4294967296) :
    put m n = .error .oob := by
  have := i.dl; have := i.te
  rw [put, toI32_big hn, tailroom_eq i, if_neg (by omega), if_pos (by omega)]

theorem push_fits (i : Inv m) (h : n ≤ m.data) :
    push m n = .ok ({ m with data := m.data - n, len := u16 (m.len + n) }, m.data - n) := by
  have hn : n < 2147483648 := by have := i.dl; have := i.dt; have := i.te; omega
  rw [push, toI32_small hn, if_neg (Int.not_lt.2 ((le_headroom_iff i).2 h)), if_neg (Nat.not_lt.2 h)]

/-! ### the octets between `data` and `tail` -/

theorem body_length (i : Inv m) : (body m).length = m.len := by
  rw [body, List.length_take, List.length_drop, i.mem, i.len]
  exact Nat.min_eq_left (Nat.sub_le_sub_right i.te _)

/-- octets written at `tail` extend the message at its end -/
theorem body_splice_tail (mem bs : List Nat) (d t : Nat) (hdt : d ≤ t) (ht : t + bs.length ≤ mem.length) :
    ((splice mem t bs).drop d).take (t + bs.length - d) = (mem.drop d).take (t - d) ++ bs := by
  have ht' : t ≤ mem.length := Nat.le_trans (Nat.le_add_right _ _) ht
  have h1 : (mem.take t).length = t := List.length_take_of_le ht'
  have h2 : ((mem.drop d).take (t - d)).length = t - d :=
    List.length_take_of_le (List.length_drop ▸ Nat.sub_le_sub_right ht' d)
  rw [splice, List.append_assoc, List.drop_append_of_le_length (h1.symm ▸ hdt), List.drop_take,
    ← List.append_assoc]
  exact List.take_left' (by rw [List.length_append, h2, Nat.sub_add_comm hdt])

/-- octets written at the new `data`, in front of the old one, extend the message at its start -/
theorem body_splice_head (mem bs : List Nat) (d t : Nat) (hdt : d + bs.length ≤ t) (ht : t ≤ mem.length) :
    ((splice mem d bs).drop d).take (t - d) = bs ++ (mem.drop (d + bs.length)).take (t - (d + bs.length)) := by
  have h1 : (mem.take d).length = d :=
    List.length_take_of_le (Nat.le_trans (Nat.le_add_right _ _) (Nat.le_trans hdt ht))
  have e : t - d = bs.length + (t - (d + bs.length)) := by
    rw [Nat.sub_add_eq, Nat.add_sub_of_le (Nat.le_sub_of_add_le' hdt)]
  rw [splice, List.append_assoc, List.drop_left' h1, e, List.take_length_add_append]

/-- `memcpy(msgb_put(msg, n), bytes, n)` inside the tailroom -/
theorem putBytes_fits (i : Inv m) {bs : List Nat} (h : m.tail + bs.length ≤ m.dataLen) :
    putBytes m bs = .ok { m with tail := m.tail + bs.length, len := u16 (m.len + bs.length),
                                 mem := splice m.mem m.tail bs } := by
  simp only [putBytes, put_fits i h, bind, Except.bind]
  exact writeBytes_fits bs _ m.tail (i.mem.symm ▸ h)

/-- `memcpy(msgb_put(msg, n), bytes, n)` appends the octets -/
theorem putBytes_ok {bs : List Nat} (i : Inv m) (h : putBytes m bs = .ok m') :
    Inv m' ∧ body m' = body m ++ bs ∧ m'.data = m.data ∧ m'.tail = m.tail + bs.length ∧
      m'.dataLen = m.dataLen := by
  obtain ⟨⟨m1, p⟩, h1, h2⟩ := bind_eq_ok h
  have hfit := (put_ok h1).2.1
  have i1 := writeBytes_inv bs (put_inv i h1) h2
  rw [putBytes_fits i hfit] at h
  cases h
  exact ⟨i1, body_splice_tail m.mem bs m.data m.tail i.dt (i.mem.symm ▸ hfit), rfl, rfl, rfl⟩

/-- `memcpy(msgb_push(msg, n), bytes, n)` inside the headroom -/
theorem pushBytes_fits (i : Inv m) {bs : List Nat} (h : bs.length ≤ m.data) :
    pushBytes m bs = .ok { m with data := m.data - bs.length, len := u16 (m.len + bs.length),
                                  mem := splice m.mem (m.data - bs.length) bs } := by
  simp only [pushBytes, push_fits i h, bind, Except.bind]
  exact writeBytes_fits bs _ _ (by
    rw [i.mem]; exact (Nat.sub_add_cancel h).symm ▸ Nat.le_trans i.dt i.te)

theorem pushBytes_ok {bs : List Nat} (i : Inv m) (h : pushBytes m bs = .ok m') :
    Inv m' ∧ body m' = bs ++ body m ∧ m'.data = m.data - bs.length ∧ m'.tail = m.tail ∧
      m'.dataLen = m.dataLen := by
  obtain ⟨⟨m1, p⟩, h1, h2⟩ := bind_eq_ok h
  have hfit := (push_ok h1).2.1
  have i1 := writeBytes_inv bs (push_inv i h1) h2
  rw [pushBytes_fits i hfit] at h
  cases h
  have hd : m.data - bs.length + bs.length = m.data := Nat.sub_add_cancel hfit
  have := body_splice_head m.mem bs (m.data - bs.length) m.tail (hd.symm ▸ i.dt) (i.mem.symm ▸ i.te)
  rw [hd] at this
  exact ⟨i1, this, rfl, rfl, rfl⟩

theorem drop_take_cons {mem : List Nat} {d t v : Nat} (hlt : d < t) (hv : mem[d]? = some v) :
    (mem.drop d).take (t - d) = v :: (mem.drop (d + 1)).take (t - (d + 1)) := by
  obtain ⟨hl, rfl⟩ := List.getElem?_eq_some_iff.1 hv
  rw [List.drop_eq_getElem_cons hl, ← Nat.succ_pred_eq_of_pos (Nat.sub_pos_of_lt hlt), List.take_succ_cons]
  rfl

theorem body_cons {m : Msgb} {v : Nat} (hlt : m.data < m.tail) (hv : m.mem[m.data]? = some v) :
    body m = v :: body { m with data := m.data + 1 } :=
  drop_take_cons hlt hv

/-! ### inverse pairs -/

/-- under the invariant `len` is determined by the pointers: an operation that leaves `data` and `tail`
where they were has changed nothing -/
theorem Inv.move_eq (i : Inv m) {d t l : Nat} (i' : Inv { m with data := d, tail := t, len := l })
    (hd : d = m.data) (ht : t = m.tail) : { m with data := d, tail := t, len := l } = m := by
  subst hd ht
  have hl : l = m.len := Nat.add_left_cancel ((i.move_iff.1 i').1.trans i.sum.symm)
  subst hl
  rfl

/-! ### the typed accessors -/

/-- `msgb_get_u8` is `msgb_get(1)` and a read through the pointer it returns, `data − 1` -/
theorem getU8_ok {v : Nat} (h : getU8 m = .ok (m', v)) :
    get m 1 = .ok (m', m.data - 1) ∧ m.mem[m.data - 1]? = some v := by
  obtain ⟨⟨m1, p⟩, h1, h⟩ := bind_eq_ok h
  obtain ⟨a, ha, h⟩ := bind_eq_ok h
  cases h
  obtain ⟨-, -, -, rfl, rfl⟩ := get_ok h1
  have ha := readAt_ok ha
  exact ⟨h1, ha⟩

theorem getU16_ok {v : Nat} (h : getU16 m = .ok (m', v)) : ∃ p, get m 2 = .ok (m', p) := by
  obtain ⟨⟨m1, p⟩, h1, h⟩ := bind_eq_ok h
  obtain ⟨a, -, h⟩ := bind_eq_ok h
  obtain ⟨b, -, h⟩ := bind_eq_ok h
  cases h
  exact ⟨p, h1⟩

theorem getU32_ok {v : Nat} (h : getU32 m = .ok (m', v)) : ∃ p, get m 4 = .ok (m', p) := by
  obtain ⟨⟨m1, p⟩, h1, h⟩ := bind_eq_ok h
  obtain ⟨a, -, h⟩ := bind_eq_ok h
  obtain ⟨b, -, h⟩ := bind_eq_ok h
  obtain ⟨c, -, h⟩ := bind_eq_ok h
  obtain ⟨d, -, h⟩ := bind_eq_ok h
  obtain ⟨e, -, h⟩ := bind_eq_ok h
  cases h
  exact ⟨p, h1⟩

/-- `msgb_pull_u8` is `msgb_pull(1)` and a read of the octet in front of the new `data` -/
theorem pullU8_ok {v : Nat} (h : pullU8 m = .ok (m', v)) :
    pull m 1 = .ok (m', m.data + 1) ∧ m.mem[m.data]? = some v := by
  obtain ⟨⟨m1, p⟩, h1, h⟩ := bind_eq_ok h
  obtain ⟨a, ha, h⟩ := bind_eq_ok h
  cases h
  obtain ⟨-, rfl, rfl⟩ := pull_ok h1
  have ha := readAt_ok ha
  exact ⟨h1, ha⟩

theorem pullU16_ok {v : Nat} (h : pullU16 m = .ok (m', v)) :
    ∃ a b, pull m 2 = .ok (m', m.data + 2) ∧ m.mem[m.data]? = some a ∧ m.mem[m.data + 1]? = some b ∧
      v = a * 256 + b := by
  obtain ⟨⟨m1, p⟩, h1, h⟩ := bind_eq_ok h
  obtain ⟨a, ha, h⟩ := bind_eq_ok h
  obtain ⟨b, hb, h⟩ := bind_eq_ok h
  cases h
  obtain ⟨-, rfl, rfl⟩ := pull_ok h1
  have ha := readAt_ok ha; have hb := readAt_ok hb
  exact ⟨a, b, h1, ha, hb, rfl⟩

/-- … `msgb_pull_u32` only returns when the first octet is below 0x80: from 0x80 on the `int` shift
`space[0] << 24` is not representable -/
theorem pullU32_ok {v : Nat} (h : pullU32 m = .ok (m', v)) :
    ∃ a b c d, pull m 4 = .ok (m', m.data + 4) ∧ m.mem[m.data]? = some a ∧ m.mem[m.data + 1]? = some b ∧
      m.mem[m.data + 2]? = some c ∧ m.mem[m.data + 3]? = some d ∧ a < 128 ∧
      v = a * 16777216 + b * 65536 + c * 256 + d := by
  obtain ⟨⟨m1, p⟩, h1, h⟩ := bind_eq_ok h
  obtain ⟨a, ha, h⟩ := bind_eq_ok h
  obtain ⟨b, hb, h⟩ := bind_eq_ok h
  obtain ⟨c, hc, h⟩ := bind_eq_ok h
  obtain ⟨d, hd, h⟩ := bind_eq_ok h
  obtain ⟨v', hv, h⟩ := bind_eq_ok h
  cases h
  obtain ⟨-, rfl, rfl⟩ := pull_ok h1
  obtain ⟨h128, hv⟩ := ite_error_eq_ok hv
  cases hv
  have ha := readAt_ok ha; have hb := readAt_ok hb; have hc := readAt_ok hc; have hd := readAt_ok hd
  exact ⟨a, b, c, d, h1, ha, hb, hc, hd, Nat.lt_of_not_le h128, rfl⟩

/-! ### every operation of a script -/

/-- the condition under which an operation WITHOUT a check in msgb.h keeps the invariant
(`True` for the operations that have one, and for `msgb_reserve`, whose pointers the model confines
to the array) -/
def Op.roomOk (m : Msgb) : Op → Prop
  | .pull n => n ≤ m.len
  | .pullU8 => 1 ≤ m.len
  | .pullU16 => 2 ≤ m.len
  | .pullU32 => 4 ≤ m.len
  | .trim n => 0 ≤ n ∨ n > m.dataLen
  | _ => True

theorem getU_inv {m m1 : Msgb} {n p : Nat} (i : Inv m) (h : get m n = .ok (m1, p)) : Inv m1 := get_inv i h

/-! ### `sercomm_alloc_msgb` -/

/-- the buffer `sercomm_alloc_msgb(n)` hands out for `1 ≤ n ≤ 65531` -/
def scBuf (n : Nat) : Msgb :=
  { dataLen := n + 4, len := 0, head := 0, data := 4, tail := 4, mem := List.replicate (n + 4) 0 }

theorem reserve_alloc {s k : Nat} (hs : s < 65536) :
    reserve (alloc s) (k : Int) = if k ≤ s then .ok { alloc s with data := k, tail := k } else .error .oob := by
  rw [alloc, u16_of_lt hs]
  simp only [reserve]
  by_cases h : k ≤ s
  · rw [if_neg (by omega), if_pos h]
    simp
  · rw [if_pos (by omega), if_neg h]

/-- `msgb_alloc_headroom(n + 4, 4)` while `n + 4` is an `int`: the run-time static assert, then
`msgb_reserve(4)` on the `uint16_t`-sized allocation -/
theorem sercommAlloc_eq (h : n + 4 < 2147483648) :
    sercommAlloc n = if n = 0 then .error .vla else reserve (alloc (u16 (n + 4))) (4 : Nat) := by
  have e1 : (n + 4) % 4294967296 = n + 4 := Nat.mod_eq_of_lt (Nat.lt_trans h (by decide))
  rw [sercommAlloc, allocHeadroom, e1, toI32_small h, u16i_natCast]
  by_cases h0 : n = 0
  · subst h0; rfl
  · have h4 : (4 : Int) < ((n + 4 : Nat) : Int) :=
      Int.ofNat_lt.2 (Nat.lt_add_of_pos_left (Nat.pos_of_ne_zero h0))
    rw [if_neg h0, if_neg (not_not_intro h4)]
    rfl

theorem sercommAlloc_small (h1 : 1 ≤ n) (h2 : n ≤ 65531) : sercommAlloc n = .ok (scBuf n) := by
  rw [sercommAlloc_eq (by omega), if_neg (by omega), u16_of_lt (by omega), reserve_alloc (by omega),
    if_pos (Nat.le_add_left 4 n), alloc, u16_of_lt (by omega)]
  rfl

theorem scBuf_inv (h2 : n ≤ 65531) : Inv (scBuf n) :=
  ⟨rfl, Nat.le_refl _, Nat.le_add_left _ _, rfl, List.length_replicate, Nat.add_lt_add_right (Nat.lt_succ_of_le h2) 4⟩

theorem scBuf_body (n : Nat) : body (scBuf n) = [] := by simp [body, scBuf]

/-! ### `msgb_enqueue` / `msgb_dequeue`: the linked cells are a first-in-first-out list -/


/-- from cell `a` the cells of `l` are linked forwards up to `b`, and backwards from `b` to `a` -/
def Seg (h : Heap) : Nat → List Nat → Nat → Prop
  | a, [], b => (h a).next = b ∧ (h b).prev = a
  | a, x :: l, b => (h a).next = x ∧ (h x).prev = a ∧ Seg h x l b

/-- the circular list with head cell `q` holds exactly the cells `l`, in this order -/
def IsQueue (h : Heap) (q : Nat) (l : List Nat) : Prop := Seg h q l q ∧ (q :: l).Nodup

theorem seg_frame {h h' : Heap} : ∀ {a : Nat} {l : List Nat} {b : Nat}, Seg h a l b →
    (∀ c ∈ a :: l, (h' c).next = (h c).next) → (∀ c ∈ l ++ [b], (h' c).prev = (h c).prev) → Seg h' a l b
  | a, [], b, hs, hn, hp => by
    simp only [Seg] at hs ⊢
    rw [hn a (by simp), hp b (by simp)]
    exact hs
  | a, x :: l, b, hs, hn, hp => by
    simp only [Seg] at hs ⊢
    refine ⟨by rw [hn a (by simp)]; exact hs.1, by rw [hp x (by simp)]; exact hs.2.1, ?_⟩
    exact seg_frame hs.2.2 (fun c hc => hn c (List.mem_cons_of_mem _ hc))
      (fun c hc => hp c (by simp only [List.cons_append, List.mem_cons]; exact .inr hc))

@[simp] theorem setNext_next (h : Heap) (a v x : Nat) : ((h.setNext a v) x).next = if x = a then v else (h x).next := by
  simp only [Heap.setNext]; split <;> rfl
@[simp] theorem setNext_prev (h : Heap) (a v x : Nat) : ((h.setNext a v) x).prev = (h x).prev := by
  simp only [Heap.setNext]; split <;> rfl
@[simp] theorem setPrev_prev (h : Heap) (a v x : Nat) : ((h.setPrev a v) x).prev = if x = a then v else (h x).prev := by
  simp only [Heap.setPrev]; split <;> rfl
@[simp] theorem setPrev_next (h : Heap) (a v x : Nat) : ((h.setPrev a v) x).next = (h x).next := by
  simp only [Heap.setPrev]; split <;> rfl

theorem seg_prev {h : Heap} : ∀ {a : Nat} {l : List Nat} {b : Nat}, Seg h a l b →
    (h b).prev = (a :: l).getLast (by simp)
  | a, [], b, hs => by simpa using hs.2
  | a, x :: l, b, hs => by
    have := seg_prev hs.2.2
    simpa using this

theorem seg_add_tail {h : Heap} {new : Nat} : ∀ {a : Nat} {l : List Nat} {b : Nat}, Seg h a l b →
    (a :: l).Nodup → b ∉ l → new ∉ a :: l → new ≠ b →
    Seg (llistAdd' h new ((a :: l).getLast (by simp)) b) a (l ++ [new]) b
  | a, [], b, hs, _, _, hnew, hnb => by
    simp only [List.mem_cons, List.not_mem_nil, or_false] at hnew
    simp only [List.getLast_singleton, List.nil_append, Seg, llistAdd', setNext_next, setNext_prev,
      setPrev_prev, setPrev_next, if_true]
    simp [hnew, Ne.symm hnb]
  | a, x :: l, b, hs, hnd, hb, hnew, hnb => by
    simp only [Seg] at hs
    have hnd' : (x :: l).Nodup := (List.nodup_cons.1 hnd).2
    have hb' : b ∉ l := fun hm => hb (List.mem_cons_of_mem _ hm)
    have hnew' : new ∉ x :: l := fun hm => hnew (List.mem_cons_of_mem _ hm)
    have ih := seg_add_tail hs.2.2 hnd' hb' hnew' hnb
    have hz : (a :: x :: l).getLast (by simp) = (x :: l).getLast (by simp) := by simp
    rw [hz]
    have hzmem : (x :: l).getLast (by simp) ∈ x :: l := List.getLast_mem _
    have haz : a ≠ (x :: l).getLast (by simp) := fun e => (List.nodup_cons.1 hnd).1 (e ▸ hzmem)
    have han : a ≠ new := fun e => hnew (by simp [e])
    have hxn : x ≠ new := fun e => hnew (by simp [e])
    have hxb : x ≠ b := fun e => hb (by simp [e])
    simp only [List.cons_append, Seg]
    refine ⟨?_, ?_, ih⟩
    · simp only [llistAdd', setNext_next, setPrev_next, if_neg haz, if_neg han]
      exact hs.1
    · simp only [llistAdd', setNext_prev, setPrev_prev, if_neg hxn, if_neg hxb]
      exact hs.2.1

/-- `msgb_enqueue` appends at the end -/
theorem enqueue_refines {h : Heap} {q new : Nat} {l : List Nat} (hq : IsQueue h q l) (hnew : new ∉ q :: l) :
    IsQueue (enqueue h q new) q (l ++ [new]) := by
  obtain ⟨hs, hnd⟩ := hq
  have hql : q ∉ l := (List.nodup_cons.1 hnd).1
  have hnq : new ≠ q := fun e => hnew (by simp [e])
  refine ⟨?_, ?_⟩
  · simp only [enqueue, llistAddTail]
    rw [seg_prev hs]
    exact seg_add_tail hs hnd hql hnew hnq
  · rw [← List.cons_append]
    rw [List.nodup_append]
    refine ⟨hnd, by simp, ?_⟩
    intro x hx y hy
    simp only [List.mem_singleton] at hy
    subst hy
    exact fun e => hnew (e ▸ hx)

/-- `msgb_dequeue` takes the first one; `NULL` exactly on the empty queue -/
theorem dequeue_refines {h : Heap} {q : Nat} {l : List Nat} (hq : IsQueue h q l) :
    match l with
    | [] => dequeue h q = (h, none)
    | x :: l' => (dequeue h q).2 = some x ∧ IsQueue (dequeue h q).1 q l' := by
  obtain ⟨hs, hnd⟩ := hq
  cases l with
  | nil =>
    simp only [Seg] at hs
    simp [dequeue, llistEmpty, hs.1]
  | cons x l' =>
    simp only [Seg] at hs
    have hqx : q ≠ x := fun e => (List.nodup_cons.1 hnd).1 (by simp [e])
    have hne : llistEmpty h q = false := by simp [llistEmpty, hs.1, Ne.symm hqx]
    have hnd' : (x :: l').Nodup := (List.nodup_cons.1 hnd).2
    have hql : q ∉ l' := fun hm => (List.nodup_cons.1 hnd).1 (List.mem_cons_of_mem _ hm)
    have hxl : x ∉ l' := (List.nodup_cons.1 hnd').1
    have hndq : (q :: l').Nodup := List.nodup_cons.2 ⟨hql, (List.nodup_cons.1 hnd').2⟩
    simp only [dequeue, hne, hs.1, Bool.false_eq_true, if_false]
    refine ⟨trivial, ?_, hndq⟩
    simp only [llistDel, llistDel', hs.2.1]
    cases l' with
    | nil =>
      simp only [Seg] at hs ⊢
      simp only [setNext_next, setPrev_next, setPrev_prev, setNext_prev, hs.2.2.1]
      simp [hqx]
    | cons y l'' =>
      simp only [Seg] at hs ⊢
      have hqy : q ≠ y := fun e => hql (by simp [e])
      have hyx : y ≠ x := fun e => hxl (by simp [e])
      simp only [setNext_next, setPrev_next, setPrev_prev, setNext_prev, hs.2.2.1]
      refine ⟨by simp [hqx], by simp [hyx], ?_⟩
      apply seg_frame hs.2.2.2.2
      · intro c hc
        have hcx : c ≠ x := fun e => hxl (e ▸ hc)
        have hcq : c ≠ q := fun e => hql (e ▸ hc)
        simp [hcx, hcq]
      · intro c hc
        simp only [List.mem_append, List.mem_singleton] at hc
        have hcx : c ≠ x := by
          rcases hc with hc | rfl
          · exact fun e => hxl (e ▸ List.mem_cons_of_mem _ hc)
          · exact hqx
        have hcy : c ≠ y := by
          rcases hc with hc | rfl
          · exact fun e => (List.nodup_cons.1 (List.nodup_cons.1 hnd').2).1 (e ▸ hc)
          · exact hqy
        simp [hcx, hcy]


/-- queue operations of a history -/
inductive QOp where
  | enq (msg : Nat)
  | deq
deriving DecidableEq, Repr

/-- the first-in-first-out queue the property speaks of -/
def qSpec : List Nat → QOp → List Nat × Option Nat
  | l, .enq a => (l ++ [a], none)
  | [], .deq => ([], none)
  | x :: l, .deq => (l, some x)

/-- `msgb_enqueue` / `msgb_dequeue` on the heap -/
def qImpl (q : Nat) (h : Heap) : QOp → Heap × Option Nat
  | .enq a => (enqueue h q a, none)
  | .deq => dequeue h q

def qSpecRun : List Nat → List QOp → List Nat × List (Option Nat)
  | l, [] => (l, [])
  | l, op :: ops =>
    let (l', r) := qSpec l op
    let (l'', rs) := qSpecRun l' ops
    (l'', r :: rs)

def qImplRun (q : Nat) : Heap → List QOp → Heap × List (Option Nat)
  | h, [] => (h, [])
  | h, op :: ops =>
    let (h', r) := qImpl q h op
    let (h'', rs) := qImplRun q h' ops
    (h'', r :: rs)

/-- a buffer is enqueued only while it is in no queue (and is not the head cell itself) -/
def qLegal (q : Nat) : List Nat → List QOp → Prop
  | _, [] => True
  | l, op :: ops => (match op with | .enq a => a ∉ q :: l | .deq => True) ∧ qLegal q (qSpec l op).1 ops

theorem queue_refines (q : Nat) : ∀ (ops : List QOp) (h : Heap) (l : List Nat), IsQueue h q l → qLegal q l ops →
    (qImplRun q h ops).2 = (qSpecRun l ops).2 ∧ IsQueue (qImplRun q h ops).1 q (qSpecRun l ops).1
  | [], h, l, hq, _ => ⟨rfl, hq⟩
  | .enq a :: ops, h, l, hq, hl => by
    have ih := queue_refines q ops (enqueue h q a) (l ++ [a]) (enqueue_refines hq hl.1) hl.2
    simp only [qImplRun, qImpl, qSpecRun, qSpec]
    exact ⟨by rw [ih.1], ih.2⟩
  | .deq :: ops, h, l, hq, hl => by
    have hd := dequeue_refines hq
    cases l with
    | nil =>
      simp only at hd
      have ih := queue_refines q ops h [] hq hl.2
      simp only [qImplRun, qImpl, qSpecRun, qSpec, hd]
      exact ⟨by rw [ih.1], ih.2⟩
    | cons x l' =>
      simp only at hd
      have ih := queue_refines q ops (dequeue h q).1 l' hd.2 hl.2
      simp only [qImplRun, qImpl, qSpecRun, qSpec]
      refine ⟨?_, ih.2⟩
      rw [ih.1, hd.1]

end OsmoVerif.Msgb
