/-
Frame lemmas for the transmit-queue property (C03): which entry points of the world model can
change a transceiver's `txQueue` / `running`, and how.
  * forwarding (`handleDataMsg`, `forwardMsg`) never touches any queue or power state (`SameQ`);
  * `recvDataMsg` appends exactly one message to exactly one queue, or changes nothing;
  * `powerEvent` sets `running` of the transceiver (and of the children it manages) and, on
    power-off, empties exactly their queues;
  * TRXC commands other than power events leave every queue and power state alone;
  * `clckTick` replaces the queue of a running transceiver by its `wait` partition;
  * `tick` does that for the transceivers it reaches, in list order.
Core tactics only.
-/
import OsmoVerif.Lemmas.WorldStep

namespace OsmoVerif.World
open OsmoVerif OsmoVerif.PyStr

/-- the part of a transceiver the transmit-queue property is about -/
def Trx.qr (t : Trx) : List Trxd.TxMsg × Bool := (t.txQueue, t.running)

/-- `w'` has the same transmit queues, power states and clock generator state as `w` -/
structure SameQ (w w' : World) : Prop where
  qr : w'.trxs.map Trx.qr = w.trxs.map Trx.qr
  clkSrc : w'.clkSrc = w.clkSrc
  clkRunning : w'.clkRunning = w.clkRunning
  clkLinks : w'.clkLinks = w.clkLinks

theorem SameQ.refl (w : World) : SameQ w w := ⟨rfl, rfl, rfl, rfl⟩
theorem SameQ.trans {a b c : World} (h1 : SameQ a b) (h2 : SameQ b c) : SameQ a c :=
  ⟨h2.qr.trans h1.qr, h2.clkSrc.trans h1.clkSrc, h2.clkRunning.trans h1.clkRunning,
   h2.clkLinks.trans h1.clkLinks⟩

theorem SameQ.setTrx (w : World) (i : Nat) (f : Trx → Trx) (hf : ∀ t, (f t).qr = t.qr) :
    SameQ w (setTrx w i f) :=
  ⟨map_modify_eq Trx.qr f hf _ _, rfl, rfl, rfl⟩

theorem SameQ.randint {w w' : World} {lo hi v : Int} (h : w.randint lo hi = .ok (v, w')) : SameQ w w' := by
  rw [(randint_ok h).2.2]
  exact ⟨rfl, rfl, rfl, rfl⟩

theorem SameQ.of_burst {w w' : World} (h : BurstFrame w w') : SameQ w w' :=
  ⟨h.static.map Trx.qr (fun _ _ => rfl), h.clkSrc, h.clkRunning, h.clkLinks⟩

theorem handleDataMsg_sameQ {w w' : World} {k j : Nat} {sm : Trxd.TxMsg} {m : Trxd.RxMsg} {ds : List Dgram}
    (h : handleDataMsg w k j sm m = .ok (w', ds)) : SameQ w w' :=
  .of_burst (handleDataMsg_frame h)

/-! ### observers -/

/-- transmit queue of transceiver `j` (a transceiver that does not exist has nothing queued) -/
def queueOf (w : World) (j : Nat) : List Trxd.TxMsg :=
  match w.trxs[j]? with
  | some t => t.txQueue
  | none => []

/-- power state of transceiver `j` (a transceiver that does not exist is not running) -/
def runningOf (w : World) (j : Nat) : Bool :=
  match w.trxs[j]? with
  | some t => t.running
  | none => false

theorem queueOf_eq (w : World) (j : Nat) :
    queueOf w j = (((w.trxs[j]?).map Trx.qr).map Prod.fst).getD [] := by
  unfold queueOf; cases w.trxs[j]? <;> rfl

theorem runningOf_eq (w : World) (j : Nat) :
    runningOf w j = (((w.trxs[j]?).map Trx.qr).map Prod.snd).getD false := by
  unfold runningOf; cases w.trxs[j]? <;> rfl

theorem SameQ.queueOf {w w' : World} (h : SameQ w w') (j : Nat) : queueOf w' j = queueOf w j := by
  rw [queueOf_eq, queueOf_eq, getElem?_of_map_eq Trx.qr h.qr]

theorem SameQ.runningOf {w w' : World} (h : SameQ w w') (j : Nat) : runningOf w' j = runningOf w j := by
  rw [runningOf_eq, runningOf_eq, getElem?_of_map_eq Trx.qr h.qr]

theorem SameQ.length {w w' : World} (h : SameQ w w') : w'.trxs.length = w.trxs.length :=
  length_of_map_eq Trx.qr h.qr

theorem queueOf_setTrx (w : World) (i : Nat) (f : Trx → Trx) (k : Nat) :
    queueOf (setTrx w i f) k =
      if i = k then (match w.trxs[k]? with | some t => (f t).txQueue | none => []) else queueOf w k := by
  unfold queueOf
  rw [setTrx_getElem?]
  by_cases e : i = k
  · simp only [if_pos e]; cases w.trxs[k]? <;> rfl
  · simp only [if_neg e]

theorem runningOf_setTrx (w : World) (i : Nat) (f : Trx → Trx) (k : Nat) :
    runningOf (setTrx w i f) k =
      if i = k then (match w.trxs[k]? with | some t => (f t).running | none => false) else runningOf w k := by
  unfold runningOf
  rw [setTrx_getElem?]
  by_cases e : i = k
  · simp only [if_pos e]; cases w.trxs[k]? <;> rfl
  · simp only [if_neg e]

theorem clckTick_idle {w : World} {j fn : Nat} (h : runningOf w j = false) (hj : j < w.trxs.length) :
    clckTick w j fn = .ok (w, [], 0) := by
  unfold clckTick
  unfold runningOf at h
  have : ∃ t, w.trxs[j]? = some t := ⟨w.trxs[j], List.getElem?_eq_getElem hj⟩
  obtain ⟨t, ht⟩ := this
  rw [ht] at h ⊢
  simp only [] at h ⊢
  simp [h]

theorem clckTick_queue {w w' : World} {j fn : Nat} {ds : List Dgram} {st : Nat}
    (h : clckTick w j fn = .ok (w', ds, st)) :
    (w'.clkSrc = w.clkSrc ∧ w'.clkRunning = w.clkRunning ∧ w'.clkLinks = w.clkLinks) ∧
    (∀ k, runningOf w' k = runningOf w k) ∧ w'.trxs.length = w.trxs.length ∧
    (∀ k, k ≠ j → queueOf w' k = queueOf w k) ∧
    (runningOf w j = false → queueOf w' j = queueOf w j ∧ st = 0) ∧
    (runningOf w j = true →
      queueOf w' j = (queueOf w j).filter (fun m => classify fn m == .wait) ∧
      st = ((queueOf w j).filter (fun m => classify fn m == .stale)).length) := by
  obtain ⟨t, ht, hst⟩ := clckTick_ok h
  obtain ⟨t', ht', -, hf⟩ := clckTick_frame h
  cases ht.symm.trans ht'
  have hr : runningOf w j = t.running := by unfold runningOf; rw [ht]
  have hq : queueOf w j = t.txQueue := by unfold queueOf; rw [ht]
  have hs := SameQ.of_burst hf
  rw [hr, hq]
  cases hrun : t.running with
  | false =>
    rw [hrun, if_neg Bool.false_ne_true] at hs hst
    obtain ⟨-, -, rfl⟩ := hst
    exact ⟨⟨hs.clkSrc, hs.clkRunning, hs.clkLinks⟩, hs.runningOf, hs.length, fun k _ => hs.queueOf k,
      fun _ => ⟨(hs.queueOf j).trans hq, rfl⟩, fun hc => by cases hc⟩
  | true =>
    rw [hrun, if_pos rfl] at hs hst
    refine ⟨⟨hs.clkSrc, hs.clkRunning, hs.clkLinks⟩, ?_, ?_, ?_, fun hc => (by cases hc), fun _ => ⟨?_, hst.2⟩⟩
    · intro k; rw [hs.runningOf, runningOf_setTrx]; split
      · next e => subst e; unfold runningOf; rw [ht]
      · rfl
    · rw [hs.length, setTrx_length]
    · intro k hk; rw [hs.queueOf, queueOf_setTrx, if_neg (Ne.symm hk)]
    · rw [hs.queueOf, queueOf_setTrx, if_pos rfl, ht]

/-- the `wait` partition of a queue at tick `fn` -/
def waitPart (fn : Nat) (q : List Trxd.TxMsg) : List Trxd.TxMsg := q.filter (fun m => classify fn m == .wait)
/-- number of messages `clck_tick` reports as stale for transceiver `k` at tick `fn` -/
def staleCount (fn : Nat) (w : World) (k : Nat) : Nat :=
  if runningOf w k then ((queueOf w k).filter (fun m => classify fn m == .stale)).length else 0
/-- queue of transceiver `k` after its `clck_tick(fn)` -/
def tickedQueue (fn : Nat) (w : World) (k : Nat) : List Trxd.TxMsg :=
  if runningOf w k then waitPart fn (queueOf w k) else queueOf w k

/-- The `clck_handler` loop over the transceivers `js`: it processes a prefix `js1` of `js` (all of
it unless an exception leaves a `clck_tick`), replacing the queue of each running transceiver by its
`wait` partition and counting the stale ones; nothing else changes in any queue or power state. -/
theorem tick_go_spec (fn : Nat) : ∀ (js : List Nat) (w : World) (acc : List Dgram) (st : Nat),
    js.Nodup → (∀ k ∈ js, k < w.trxs.length) →
    ∃ js1 js2, js = js1 ++ js2 ∧
      (∀ k, runningOf (tick.go fn w acc st js).world k = runningOf w k) ∧
      (∀ k, k ∉ js1 → queueOf (tick.go fn w acc st js).world k = queueOf w k) ∧
      (∀ k, k ∈ js1 → queueOf (tick.go fn w acc st js).world k = tickedQueue fn w k) ∧
      (tick.go fn w acc st js).stale = st + (js1.map (staleCount fn w)).sum ∧
      ((tick.go fn w acc st js).exc = none → js2 = [] ∧
        (tick.go fn w acc st js).world.clkSrc = some ((fn + 1) % Gen.World.hyperframe)) ∧
      ((tick.go fn w acc st js).exc ≠ none → (tick.go fn w acc st js).world.clkSrc = w.clkSrc) := by
  intro js
  induction js with
  | nil =>
    intro w acc st _ _
    refine ⟨[], [], rfl, ?_⟩
    simp [tick.go, runningOf, queueOf]
  | cons j js ih =>
    intro w acc st hnd hlt
    rw [List.nodup_cons] at hnd
    simp only [tick.go]
    split
    next e he =>
      refine ⟨[], j :: js, rfl, ?_⟩
      simp
    next w2 ds s2 hc =>
      obtain ⟨⟨hcs, -, -⟩, hr, hl, hqo, hqf, hqt⟩ := clckTick_queue hc
      obtain ⟨js1, js2, hjs, h1, h2, h3, h4, h5, h6⟩ := ih w2 (acc ++ ds) (st + s2) hnd.2
        (fun k hk => by rw [hl]; exact hlt k (List.mem_cons_of_mem _ hk))
      have hj1 : j ∉ js1 := fun hm => hnd.1 (by rw [hjs]; exact List.mem_append_left _ hm)
      have hsame : ∀ k, k ≠ j → staleCount fn w2 k = staleCount fn w k := by
        intro k hk; unfold staleCount; rw [hr, hqo k hk]
      have htq : ∀ k, k ≠ j → tickedQueue fn w2 k = tickedQueue fn w k := by
        intro k hk; unfold tickedQueue; rw [hr, hqo k hk]
      refine ⟨j :: js1, js2, by rw [hjs]; rfl, ?_, ?_, ?_, ?_, h5, ?_⟩
      · intro k; rw [h1, hr]
      · intro k hk
        rw [List.mem_cons, not_or] at hk
        rw [h2 k hk.2, hqo k hk.1]
      · intro k hk
        rw [List.mem_cons] at hk
        by_cases e : k = j
        · subst e
          rw [h2 k hj1]; unfold tickedQueue waitPart
          cases hrk : runningOf w k
          · exact (hqf hrk).1
          · exact (hqt hrk).1
        · have hk1 : k ∈ js1 := by cases hk with | inl h => exact absurd h e | inr h => exact h
          rw [h3 k hk1, htq k e]
      · rw [h4, List.map_cons, List.sum_cons]
        have : js1.map (staleCount fn w2) = js1.map (staleCount fn w) := by
          apply List.map_congr_left
          intro k hk; exact hsame k (fun e => hj1 (e ▸ hk))
        rw [this]
        have : s2 = staleCount fn w j := by
          unfold staleCount
          cases hrk : runningOf w j
          · exact (hqf hrk).2
          · exact (hqt hrk).2
        omega
      · intro hx; rw [h6 hx, hcs]

/-! ### data datagrams -/

/-- `recv_data_msg` of transceiver `i` accepts the datagram `d` as the message `msg`: it parses
(first `dataRecvSize` octets), carries the configured header version, and `i` is running -/
def Accepts (w : World) (i : Nat) (d : List Nat) (msg : Trxd.TxMsg) : Prop :=
  ∃ trx, w.trxs[i]? = some trx ∧
    Trxd.TxMsg.parseMsg (d.take Gen.World.dataRecvSize) = .ok msg ∧ msg.ver = trx.hdrVer ∧ trx.running = true

theorem Accepts.unique {w : World} {i : Nat} {d : List Nat} {m1 m2 : Trxd.TxMsg}
    (h1 : Accepts w i d m1) (h2 : Accepts w i d m2) : m1 = m2 := by
  obtain ⟨_, _, p1, _⟩ := h1
  obtain ⟨_, _, p2, _⟩ := h2
  rw [p1] at p2; cases p2; rfl

theorem recvDataMsg_accept {w : World} {i : Nat} {d : List Nat} {msg : Trxd.TxMsg} (h : Accepts w i d msg) :
    recvDataMsg w i d = { world := setTrx w i (fun t => { t with txQueue := t.txQueue ++ [msg] }) } := by
  obtain ⟨trx, ht, hp, hv, hr⟩ := h
  unfold recvDataMsg
  simp only [ht, hp, hv, hr, ne_eq, not_true_eq_false, if_false]

theorem recvDataMsg_reject {w : World} {i : Nat} {d : List Nat} (h : ¬ ∃ msg, Accepts w i d msg) :
    (recvDataMsg w i d).world = w ∧ (recvDataMsg w i d).out = [] ∧ (recvDataMsg w i d).stale = 0 := by
  unfold recvDataMsg
  split
  · exact ⟨rfl, rfl, rfl⟩
  next trx ht =>
  simp only []
  split
  · exact ⟨rfl, rfl, rfl⟩
  next msg hp =>
  split
  · exact ⟨rfl, rfl, rfl⟩
  next hv =>
  split
  · exact ⟨rfl, rfl, rfl⟩
  next hr =>
  exfalso
  apply h
  refine ⟨msg, trx, ht, hp, ?_, ?_⟩
  · exact Decidable.of_not_not hv
  · simpa using hr

theorem recvDataMsg_queue (w : World) (i : Nat) (d : List Nat) (k : Nat) :
    runningOf (recvDataMsg w i d).world k = runningOf w k ∧
    ((queueOf (recvDataMsg w i d).world k = queueOf w k ∧ ¬ (k = i ∧ ∃ msg, Accepts w i d msg)) ∨
     (k = i ∧ ∃ msg, Accepts w i d msg ∧ queueOf (recvDataMsg w i d).world k = queueOf w k ++ [msg])) := by
  by_cases h : ∃ msg, Accepts w i d msg
  · obtain ⟨msg, hm⟩ := h
    rw [recvDataMsg_accept hm]
    obtain ⟨trx, ht, hrest⟩ := hm
    have hm : Accepts w i d msg := ⟨trx, ht, hrest⟩
    by_cases e : i = k
    · subst e
      refine ⟨?_, .inr ⟨rfl, msg, hm, ?_⟩⟩
      · rw [runningOf_setTrx, if_pos rfl, ht]; simp only [runningOf, ht]
      · rw [queueOf_setTrx, if_pos rfl, ht]; simp only [queueOf, ht]
    · refine ⟨?_, .inl ⟨?_, fun hh => e hh.1.symm⟩⟩
      · rw [runningOf_setTrx, if_neg e]
      · rw [queueOf_setTrx, if_neg e]
  · rw [(recvDataMsg_reject h).1]
    exact ⟨rfl, .inl ⟨rfl, fun hh => h hh.2⟩⟩

/-! ### the whole tick -/

/-- what a clock tick does to the queues (see `tick_go_spec`) -/
theorem tick_spec {w : World} {fn : Nat} (hr : w.clkRunning = true) (hs : w.clkSrc = some fn) :
    ∃ js1 js2, List.range w.trxs.length = js1 ++ js2 ∧
      (∀ k, runningOf (tick w).world k = runningOf w k) ∧
      (∀ k, k ∉ js1 → queueOf (tick w).world k = queueOf w k) ∧
      (∀ k, k ∈ js1 → queueOf (tick w).world k = tickedQueue fn w k) ∧
      (tick w).stale = (js1.map (staleCount fn w)).sum ∧
      ((tick w).exc = none → js2 = [] ∧
        (tick w).world.clkSrc = some ((fn + 1) % Gen.World.hyperframe)) ∧
      ((tick w).exc ≠ none → (tick w).world.clkSrc = w.clkSrc) := by
  rw [tick_eq_go hr hs]
  have := tick_go_spec fn (List.range w.trxs.length) w (Sched.clockInds w fn) 0 List.nodup_range
    (fun k hk => List.mem_range.mp hk)
  simpa only [Nat.zero_add] using this

theorem tick_clk (w : World) :
    (tick w).world.clkRunning = w.clkRunning ∧ (tick w).world.clkLinks = w.clkLinks ∧
    (tick w).world.trxs.length = w.trxs.length :=
  tick_induct
    (fun w1 => w1.clkRunning = w.clkRunning ∧ w1.clkLinks = w.clkLinks ∧ w1.trxs.length = w.trxs.length)
    ⟨rfl, rfl, rfl⟩
    (fun _ _ _ _ _ _ ⟨h1, h2, h3⟩ hc => by
      obtain ⟨⟨-, a, b⟩, -, c, -⟩ := clckTick_queue hc
      exact ⟨a.trans h1, b.trans h2, c.trans h3⟩)
    (fun _ _ h => h)

theorem tick_running (w : World) (k : Nat) : runningOf (tick w).world k = runningOf w k :=
  tick_induct (fun w1 => runningOf w1 k = runningOf w k) rfl
    (fun _ _ _ _ _ _ h hc => ((clckTick_queue hc).2.1 k).trans h) (fun _ _ h => h)

/-! ### TRXC commands and power events -/

theorem SameQ.setTrx_patch (w : World) (i : Nat) (p : Patch) : SameQ w (World.setTrx w i p.apply) :=
  SameQ.setTrx w i p.apply fun t => by simp only [Trx.qr, Patch.apply_txQueue, Patch.apply_running]

theorem SameQ.applyPatch (w : World) (i : Nat) (p : Option Patch) : SameQ w (applyPatch w i p) := by
  cases p with
  | none => exact SameQ.refl w
  | some p => exact SameQ.setTrx_patch w i p

/-- a successful TRXC command leaves all queues, power states and the clock generator alone, except
for a power event of transceiver `i` at the end -/
theorem parseCmd_sameQ {w w' : World} {i : Nat} {req : List Str} {r : CmdRes}
    (h : parseCmd w i req = .ok (w', r)) :
    ∃ W, SameQ w W ∧ (w' = W ∨ ∃ trx on, W.trxs[i]? = some trx ∧ w' = powered W i trx on) := by
  obtain ⟨p, -, -, rfl | ⟨trx, a, -, -, hs⟩⟩ := parseCmd_ok_cases h
  · exact ⟨_, SameQ.applyPatch w i p, .inl rfl⟩
  · cases hs with
    | patch q rc => exact ⟨_, (SameQ.applyPatch w i p).trans (SameQ.setTrx_patch _ i q), .inl rfl⟩
    | reply rc ps => exact ⟨_, SameQ.applyPatch w i p, .inl rfl⟩
    | power on trx' ht => exact ⟨_, SameQ.applyPatch w i p, .inr ⟨trx', on, ht, rfl⟩⟩
    | measure f =>
      exact ⟨{ applyPatch w i p with drawK := (applyPatch w i p).drawK + 1 },
        (SameQ.applyPatch w i p).trans ⟨rfl, rfl, rfl, rfl⟩, .inl rfl⟩

theorem step_ctrl_sameQ (w : World) (i sp : Nat) (d : List Nat) :
    ∃ W, SameQ w W ∧ ((step w (.ctrl i sp d)).world = W ∨
      ∃ trx on, W.trxs[i]? = some trx ∧ (step w (.ctrl i sp d)).world = powered W i trx on) := by
  simp only [step]
  split
  · rcases handleRx_world w i _ sp d with h | ⟨_, _, h⟩
    · exact ⟨w, SameQ.refl w, .inl h⟩
    · exact parseCmd_sameQ h
  · exact ⟨w, SameQ.refl w, .inl rfl⟩

theorem powered_qr (w : World) (i : Nat) (self : Trx) (on : Bool) (k : Nat) :
    queueOf (powered w i self on) k =
      (if k ∈ powerList self i ∧ on = false then [] else queueOf w k) ∧
    runningOf (powered w i self on) k =
      (if k ∈ powerList self i then (w.trxs[k]?).isSome && on else runningOf w k) := by
  unfold queueOf runningOf
  rw [powered_getElem?]
  by_cases hk : k ∈ powerList self i
  · simp only [hk, if_true, true_and]
    cases w.trxs[k]? with
    | none => simp
    | some t => cases on <;> simp [powerUpd]
  · rw [if_neg hk, if_neg (fun h => hk h.1), if_neg hk]
    exact ⟨rfl, rfl⟩

/-- observable effect of a TRXC datagram on transceiver `k`: nothing, powered on, or powered off
with its queue emptied -/
theorem step_ctrl_qr (w : World) (i sp : Nat) (d : List Nat) (k : Nat) :
    (queueOf (step w (.ctrl i sp d)).world k = queueOf w k ∧
      runningOf (step w (.ctrl i sp d)).world k = runningOf w k) ∨
    (queueOf (step w (.ctrl i sp d)).world k = queueOf w k ∧
      runningOf (step w (.ctrl i sp d)).world k = true) ∨
    (queueOf (step w (.ctrl i sp d)).world k = [] ∧
      runningOf (step w (.ctrl i sp d)).world k = false) := by
  obtain ⟨W, hW, h | ⟨trx, on, -, h⟩⟩ := step_ctrl_sameQ w i sp d
  · rw [h]; exact .inl ⟨hW.queueOf k, hW.runningOf k⟩
  · rw [h, (powered_qr W i trx on k).1, (powered_qr W i trx on k).2, hW.queueOf, hW.runningOf]
    by_cases hk : k ∈ powerList trx i
    · cases on
      · simp [hk]
      · cases hq : W.trxs[k]? with
        | none =>
          have : runningOf w k = false := by rw [← hW.runningOf]; simp only [runningOf, hq]
          simp [hk, this]
        | some t => simp [hk]
    · simp [hk]

/-! ### requests: POWEROFF -/

/-- the TRXC datagram `d` carries the request `req` (`CTRLInterface.handle_rx`: decode, check the
`CMD` signature, strip, split) -/
def CtrlReq (d : List Nat) (req : List Str) : Prop :=
  ∃ s, decodeUtf8 (d.take Gen.World.ctrlRecvSize) = some s ∧ startsWith s (lit "CMD") = true ∧
    splitSpace (stripNul (strip (s.drop 4))) = req

theorem handleRx_of_req {w : World} {i sa sp : Nat} {d : List Nat} {req : List Str} {trx : Trx}
    (ht : w.trxs[i]? = some trx) (hreq : CtrlReq d req) :
    (handleRx w i sa sp d).world = match parseCmd w i req with
      | .ok (w', _) => w'
      | .error _ => w := by
  obtain ⟨s, hs, hst, hsp⟩ := hreq
  unfold handleRx
  simp only [ht, hs, hst, not_true_eq_false, if_false, hsp]
  cases hp : parseCmd w i req with
  | ok v => rfl
  | error e => cases e <;> rfl

theorem step_ctrl_of_req {w : World} {i sp : Nat} {d : List Nat} {req : List Str} {trx : Trx}
    (ht : w.trxs[i]? = some trx) (hreq : CtrlReq d req) :
    (step w (.ctrl i sp d)).world = match parseCmd w i req with
      | .ok (w', _) => w'
      | .error _ => w := by
  simp only [step, ht]
  exact handleRx_of_req ht hreq

/-- POWEROFF of transceiver `i` empties the queue of `i` and of every child it manages and stops them;
all other transceivers keep queue and power state -/
theorem poweroff_effect {w : World} {i sp : Nat} {d : List Nat} {trx : Trx}
    (ht : w.trxs[i]? = some trx) (hreq : CtrlReq d [lit "POWEROFF"]) (k : Nat) :
    (k ∈ powerList trx i →
      queueOf (step w (.ctrl i sp d)).world k = [] ∧ runningOf (step w (.ctrl i sp d)).world k = false) ∧
    (k ∉ powerList trx i →
      queueOf (step w (.ctrl i sp d)).world k = queueOf w k ∧
      runningOf (step w (.ctrl i sp d)).world k = runningOf w k) := by
  rw [step_ctrl_of_req ht hreq, parseCmd_poweroff ht]
  simp only []
  have := powered_getElem? w i trx false k
  constructor
  · intro hm
    rw [if_pos hm] at this
    unfold queueOf runningOf
    rw [this]
    cases w.trxs[k]? <;> simp [powerUpd]
  · intro hm
    rw [if_neg hm] at this
    unfold queueOf runningOf
    rw [this]
    exact ⟨rfl, rfl⟩

example : CtrlReq (encodeUtf8 (lit "CMD POWEROFF\x00")) [lit "POWEROFF"] :=
  ⟨lit "CMD POWEROFF\x00", by decide +kernel, by decide +kernel, by decide +kernel⟩

/-! ### requests: SETFORMAT -/

/-- an accepted `SETFORMAT v` (v a known version) sets the header version of `i` and nothing else -/
theorem setformat_effect {w : World} {i sp : Nat} {d : List Nat} {trx : Trx} {a : Str} {v : Int}
    (ht : w.trxs[i]? = some trx) (hreq : CtrlReq d [lit "SETFORMAT", a]) (ha : toInt a = .ok v)
    (hk : v ∈ Gen.Trxd.knownVersions) :
    (step w (.ctrl i sp d)).world = setTrx w i (fun t => { t with hdrVer := v }) := by
  rw [step_ctrl_of_req ht hreq, parseCmd_eq, ctrlCmdHandler_other _ (by simp)]
  simp only [applyPatch, bind, Except.bind, ht, commonCmd_setformat, ha]
  have hv : v = 0 ∨ v = 1 := by simpa [Gen.Trxd.knownVersions] using hk
  rcases hv with rfl | rfl <;> rfl

/-! ### the clock counter under TRXC commands -/

/-- effect of a TRXC command on the clock counter: untouched, or (re)started at `clck_start` when
the generator was not running -/
def ClkEffect (w w' : World) : Prop :=
  w'.clkSrc = w.clkSrc ∨ (w.clkRunning = false ∧ w'.clkSrc = some Gen.World.clckStart)

theorem powered_clk (w : World) (i : Nat) (self : Trx) (on : Bool) : ClkEffect w (powered w i self on) := by
  cases hc : self.hasClock with
  | false => exact .inl (powered_clk_noclock hc w i on).2.2
  | true =>
    rw [ClkEffect, (powered_clk_clock hc w i on).2.2]
    split
    next h => exact .inr ⟨h.1, rfl⟩
    · exact .inl rfl

theorem step_ctrl_clk (w : World) (i sp : Nat) (d : List Nat) : ClkEffect w (step w (.ctrl i sp d)).world := by
  obtain ⟨W, hW, h | ⟨trx, on, -, h⟩⟩ := step_ctrl_sameQ w i sp d
  · rw [h]; exact .inl hW.clkSrc
  · rw [h, ClkEffect, ← hW.clkSrc, ← hW.clkRunning]
    exact powered_clk W i trx on

theorem step_data_clk (w : World) (i : Nat) (d : List Nat) :
    (step w (.data i d)).world.clkSrc = w.clkSrc ∧ (step w (.data i d)).world.clkRunning = w.clkRunning := by
  simp only [step]
  by_cases h : ∃ msg, Accepts w i d msg
  · obtain ⟨msg, hm⟩ := h
    rw [recvDataMsg_accept hm]; exact ⟨rfl, rfl⟩
  · rw [(recvDataMsg_reject h).1]; exact ⟨rfl, rfl⟩

end OsmoVerif.World
