/-
Helper lemmas for the C20 chain theorems (Props/C20Chain.lean): the glue loops of
Model/HopChain.lean, the text bridge between trxcon's `snprintf("%u")` output (Model/TrxconIf) and
the Python `str`/`int()` view of the same octets (Model/PyStr, Model/World), the octets of a
`uint16_t` in network byte order, frequency pairs of the canonical ARFCNs.
-/
import OsmoVerif.Model.HopChain
import OsmoVerif.Lemmas.MobileAlloc
import OsmoVerif.Lemmas.TrxconIf
import OsmoVerif.Lemmas.WorldText
import OsmoVerif.Lemmas.Hopping

namespace OsmoVerif.HopChain
open OsmoVerif OsmoVerif.PyStr

/-! ### decimal texts: `%u` of trxcon = `str(int)` of Python, and `int()` reads it back -/

theorem digitChar_toNat (k : Nat) (h : k < 10) : (Nat.digitChar k).toNat = 48 + k := by
  have : ∀ k : Fin 10, (Nat.digitChar k.val).toNat = 48 + k.val := by decide
  exact this ⟨k, h⟩

theorem natDigits_eq_if (n : Nat) :
    natDigits n = if n < 10 then [48 + n] else natDigits (n / 10) ++ [48 + n % 10] := by
  unfold natDigits
  rw [Nat.toDigits_eq_if (b := 10) (n := n) (by decide)]
  split
  · rename_i h; simp [digitChar_toNat n h]
  · simp [digitChar_toNat (n % 10) (Nat.mod_lt _ (by decide))]

theorem decFuel_eq_natDigits : ∀ (f n : Nat), n < 10 ^ (f + 1) → TrxconIf.decFuel (f + 1) n = natDigits n := by
  intro f
  induction f with
  | zero =>
    intro n h
    rw [natDigits_eq_if]
    simp only [TrxconIf.decFuel]
    rw [if_pos (by omega), if_pos (by omega)]
  | succ f ih =>
    intro n h
    rw [natDigits_eq_if]
    rw [TrxconIf.decFuel]
    split
    · rfl
    · rw [ih (n / 10) (by rw [Nat.pow_succ] at h; omega)]

/-- `snprintf("%u", n)` of an `unsigned int` is the text Python's `str(n)` gives -/
theorem fmtU_eq_natDigits (n : Nat) (h : n < 4294967296) : TrxconIf.fmtU n = natDigits n := by
  have hu : TrxconIf.u32 n = n := by simp only [TrxconIf.u32]; omega
  simp only [TrxconIf.fmtU, hu]
  exact decFuel_eq_natDigits 9 n (by omega)

/-- the ASCII digits are digits of `int()` and no white space of it (regenerated tables) -/
theorem digitVal_ascii (c : Nat) (h1 : 48 ≤ c) (h2 : c ≤ 57) :
    digitVal? c = some (c - 48) ∧ isIntSpace c = false ∧ c ≠ 95 ∧ c ≠ 45 ∧ c ≠ 43 := by
  have key : ∀ k : Fin 10, digitVal? (48 + k.val) = some k.val ∧ isIntSpace (48 + k.val) = false := by
    decide
  have := key ⟨c - 48, by omega⟩
  have e : 48 + (c - 48) = c := by omega
  simp only [e] at this
  exact ⟨this.1, this.2, by omega, by omega, by omega⟩

def decVal (acc : Nat) (ds : Str) : Nat := ds.foldl (fun a c => a * 10 + (c - 48)) acc

theorem digitsVal_go_digits : ∀ (ds : Str) (acc : Nat), (∀ c ∈ ds, 48 ≤ c ∧ c ≤ 57) →
    digitsVal.go acc ds = some (decVal acc ds) := by
  intro ds
  induction ds with
  | nil => intro acc _; rfl
  | cons c rest ih =>
    intro acc h
    have hc := h c List.mem_cons_self
    obtain ⟨hv, _, h95, _, _⟩ := digitVal_ascii c hc.1 hc.2
    rw [digitsVal.go.eq_def]
    simp only [if_neg h95, hv]
    exact ih _ (fun x hx => h x (List.mem_cons_of_mem _ hx))

theorem decVal_natDigits (n : Nat) : decVal 0 (natDigits n) = n := by
  induction n using Nat.strongRecOn with
  | _ n ih =>
    rw [natDigits_eq_if]
    split
    · simp [decVal]
    · rename_i h
      have := ih (n / 10) (by omega)
      simp only [decVal, List.foldl_append, List.foldl_cons, List.foldl_nil] at this ⊢
      rw [this]; omega

/-- `int(str(n)) == n` -/
theorem pyInt_natDigits (n : Nat) : pyInt (natDigits n) = some (n : Int) := by
  obtain ⟨⟨hne, _⟩, hd⟩ := World.natDigits_token n
  obtain ⟨c, rest, hs⟩ := List.exists_cons_of_ne_nil hne
  have hlast : ∃ d, (natDigits n).getLast? = some d := by
    rw [hs]; exact ⟨_, List.getLast?_eq_some_getLast (by simp)⟩
  obtain ⟨d, hl⟩ := hlast
  have hcm : c ∈ natDigits n := by rw [hs]; exact List.mem_cons_self
  have hdm : d ∈ natDigits n := List.mem_of_getLast? hl
  have hc := hd c hcm
  have hdd := hd d hdm
  obtain ⟨hv, hsp, _, h45, h43⟩ := digitVal_ascii c hc.1 hc.2
  have hstrip : stripBy isIntSpace (natDigits n) = natDigits n :=
    World.stripBy_ends _ _ c d (by rw [hs]; rfl) hl hsp (digitVal_ascii d hdd.1 hdd.2).2.1
  unfold pyInt
  rw [hstrip, hs]
  simp only [if_neg h45, if_neg h43]
  have hgo := digitsVal_go_digits rest (c - 48) (fun x hx => hd x (by rw [hs]; exact List.mem_cons_of_mem _ hx))
  have hval : decVal (c - 48) rest = n := by
    have := decVal_natDigits n
    rw [hs] at this
    simpa [decVal] using this
  simp only [digitsVal, hv, hgo, hval]
  rfl

/-! ### the SETFH datagram: trxcon's octets are the text the toolkit parses -/

/-- (Rx, Tx) of an ARFCN in kHz, the numbers `trx_if_cmd_setfh` prints: `gsm_arfcn2freq10 · 100` -/
def khzPair (a : Nat) : Nat × Nat :=
  (TrxconIf.arfcn2freq10 a false * 100, TrxconIf.arfcn2freq10 a true * 100)

/-- (Rx, Tx) of an ARFCN in Hz, the numbers `fake_trx` keeps: kHz · 1000 -/
def hzPair (a : Nat) : Int × Int :=
  (((khzPair a).1 : Int) * 1000, ((khzPair a).2 : Int) * 1000)

theorem joinSpace_flatMap (v : Str) (args : List Str) :
    joinSpace (v :: args) = v ++ args.flatMap (fun a => 32 :: a) := by
  induction args generalizing v with
  | nil => simp [joinSpace]
  | cons a as ih => simp only [joinSpace, ih a, List.flatMap_cons, List.cons_append]

theorem pairToks_freqTexts (ma : List Nat) :
    ma.flatMap TrxconIf.pairToks = World.TrxconCmd.freqTexts (ma.map khzPair) := by
  induction ma with
  | nil => rfl
  | cons a t ih =>
    have h1 := TrxconIf.arfcn2freq10_lt a false
    have h2 := TrxconIf.arfcn2freq10_lt a true
    simp only [List.flatMap_cons, List.map_cons, khzPair, World.TrxconCmd.freqTexts, TrxconIf.pairToks, ih,
      fmtU_eq_natDigits _ (show TrxconIf.arfcn2freq10 a false * 100 < 4294967296 by omega),
      fmtU_eq_natDigits _ (show TrxconIf.arfcn2freq10 a true * 100 < 4294967296 by omega), List.cons_append,
      List.nil_append]

/-- the octets trxcon passes to `send()` for SETFREQ_H1 are, read as text, `CMD SETFH <hsn> <maio>`
followed by the decimal kHz pairs and the NUL -/
theorem setfh_dgram_eq (hsn maio : Nat) (hh : hsn < 256) (hm : maio < 256) (ma : List Nat) :
    TrxconIf.Emitted.text ⟨1, TrxconIf.str "SETFH",
        TrxconIf.fmtU hsn :: TrxconIf.fmtU maio :: ma.flatMap TrxconIf.pairToks⟩ ++ [0] =
      (World.TrxconCmd.setfh hsn maio (ma.map khzPair)).text := by
  simp only [TrxconIf.Emitted.text, World.TrxconCmd.text, World.TrxconCmd.verb, World.TrxconCmd.args, World.cmdText,
    joinSpace_flatMap, pairToks_freqTexts, fmtU_eq_natDigits hsn (by omega), fmtU_eq_natDigits maio (by omega)]
  simp only [List.append_assoc]
  rfl

/-- the kHz values in the order of the command's arguments -/
def flatInts : List (Nat × Nat) → List Int
  | [] => []
  | (r, t) :: rest => (r : Int) :: (t : Int) :: flatInts rest

theorem intArgs_freqTexts (ps : List (Nat × Nat)) :
    World.IntArgs (World.TrxconCmd.freqTexts ps) (flatInts ps) := by
  induction ps with
  | nil => rfl
  | cons p ps ih =>
    obtain ⟨r, t⟩ := p
    simp only [World.IntArgs, World.TrxconCmd.freqTexts, flatInts, List.map_cons, pyInt_natDigits] at ih ⊢
    rw [ih]

theorem pairsHz_flatInts (ps : List (Nat × Nat)) :
    Spec.Trxc.pairsHz (flatInts ps) = ps.map (fun p => ((p.1 : Int) * 1000, (p.2 : Int) * 1000)) := by
  induction ps with
  | nil => rfl
  | cons p ps ih => obtain ⟨r, t⟩ := p; simp only [flatInts, Spec.Trxc.pairsHz, ih, List.map_cons]

/-- **fake_trx on trxcon's SETFH datagram**: one reply with status 0 echoing the arguments, and the
addressed transceiver's `fh` is `HoppingParams(hsn, maio, [(rx·1000, tx·1000) …])` — as many pairs as
the command carries, in the command's order. -/
theorem handleRx_setfh (w : World.World) (i a p : Nat) (t : World.Trx) (ht : w.trxs[i]? = some t)
    (hsn maio : Nat) (hh : hsn < 64) (pairs : List (Nat × Nat)) (hne : pairs ≠ [])
    (hlen : (World.TrxconCmd.setfh hsn maio pairs).text.length ≤ Gen.World.ctrlRecvSize) :
    World.handleRx w i a p (World.TrxconCmd.setfh hsn maio pairs).text =
      { world := World.setTrx w i (fun t => { t with fh := some (Hopping.HoppingParams.mk (hsn : Int) (maio : Int)
          (pairs.map (fun p => ((p.1 : Int) * 1000, (p.2 : Int) * 1000))) (Hopping.powNbinMask pairs.length)) }),
        out := [⟨t.ctrlPort, a, p, World.rspTextOf (lit "SETFH") 0
                  (natDigits hsn :: natDigits maio :: World.TrxconCmd.freqTexts pairs) []⟩] } := by
  obtain ⟨status, results, w', h1, _, h3⟩ := World.handleRx_cmdText a p ht (World.TrxconCmd.setfh hsn maio pairs).verb
    (World.TrxconCmd.setfh hsn maio pairs).args (World.TrxconCmd.setfh hsn maio pairs).tokens hlen
  obtain ⟨⟨r0, t0⟩, ps, rfl⟩ := List.exists_cons_of_ne_nil hne
  have hp := World.parseCmd_setfh_ok (w := w) (i := i) (t := t) (h := natDigits hsn) (m := natDigits maio)
    (c := natDigits r0) (d := natDigits t0) (r := World.TrxconCmd.freqTexts ps) (hsn := (hsn : Int)) (maio := (maio : Int))
    (fvals := flatInts ((r0, t0) :: ps)) ht (pyInt_natDigits hsn) (pyInt_natDigits maio)
    (intArgs_freqTexts ((r0, t0) :: ps)) (by omega)
  rw [pairsHz_flatInts] at hp
  simp only [World.TrxconCmd.verb, World.TrxconCmd.args, World.TrxconCmd.freqTexts] at h3 h1
  rw [hp] at h3
  rcases h3 with h3 | ⟨h3, _⟩
  · simp only [Except.ok.injEq, Prod.mk.injEq] at h3
    obtain ⟨e1, e2, e3⟩ := h3
    rw [World.TrxconCmd.text, World.TrxconCmd.verb, World.TrxconCmd.args, World.TrxconCmd.freqTexts, h1, ← e1, ← e2, ← e3]
    simp only [List.map_cons, List.length_map, List.length_cons]
  · cases h3

/-! ### layer23 / trxcon / firmware glue loops -/

theorem rd_mid (o : Obj) (pre : List Nat) (a : Nat) (post : List Nat) :
    rd o (pre ++ a :: post) pre.length = .ok a := by
  simp [rd]

theorem wr_mid (o : Obj) (pre : List Nat) (a v : Nat) (post : List Nat) :
    wr o (pre ++ a :: post) pre.length v = .ok (pre ++ v :: post) := by
  simp [wr]

/-- the conversion loop over the supported channels `xs` sitting at `ma[i ..]`: every one converted in place, in
order, nothing else touched; the loop goes on behind them -/
theorem bandLoop_append (pcs : Bool) (freqMap : List Nat) (k : Nat) : ∀ (xs pre post : List Nat),
    (∀ a ∈ xs, freqSupported freqMap (arfcn2index (toBand pcs a)) = .ok true) →
    bandLoop pcs freqMap (xs.length + k) pre.length (pre ++ xs ++ post) =
      bandLoop pcs freqMap k (pre ++ xs.map (toBand pcs)).length (pre ++ xs.map (toBand pcs) ++ post) := by
  intro xs
  induction xs with
  | nil => intro pre post _; simp
  | cons a xs ih =>
    intro pre post h
    have ha := h a List.mem_cons_self
    have e0 : (a :: xs).length + k = (xs.length + k) + 1 := by simp; omega
    have e1 : pre ++ a :: xs ++ post = pre ++ a :: (xs ++ post) := by simp
    have e2 : pre ++ toBand pcs a :: (xs ++ post) = (pre ++ [toBand pcs a]) ++ xs ++ post := by simp
    have e3 : pre.length + 1 = (pre ++ [toBand pcs a]).length := by simp
    rw [e0]
    simp only [bandLoop, e1, rd_mid, wr_mid, ha, bind, Except.bind, pure, Except.pure,
      Bool.not_true, Bool.false_eq_true, if_false]
    rw [e2, e3, ih _ post (fun x hx => h x (List.mem_cons_of_mem _ hx))]
    simp

theorem bandLoop_ok (pcs : Bool) (freqMap : List Nat) (xs pre post : List Nat)
    (h : ∀ a ∈ xs, freqSupported freqMap (arfcn2index (toBand pcs a)) = .ok true) :
    bandLoop pcs freqMap xs.length pre.length (pre ++ xs ++ post) = .ok (0, pre ++ xs.map (toBand pcs) ++ post) :=
  bandLoop_append pcs freqMap 0 xs pre post h

/-- a channel the frequency map does not list ends the loop with "frequency not implemented" -/
theorem bandLoop_unsupported (pcs : Bool) (freqMap : List Nat) (xs pre : List Nat) (b : Nat) (post : List Nat)
    (h : ∀ a ∈ xs, freqSupported freqMap (arfcn2index (toBand pcs a)) = .ok true)
    (hb : freqSupported freqMap (arfcn2index (toBand pcs b)) = .ok false) (k : Nat) :
    bandLoop pcs freqMap (xs.length + 1 + k) pre.length (pre ++ xs ++ b :: post) =
      .ok (causeFreqNotImpl, pre ++ xs.map (toBand pcs) ++ toBand pcs b :: post) := by
  rw [show xs.length + 1 + k = xs.length + (k + 1) by omega, bandLoop_append pcs freqMap (k + 1) xs pre (b :: post) h]
  simp only [bandLoop, rd_mid, wr_mid, hb, bind, Except.bind, pure, Except.pure, Bool.not_false, if_true]

/-- the two octets of a `uint16_t` in network byte order -/
def be16 (v : Nat) : List Nat := [u16 v >>> 8, u16 v &&& 255]

theorem flatMap_be16_length (l : List Nat) : (l.flatMap be16).length = 2 * l.length := by
  induction l with
  | nil => rfl
  | cons a t ih => simp only [List.flatMap_cons, List.length_append, ih, be16, List.length_cons, List.length_nil]; omega

theorem map_u16_id {l : List Nat} (h : ∀ b ∈ l, u16 b = b) : l.map u16 = l := by
  conv => rhs; rw [← List.map_id l]
  exact List.map_congr_left h

theorem htonsLoop_ok : ∀ (xs pre post opre orest : List Nat),
    opre.length = 2 * pre.length → 2 * xs.length ≤ orest.length →
    htonsLoop (pre ++ xs ++ post) xs.length pre.length (opre ++ orest) =
      .ok (opre ++ xs.flatMap be16 ++ orest.drop (2 * xs.length)) := by
  intro xs
  induction xs with
  | nil => intro pre post opre orest _ _; simp [htonsLoop]
  | cons a xs ih =>
    intro pre post opre orest hl hr
    obtain ⟨o1, o2, rest, rfl⟩ : ∃ o1 o2 rest, orest = o1 :: o2 :: rest := by
      match orest, hr with
      | o1 :: o2 :: rest, _ => exact ⟨o1, o2, rest, rfl⟩
      | [_], h => simp at h; omega
      | [], h => simp at h
    have e1 : pre ++ a :: xs ++ post = pre ++ a :: (xs ++ post) := by simp
    have i1 : 2 * pre.length = opre.length := hl.symm
    have i2 : opre.length + 1 = (opre ++ [u16 a >>> 8]).length := by simp
    have e4 : opre ++ (u16 a >>> 8) :: o2 :: rest = (opre ++ [u16 a >>> 8]) ++ o2 :: rest := by simp
    simp only [List.length_cons, htonsLoop, e1, rd_mid, bind, Except.bind]
    rw [i1, wr_mid, i2]
    simp only [e4, wr_mid]
    have e5 : pre ++ a :: (xs ++ post) = (pre ++ [a]) ++ xs ++ post := by simp
    have e6 : pre.length + 1 = (pre ++ [a]).length := by simp
    have e7 : (opre ++ [u16 a >>> 8]) ++ (u16 a &&& 255) :: rest = (opre ++ be16 a) ++ rest := by simp [be16]
    rw [e5, e6, e7, ih (pre ++ [a]) post (opre ++ be16 a) rest (by simp [be16]; omega) (by simp at hr; omega)]
    have e8 : 2 * (xs.length + 1) = 2 * xs.length + 2 := by omega
    simp [List.flatMap_cons, e8]

theorem be16_decode (v : Nat) : ((u16 v >>> 8) <<< 8) ||| (u16 v &&& 255) = u16 v := by
  generalize u16 v = x
  rw [Nat.shiftRight_eq_div_pow, Nat.shiftLeft_eq, TrxconIf.and255, Nat.mul_comm,
    TrxconIf.or_low 8 (x / 2 ^ 8) (x % 256) (Nat.mod_lt _ (by decide))]
  omega

theorem ntohsAt_be16 (o : Obj) (opre : List Nat) (a : Nat) (opost : List Nat) (i : Nat) (h : opre.length = 2 * i) :
    ntohsAt o (opre ++ be16 a ++ opost) i = .ok (u16 a) := by
  have e1 : opre ++ be16 a ++ opost = opre ++ (u16 a >>> 8) :: ((u16 a &&& 255) :: opost) := by simp [be16]
  have e2 : opre ++ (u16 a >>> 8) :: ((u16 a &&& 255) :: opost) = (opre ++ [u16 a >>> 8]) ++ (u16 a &&& 255) :: opost := by simp
  have i2 : opre.length + 1 = (opre ++ [u16 a >>> 8]).length := by simp
  simp only [ntohsAt, bind, Except.bind, pure, Except.pure]
  rw [← h, e1, rd_mid, e2, i2, rd_mid]
  simp only [be16_decode]

/-- `ntohs` of what `htons` stored: the copy loop on the receiving side reads the same values, in
the same order -/
theorem ntohsLoop_ok (dst : Obj) : ∀ (xs opre opost mpre mrest : List Nat),
    opre.length = 2 * mpre.length → xs.length ≤ mrest.length →
    ntohsLoop dst (opre ++ xs.flatMap be16 ++ opost) xs.length mpre.length (mpre ++ mrest) =
      .ok (mpre ++ xs.map u16 ++ mrest.drop xs.length) := by
  intro xs
  induction xs with
  | nil => intro opre opost mpre mrest _ _; simp [ntohsLoop]
  | cons a xs ih =>
    intro opre opost mpre mrest hl hr
    obtain ⟨m1, rest, rfl⟩ : ∃ m1 rest, mrest = m1 :: rest := by
      match mrest, hr with
      | m1 :: rest, _ => exact ⟨m1, rest, rfl⟩
      | [], h => simp at h
    have e1 : opre ++ List.flatMap be16 (a :: xs) ++ opost = opre ++ be16 a ++ (xs.flatMap be16 ++ opost) := by
      simp [List.flatMap_cons]
    simp only [List.length_cons, ntohsLoop, bind, Except.bind]
    rw [e1, ntohsAt_be16 _ opre a _ mpre.length hl]
    simp only [wr_mid]
    have e2 : opre ++ be16 a ++ (xs.flatMap be16 ++ opost) = (opre ++ be16 a) ++ xs.flatMap be16 ++ opost := by simp
    have e3 : mpre ++ u16 a :: rest = (mpre ++ [u16 a]) ++ rest := by simp
    have e4 : mpre.length + 1 = (mpre ++ [u16 a]).length := by simp
    rw [e2, e3, e4, ih (opre ++ be16 a) opost (mpre ++ [u16 a]) rest (by simp [be16]; omega) (by simp at hr; omega)]
    simp

/-- the caller's `hopping[]` after the decoder: the decoded list, then what was there before -/
theorem hopping_eq {st : MobileAlloc.St} {hopping sel : List Nat} (hlist : MobileAlloc.hoppingList st = sel)
    (hlen : st.hoppLen = sel.length) (hrest : st.hopping.drop st.hoppLen = hopping.drop st.hoppLen) :
    st.hopping = sel ++ hopping.drop sel.length := by
  rw [← List.take_append_drop st.hoppLen st.hopping, hrest, ← hlen, ← hlist]
  rfl

/-! ### the decoder looks at `len` octets only; trxcon's emitter at `ma_len` entries only -/

theorem mbit_append (ma pad : List Nat) (hne : ma ≠ []) (i : Nat) :
    MobileAlloc.mbit (ma ++ pad) ma.length i = MobileAlloc.mbit ma ma.length i := by
  have hl : 0 < ma.length := List.length_pos_iff.mpr hne
  simp only [MobileAlloc.mbit]
  rw [List.getElem?_append_left (by omega)]

/-- octets of the `ma` object behind the `len` octets of the bitmap have no influence -/
theorem decode_trailing (freq ma pad hopping : List Nat) (hoppLen : Nat) (si4 : Bool)
    (hf : freq.length = 1024) (hne : ma ≠ []) (h8 : ma.length ≤ 8) (hh : 64 ≤ hopping.length) :
    MobileAlloc.decode freq (ma ++ pad) ma.length hopping hoppLen si4 =
      MobileAlloc.decode freq ma ma.length hopping hoppLen si4 := by
  rw [MobileAlloc.decode_ok freq (ma ++ pad) ma.length hopping hoppLen si4 hf (by simp) h8 hh,
    MobileAlloc.decode_ok freq ma ma.length hopping hoppLen si4 hf (Nat.le_refl _) h8 hh]
  have : MobileAlloc.pickB (ma ++ pad) ma.length = MobileAlloc.pickB ma ma.length := by
    funext p; simp only [MobileAlloc.pickB, mbit_append ma pad hne]
  simp only [MobileAlloc.selFrom, this]

theorem setfhLoop_prefix : ∀ (ma pad mem : List Nat) (room : Nat),
    TrxconIf.setfhLoop (ma ++ pad) ma.length mem room = TrxconIf.setfhLoop ma ma.length mem room := by
  intro ma
  induction ma with
  | nil => intro pad mem room; cases pad <;> rfl
  | cons a t ih =>
    intro pad mem room
    simp only [List.cons_append, List.length_cons, TrxconIf.setfhLoop]
    split
    · rfl
    · split
      · rfl
      · exact ih pad _ _

/-- `cmdp->ma` points at an array of 64 entries of which `ma_len` are used: the entries behind them
are never read -/
theorem cPhyCmd_setfh_pad (t : TrxconIf.Trx) (hsn maio : Nat) (ma pad : List Nat) (hne : ma ≠ [])
    (hlen : ma.length < 4294967296) :
    TrxconIf.cPhyCmd t (.setfreqH1 hsn maio ma.length (ma ++ pad)) =
      TrxconIf.cPhyCmd t (.setfreqH1 hsn maio ma.length ma) := by
  have he1 : (ma ++ pad).isEmpty = false := by cases ma with | nil => exact absurd rfl hne | cons => rfl
  have he2 : ma.isEmpty = false := by cases ma with | nil => exact absurd rfl hne | cons => rfl
  have hu : TrxconIf.u32 ma.length = ma.length := by simp only [TrxconIf.u32]; omega
  have hb : TrxconIf.setfhMaBuf ma.length (ma ++ pad) = TrxconIf.setfhMaBuf ma.length ma := by
    simp only [TrxconIf.setfhMaBuf, he1, he2, hu, setfhLoop_prefix]
  simp only [TrxconIf.cPhyCmd, hb]

/-! ### channels and frequencies -/

/-- channel numbers 0..1023 of a cell allocation after the PCS conversion -/
theorem toBand_eq (pcs : Bool) (a : Nat) (h : a < 1024) :
    toBand pcs a = if pcs = true ∧ 512 ≤ a ∧ a ≤ 810 then a + 32768 else a := by
  have hp : arfcnPcs = 2 ^ 15 := by decide
  simp only [toBand, hp]
  cases pcs
  · simp only [Bool.false_eq_true, if_false, false_and, Nat.or_zero, ite_self]
  · simp only [if_true, true_and, ge_iff_le, Nat.or_two_pow_eq_add_of_lt (show a < 2 ^ 15 by omega)]

theorem toBand_lt (pcs : Bool) (a : Nat) (h : a < 1024) : toBand pcs a < 65536 ∧ u16 (toBand pcs a) = toBand pcs a := by
  have : toBand pcs a < 65536 := by rw [toBand_eq pcs a h]; split <;> omega
  exact ⟨this, Nat.mod_eq_of_lt this⟩

theorem toBand_inj (pcs : Bool) (a b : Nat) (ha : a < 1024) (hb : b < 1024) (h : toBand pcs a = toBand pcs b) : a = b := by
  rw [toBand_eq pcs a ha, toBand_eq pcs b hb] at h
  split at h <;> split at h <;> omega

/-- a converted channel for which `gsm_arfcn2freq10` is defined lies in a row of `gsm_ranges[]` -/
theorem inRanges_toBand (pcs : Bool) (a : Nat) (h : a < 1024) (hv : TrxconIf.ValidArfcn (toBand pcs a)) :
    TrxconIf.InRanges (toBand pcs a) := by
  rw [toBand_eq pcs a h] at hv ⊢
  split
  · exact ⟨512, 810, 18502, 800, 32768, a, by decide, by omega, by omega, rfl⟩
  · rename_i hn
    rw [if_neg hn] at hv
    exact hv.inRanges h

/-- distinct channels of `gsm_ranges[]` have distinct downlink frequencies (hence distinct (Rx, Tx) pairs) -/
theorem rx_inj (a b : Nat) (ha : TrxconIf.InRanges a) (hb : TrxconIf.InRanges b)
    (h : TrxconIf.arfcn2freq10 a false = TrxconIf.arfcn2freq10 b false) : a = b := by
  rw [← ha.roundtrip, ← hb.roundtrip, h]

end OsmoVerif.HopChain
