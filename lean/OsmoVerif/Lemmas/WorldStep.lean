/-
`tick`, `step` and `run` of the world model: the tick as its loop over the transceivers, histories
by their first or last operation, and the one thing no operation ever changes — the number of
transceivers.
-/
import OsmoVerif.Lemmas.WorldBurst

namespace OsmoVerif.World
open OsmoVerif OsmoVerif.PyStr

/-! ### the tick -/

theorem tick_eq_go {w : World} {fn : Nat} (hr : w.clkRunning = true) (hs : w.clkSrc = some fn) :
    tick w = tick.go fn w (Sched.clockInds w fn) 0 (List.range w.trxs.length) := by
  unfold tick Sched.clockInds
  simp only [hr, hs, not_true_eq_false, if_false]

theorem tick_stopped {w : World} (hr : w.clkRunning = false) : tick w = { world := w } := by
  unfold tick; simp [hr]

theorem tick_nosrc {w : World} (hs : w.clkSrc = none) : (tick w).world = w := by
  unfold tick; split
  · rfl
  · simp only [hs]

/-! ### histories -/

theorem run_cons_world (w : World) (op : Op) (ops : List Op) :
    (run w (op :: ops)).1 = (run (step w op).world ops).1 := by
  simp only [run]

theorem run_append (w : World) (ops ops2 : List Op) :
    (run w (ops ++ ops2)).1 = (run (run w ops).1 ops2).1 := by
  induction ops generalizing w with
  | nil => rfl
  | cons op ops ih => simp only [List.cons_append, run]; exact ih _

theorem run_snoc (w : World) (ops : List Op) (op : Op) :
    (run w (ops ++ [op])).1 = (step (run w ops).1 op).world := by
  rw [run_append]; rfl

/-! ### the number of transceivers never changes -/

theorem powered_length (w : World) (i : Nat) (self : Trx) (on : Bool) :
    (powered w i self on).trxs.length = w.trxs.length := by
  rw [powered_trxs]
  unfold powerSet
  generalize powerList self i = l
  induction l generalizing w with
  | nil => rfl
  | cons j l ih => rw [List.foldl_cons, ih, setTrx_length]

theorem parseCmd_length {w w' : World} {i : Nat} {req : List Str} {r : CmdRes}
    (h : parseCmd w i req = .ok (w', r)) : w'.trxs.length = w.trxs.length := by
  obtain ⟨p, -, -, rfl | ⟨trx, a, -, -, hs⟩⟩ := parseCmd_ok_cases h
  · exact applyPatch_length w i p
  · rw [← applyPatch_length w i p]
    cases hs with
    | patch q rc => exact setTrx_length _ _ _
    | reply rc ps => rfl
    | power on trx' ht => exact powered_length _ _ _ _
    | measure f => rfl

theorem clckTick_length {w w' : World} {j fn : Nat} {ds : List Dgram} {st : Nat}
    (h : clckTick w j fn = .ok (w', ds, st)) : w'.trxs.length = w.trxs.length := by
  obtain ⟨t, -, -, hf⟩ := clckTick_frame h
  rw [hf.length]
  split
  · exact setTrx_length _ _ _
  · rfl

/-- all a tick does to the world: `clck_tick` of transceivers, one after the other, then (unless
one of them raised) the frame counter advances -/
theorem tick_induct (R : World → Prop) {w : World} (h0 : R w)
    (step : ∀ w1 j fn w2 ds st, R w1 → clckTick w1 j fn = .ok (w2, ds, st) → R w2)
    (last : ∀ w1 c, R w1 → R { w1 with clkSrc := c }) : R (tick w).world := by
  have go (fn : Nat) : ∀ (js : List Nat) (w1 : World) (acc : List Dgram) (st : Nat), R w1 →
      R (tick.go fn w1 acc st js).world := by
    intro js
    induction js with
    | nil => intro w1 acc st h; exact last _ _ h
    | cons j js ih =>
      intro w1 acc st h
      simp only [tick.go]
      split
      · exact h
      next hc => exact ih _ _ _ (step _ _ _ _ _ _ h hc)
  cases hr : w.clkRunning with
  | false => rw [tick_stopped hr]; exact h0
  | true =>
    cases hs : w.clkSrc with
    | none => rw [tick_nosrc hs]; exact h0
    | some fn => rw [tick_eq_go hr hs]; exact go fn _ w _ 0 h0

theorem step_length (w : World) (op : Op) : (step w op).world.trxs.length = w.trxs.length := by
  cases op with
  | ctrl i sp d =>
    simp only [step]
    split
    · rcases handleRx_world w i _ sp d with h | ⟨_, _, h⟩
      · rw [h]
      · exact parseCmd_length h
    · rfl
  | data i d =>
    simp only [step]
    cases ht : w.trxs[i]? with
    | none => simp only [recvDataMsg, ht]
    | some t =>
      rw [recvDataMsg_eq d ht]
      split
      · rfl
      · split
        · rfl
        · split
          · rfl
          · exact setTrx_length _ _ _
  | tick =>
    exact tick_induct (fun w1 => w1.trxs.length = w.trxs.length) rfl
      (fun _ _ _ _ _ _ h hc => (clckTick_length hc).trans h) (fun _ _ h => h)
  | jump fn => simp only [step, jump]; split <;> rfl

theorem run_length (w : World) (ops : List Op) : (run w ops).1.trxs.length = w.trxs.length := by
  induction ops generalizing w with
  | nil => rfl
  | cons op ops ih => rw [run_cons_world, ih, step_length]

end OsmoVerif.World
