/-
Helper lemmas for C06 (serial link framing): receiver over octet streams, transmitter versus the
wire format, queue discipline versus `Spec.pick`, and the simulation between the model
(`World`) and the abstract link (`Spec.Link`).
-/
import OsmoVerif.Model.Sercomm
import OsmoVerif.Spec.Sercomm

namespace OsmoVerif.Sercomm
open OsmoVerif.Gen.Sercomm OsmoVerif.Spec.Sercomm

/-! ### the regenerated constants are the protocol's -/

theorem flag_eq : hdlcFlag = 0x7E := by decide
theorem escape_eq : hdlcEscape = 0x7D := by decide
theorem cui_eq : hdlcCUi = 0x03 := by decide
theorem txXor_eq : txEscXor = 0x20 := by decide
theorem rxXor_eq : rxEscXor = 0x20 := by decide

/-! ### escaping -/

theorem special_iff (c : Nat) : special c = true ↔ c = 0x7E ∨ c = 0x7D ∨ c = 0x00 := by
  simp [special, or_assoc]

theorem special_false_iff (c : Nat) : special c = false ↔ c ≠ 0x7E ∧ c ≠ 0x7D ∧ c ≠ 0x00 := by
  simp [special, and_assoc]

theorem needsEscape_eq (c : Nat) : needsEscape c = special c := by
  simp [needsEscape, special, flag_eq, escape_eq]

theorem esc_nil : esc [] = [] := rfl
theorem esc_cons (x : Nat) (xs : List Nat) : esc (x :: xs) = esc1 x ++ esc xs := by
  simp [esc]
theorem esc_append (xs ys : List Nat) : esc (xs ++ ys) = esc xs ++ esc ys := by
  simp [esc]

theorem esc1_ne_nil (x : Nat) : esc1 x ≠ [] := by
  unfold esc1; split <;> simp

/-- no flag and no zero octet between the flags of a frame -/
theorem esc1_clean (x : Nat) : ∀ c ∈ esc1 x, c ≠ 0x7E ∧ c ≠ 0x00 := by
  intro c hc
  unfold esc1 at hc
  split at hc
  · rename_i h
    rcases (special_iff x).1 h with h | h | h <;> subst h <;> simp at hc <;> rcases hc with hc | hc <;> subst hc <;> decide
  · rename_i h
    simp at hc; subst hc
    have := (special_false_iff c).1 (by simpa using h)
    omega

theorem esc_clean (xs : List Nat) : ∀ c ∈ esc xs, c ≠ 0x7E ∧ c ≠ 0x00 := by
  intro c hc
  simp only [esc, List.mem_flatMap] at hc
  obtain ⟨x, _, hx⟩ := hc
  exact esc1_clean x c hx

theorem esc_noflag (xs : List Nat) : ∀ c ∈ esc xs, c ≠ 0x7E := fun c hc => (esc_clean xs c hc).1

theorem esc1_transparent {d : Nat} (h : Transparent d) : esc1 d = [d] := by
  rw [esc1, (special_false_iff d).2 ⟨h.2.2, h.2.1, h.1⟩, if_neg Bool.false_ne_true]

theorem esc1_three : esc1 0x03 = [0x03] := by decide

/-! ### receiver -/

def bufOf : Option Buf → Buf
  | some b => b
  | none => []

theorem rxLen_eq (r : Rx) : r.len = (bufOf r.msg).length := by
  unfold Rx.len bufOf
  split <;> simp [*]

theorem rxChar_norm (c : RxCfg) (m : Option Buf) (st : St) (d k : Nat) (a : Bool) (ch : Nat) :
    rxChar c ⟨m, st, d, k, a⟩ ch = rxChar c ⟨some (bufOf m), st, d, k, a⟩ ch := by
  cases m <;> rfl

theorem feed_norm (c : RxCfg) (m : Option Buf) (st : St) (d k : Nat) (a : Bool) (xs : List Nat) :
    feed c ⟨m, st, d, k, a⟩ xs = feed c ⟨some (bufOf m), st, d, k, a⟩ xs ∨ xs = [] := by
  cases xs with
  | nil => right; rfl
  | cons x xs => left; simp only [feed]; rw [rxChar_norm]

theorem feed_append (c : RxCfg) (r : Rx) (xs ys : List Nat) :
    feed c r (xs ++ ys) =
      ((feed c (feed c r xs).1 ys).1, (feed c r xs).2 ++ (feed c (feed c r xs).1 ys).2) := by
  induction xs generalizing r with
  | nil => simp [feed]
  | cons x xs ih =>
    simp only [List.cons_append, feed]
    rw [ih]
    simp [List.append_assoc]

theorem feed_cons (c : RxCfg) (r : Rx) (x : Nat) (xs : List Nat) :
    feed c r (x :: xs) =
      ((feed c (rxChar c r x).1 xs).1, (rxChar c r x).2 ++ (feed c (rxChar c r x).1 xs).2) := rfl

theorem feed_nil (c : RxCfg) (r : Rx) : feed c r [] = (r, []) := rfl

theorem feed_step (c : RxCfg) {r r' : Rx} {x : Nat} (h : rxChar c r x = (r', [])) (xs : List Nat) :
    feed c r (x :: xs) = feed c r' xs := by
  rw [feed_cons, h]
  rfl

variable (c : RxCfg) {b : Buf} {st : St} {d k : Nat} {a : Bool}

/-- `sercomm_drv_rx_char` with room in the buffer, state by state -/
theorem rxChar_lt {ch : Nat} (hb : b.length < c.cap) :
    rxChar c ⟨some b, st, d, k, a⟩ ch =
      match st with
      | .waitStart => (⟨some b, if ch = 0x7E then .addr else .waitStart, d, k, a⟩, [])
      | .addr => (⟨some b, .ctrl, ch, k, a⟩, [])
      | .ctrl => (⟨some b, .data, d, ch, a⟩, [])
      | .data =>
        if ch = 0x7D then (⟨some b, .escape, d, k, a⟩, [])
        else if ch = 0x7E then (⟨none, .waitStart, d, k, a⟩, dispatch c d b)
        else (⟨some (b ++ [ch]), .data, d, k, a⟩, [])
      | .escape => (⟨some (b ++ [u8 (ch ^^^ 0x20)]), .data, d, k, a⟩, []) := by
  have hb' : b.length ≠ c.cap := Nat.ne_of_lt hb
  cases st <;> simp [rxChar, hb', hb, msgbPut, flag_eq, escape_eq, rxXor_eq]
  split <;> simp [*]

theorem rx_full {ch : Nat} (hb : b.length = c.cap) :
    rxChar c ⟨some b, st, d, k, a⟩ ch = (⟨some [], .waitStart, d, k, a⟩, [.overflow]) := by
  simp [rxChar, hb]

theorem feed_wait_noise {ns : List Nat} (hc : 0 < c.cap)
    (h : ∀ x ∈ ns, x ≠ 0x7E) :
    feed c ⟨some [], .waitStart, d, k, a⟩ ns = (⟨some [], .waitStart, d, k, a⟩, []) := by
  induction ns with
  | nil => rfl
  | cons x xs ih =>
    rw [feed_step c (rxChar_lt c (b := []) hc), if_neg (h x List.mem_cons_self)]
    exact ih fun y hy => h y (List.mem_cons_of_mem _ hy)

/-- the three octets that are escaped: what the transmitter sends for one, and what the receiver makes of that -/
theorem special_xor {x : Nat} (h : special x = true) :
    u8 (x ^^^ txEscXor) = x ^^^ 0x20 ∧ u8 ((x ^^^ 0x20) ^^^ 0x20) = x := by
  rcases (special_iff x).1 h with h | h | h <;> subst h <;> decide

theorem feed_esc1 {x : Nat} (hb : b.length < c.cap) :
    feed c ⟨some b, .data, d, k, a⟩ (esc1 x) = (⟨some (b ++ [x]), .data, d, k, a⟩, []) := by
  unfold esc1
  split
  · rename_i hs
    rw [feed_step c (rxChar_lt c hb), feed_step c (rxChar_lt c hb), (special_xor hs).2]
    rfl
  · rename_i hs
    have := (special_false_iff x).1 (by simpa using hs)
    rw [feed_step c ((rxChar_lt c (st := .data) hb).trans ((if_neg this.2.1).trans (if_neg this.1)))]
    rfl

/-- with a full buffer the next octet resets the receiver; the rest of the frame is skipped and
its closing flag is taken for an opening flag -/
theorem feed_full_rest {x : Nat} {w : List Nat}
    (hc : 0 < c.cap) (hb : b.length = c.cap) (hw : ∀ y ∈ w, y ≠ 0x7E) :
    feed c ⟨some b, st, d, k, a⟩ (x :: w ++ [0x7E]) = (⟨some [], .addr, d, k, a⟩, [.overflow]) := by
  rw [List.cons_append, feed_cons, rx_full c hb]
  simp only []
  rw [feed_append, feed_wait_noise c hc hw]
  simp only []
  rw [feed_step c (rxChar_lt c (b := []) hc)]
  rfl

/-- data phase, the escaped form of `p`, the closing flag: `p` is appended and the buffer dispatched if
it all fits; a payload that exactly fills the buffer is dropped at the closing flag, alignment kept; a
longer one is dropped when the buffer is full and its closing flag taken for an opening flag -/
theorem feed_data_close (p : List Nat) (hc : 0 < c.cap)
    (hb : b.length ≤ c.cap) :
    feed c ⟨some b, .data, d, k, a⟩ (esc p ++ [0x7E]) =
      if b.length + p.length < c.cap then (⟨none, .waitStart, d, k, a⟩, dispatch c d (b ++ p))
      else (⟨some [], if b.length + p.length = c.cap then .waitStart else .addr, d, k, a⟩, [.overflow]) := by
  induction p generalizing b with
  | nil =>
    rw [esc_nil, List.nil_append, feed_cons, List.length_nil, Nat.add_zero, List.append_nil]
    by_cases hf : b.length = c.cap
    · rw [rx_full c hf, if_neg (Nat.not_lt.2 (Nat.le_of_eq hf.symm)), if_pos hf]
      rfl
    · have hlt := Nat.lt_of_le_of_ne hb hf
      rw [show rxChar c ⟨some b, .data, d, k, a⟩ 0x7E = _ from rxChar_lt c hlt, if_pos hlt]
      simp [feed_nil]
  | cons x xs ih =>
    by_cases hf : b.length = c.cap
    · obtain ⟨z, zs, hz⟩ := List.exists_cons_of_ne_nil (esc1_ne_nil x)
      have hw : ∀ y ∈ zs ++ esc xs, y ≠ 0x7E := fun y hy =>
        (List.mem_append.1 hy).elim (fun h => (esc1_clean x y (hz ▸ List.mem_cons_of_mem _ h)).1) (esc_noflag xs y)
      rw [esc_cons, hz, List.cons_append,
        feed_full_rest c hc hf hw, List.length_cons, hf, if_neg (by omega), if_neg (by omega)]
    · have hlt : b.length < c.cap := Nat.lt_of_le_of_ne hb hf
      rw [esc_cons, List.append_assoc, feed_append, feed_esc1 c hlt]
      simp only []
      rw [ih (b := b ++ [x]) (by rw [List.length_append]; exact hlt)]
      simp only [List.length_append, List.length_cons, List.length_nil, List.append_assoc, List.cons_append,
        List.nil_append, List.nil_append, Nat.zero_add, Nat.add_assoc, Nat.add_comm 1]

/-! ### whole frames through the receiver -/

theorem frame_transparent (m : Msg) (ht : Transparent m.dlci) :
    frame m = 0x7E :: m.dlci :: 0x03 :: (esc m.payload ++ [0x7E]) := by
  simp [frame, body, esc_cons, esc1_transparent ht, esc1_three]

theorem feed_frame_sync (c : RxCfg) {mb : Option Buf} {d0 k0 : Nat} (m : Msg)
    (hc : 0 < c.cap) (hm : bufOf mb = []) (ht : Transparent m.dlci) :
    feed c ⟨mb, .waitStart, d0, k0, a⟩ (frame m) =
      feed c ⟨some [], .data, m.dlci, 0x03, a⟩ (esc m.payload ++ [0x7E]) := by
  rw [frame_transparent m ht, feed_step c (by rw [rxChar_norm, hm]; exact rxChar_lt c hc),
    feed_step c (rxChar_lt c (b := []) hc), feed_step c (rxChar_lt c (b := []) hc)]

/-- receiver out of alignment (`ADDR`, empty buffer): the opening flag is taken as address, the
address as control octet, the control octet as first payload octet -/
theorem feed_frame_desync (c : RxCfg) {mb : Option Buf} {d0 k0 : Nat} (m : Msg)
    (hc : 0 < c.cap) (hm : bufOf mb = []) (ht : Transparent m.dlci) :
    feed c ⟨mb, .addr, d0, k0, a⟩ (frame m) =
      feed c ⟨some [], .data, 0x7E, m.dlci, a⟩ (esc (0x03 :: m.payload) ++ [0x7E]) := by
  rw [frame_transparent m ht, feed_step c (by rw [rxChar_norm, hm]; exact rxChar_lt c hc),
    feed_step c (rxChar_lt c (b := []) hc), esc_cons, esc1_three]
  rfl

/-! ### transmitter: `sercomm_drv_pull`, branch by branch -/

theorem pull_idle {t : Tx} (hm : t.msg = none) (hq : dequeueFirst t.queues = none) : pull t = (t, .empty) := by
  simp only [pull, hm, hq]

theorem pull_start {t : Tx} {b : Buf} {qs : List (List Buf)} (hm : t.msg = none)
    (hq : dequeueFirst t.queues = some (b, qs)) :
    pull t = ({ t with queues := qs, msg := some b }, .octet 0x7E) := by
  simp only [pull, hm, hq, flag_eq]

theorem pull_end {t : Tx} (hm : t.msg = some []) (hs : t.state ≠ .escape) :
    pull t = ({ t with msg := none }, .octet 0x7E) := by
  simp only [pull, hm, hs, if_false, flag_eq]

theorem pull_plain {t : Tx} {x : Nat} {rest : Buf} (hm : t.msg = some (x :: rest)) (hs : t.state ≠ .escape)
    (hx : special x = false) : pull t = ({ t with msg := some rest }, .octet x) := by
  simp only [pull, hm, hs, if_false, needsEscape_eq, hx, Bool.false_eq_true]

/-- an octet to escape: the escape octet goes out, the octet is inverted in place -/
theorem pull_esc {t : Tx} {x : Nat} {rest : Buf} (hm : t.msg = some (x :: rest)) (hs : t.state ≠ .escape)
    (hx : special x = true) :
    pull t = ({ t with msg := some (u8 (x ^^^ txEscXor) :: rest), state := .escape }, .octet 0x7D) := by
  simp only [pull, hm, hs, if_false, needsEscape_eq, hx, if_true, escape_eq]

/-- `*next_char` read at `tail` (never reached: `TxWire`) -/
theorem pull_fault {t : Tx} (hm : t.msg = some []) (hs : t.state = .escape) : pull t = (t, .fault) := by
  simp only [pull, hm, hs, if_true]

theorem pull_escaped {t : Tx} {x : Nat} {rest : Buf} (hm : t.msg = some (x :: rest)) (hs : t.state = .escape) :
    pull t = ({ t with msg := some rest, state := .data }, .octet x) := by
  simp only [pull, hm, hs, if_true]

/-! ### transmitter versus the wire format -/

/-- the octets the transmitter will still emit for the message it is sending -/
def TxWire (t : Tx) (todo : List Nat) : Prop :=
  ∃ rest, t.msg = some rest ∧
    ((t.state ≠ .escape ∧ todo = esc rest ++ [0x7E]) ∨
     (t.state = .escape ∧ ∃ x tl, rest = x :: tl ∧ todo = x :: (esc tl ++ [0x7E])))

theorem pull_txwire {t : Tx} {ch : Nat} {todo : List Nat} (h : TxWire t (ch :: todo)) :
    ∃ t', pull t = (t', .octet ch) ∧ t'.queues = t.queues ∧
      (todo = [] → t'.msg = none ∧ t'.state ≠ .escape) ∧ (todo ≠ [] → TxWire t' todo) := by
  obtain ⟨rest, hmsg, h⟩ := h
  rcases h with ⟨hst, htodo⟩ | ⟨hst, x, tl, hrest, htodo⟩
  · cases rest with
    | nil =>
      -- the closing flag
      cases htodo
      exact ⟨_, pull_end hmsg hst, rfl, fun _ => ⟨rfl, hst⟩, fun h => absurd rfl h⟩
    | cons x tl =>
      rw [esc_cons, esc1] at htodo
      cases hs : special x
      · rw [hs, if_neg Bool.false_ne_true] at htodo
        cases htodo
        exact ⟨_, pull_plain hmsg hst hs, rfl, fun h => by simp at h, fun _ => ⟨_, rfl, .inl ⟨hst, rfl⟩⟩⟩
      · rw [hs, if_pos rfl] at htodo
        cases htodo
        exact ⟨_, pull_esc hmsg hst hs, rfl, fun h => by simp at h,
          fun _ => ⟨_, rfl, .inr ⟨rfl, _, _, rfl, by rw [(special_xor hs).1]; rfl⟩⟩⟩
  · -- the escape octet has gone out: the inverted octet follows
    subst hrest
    cases htodo
    exact ⟨_, pull_escaped hmsg hst, rfl, fun h => by simp at h,
      fun _ => ⟨_, rfl, .inl ⟨by simp, rfl⟩⟩⟩

theorem txwire_start (t : Tx) (b : Buf) (h : t.msg = some b) (hs : t.state ≠ .escape) :
    TxWire t (esc b ++ [0x7E]) := ⟨b, h, Or.inl ⟨hs, rfl⟩⟩

/-! ### queue discipline -/

/-- the msgb contents `sercomm_sendmsg` queues for a message -/
def txBody (m : Msg) : Buf := m.dlci :: hdlcCUi :: m.payload

theorem txBody_eq (m : Msg) : txBody m = body m := by simp [txBody, body, cui_eq]

def ofDlci (d : Nat) (ms : List Msg) : List Msg := ms.filter (fun m => m.dlci == d)

theorem ofDlci_cons_self (a : Msg) (ms : List Msg) : ofDlci a.dlci (a :: ms) = a :: ofDlci a.dlci ms :=
  List.filter_cons_of_pos (beq_self_eq_true _)

theorem ofDlci_cons_ne {a : Msg} {d : Nat} (h : a.dlci ≠ d) (ms : List Msg) : ofDlci d (a :: ms) = ofDlci d ms :=
  List.filter_cons_of_neg (by simpa using h)

theorem ofDlci_append (d : Nat) (xs ys : List Msg) : ofDlci d (xs ++ ys) = ofDlci d xs ++ ofDlci d ys :=
  List.filter_append ..

theorem ofDlci_eq_nil {d : Nat} {ms : List Msg} (h : ∀ x ∈ ms, x.dlci ≠ d) : ofDlci d ms = [] :=
  List.filter_eq_nil_iff.2 fun x hx => by simpa using h x hx

theorem dequeueFirst_none {qs : List (List Buf)} (h : ∀ q ∈ qs, q = []) : dequeueFirst qs = none := by
  induction qs with
  | nil => rfl
  | cons q qs ih =>
    have : q = [] := h q (by simp)
    subst this
    simp [dequeueFirst, ih (fun q hq => h q (by simp [hq]))]

theorem dequeueFirst_at (qs : List (List Buf)) (i : Nat) (x : Buf) (q : List Buf)
    (hlt : ∀ j, j < i → qs[j]? = some []) (hi : qs[i]? = some (x :: q)) :
    dequeueFirst qs = some (x, qs.set i q) := by
  induction qs generalizing i with
  | nil => simp at hi
  | cons q0 qs ih =>
    cases i with
    | zero =>
      simp at hi
      subst hi
      simp [dequeueFirst]
    | succ i =>
      have h0 : q0 = [] := by simpa using hlt 0 (by omega)
      subst h0
      have := ih i (fun j hj => by simpa using hlt (j + 1) (by omega)) (by simpa using hi)
      simp [dequeueFirst, this]

theorem minDlci_none (ms : List Msg) : minDlci ms = none ↔ ms = [] := by
  cases ms with
  | nil => simp [minDlci]
  | cons m ms => simp only [minDlci]; split <;> simp

theorem minDlci_spec {ms : List Msg} {d : Nat} (h : minDlci ms = some d) :
    (∃ x ∈ ms, x.dlci = d) ∧ ∀ x ∈ ms, d ≤ x.dlci := by
  induction ms generalizing d with
  | nil => cases h
  | cons m ms ih =>
    rw [minDlci] at h
    cases hm : minDlci ms with
    | none =>
      rw [hm] at h
      cases h
      cases (minDlci_none ms).1 hm
      exact ⟨⟨m, List.mem_singleton_self m, rfl⟩, fun x hx => Nat.le_of_eq (List.mem_singleton.1 hx ▸ rfl)⟩
    | some d' =>
      rw [hm] at h
      cases h
      obtain ⟨⟨x, hx, hxd⟩, hle⟩ := ih hm
      refine ⟨?_, fun y hy => (List.mem_cons.1 hy).elim (fun e => e ▸ Nat.min_le_left _ _)
        fun hy => Nat.le_trans (Nat.min_le_right _ _) (hle y hy)⟩
      rcases Nat.le_total m.dlci d' with hmd | hmd
      · exact ⟨m, List.mem_cons_self, (Nat.min_eq_left hmd).symm⟩
      · exact ⟨x, List.mem_cons_of_mem _ hx, hxd.trans (Nat.min_eq_right hmd).symm⟩

theorem removeFirst_eq {d : Nat} {ms rest : List Msg} {m : Msg} (h : removeFirst d ms = some (m, rest)) :
    ∃ pre post, ms = pre ++ m :: post ∧ rest = pre ++ post ∧ m.dlci = d ∧ ∀ x ∈ pre, x.dlci ≠ d := by
  induction ms generalizing rest with
  | nil => cases h
  | cons a ms ih =>
    rw [removeFirst] at h
    split at h
    · cases h
      exact ⟨[], ms, rfl, rfl, ‹_›, fun _ hx => nomatch hx⟩
    · cases hr : removeFirst d ms with
      | none => rw [hr] at h; cases h
      | some xr =>
        obtain ⟨x, r⟩ := xr
        rw [hr] at h
        cases h
        obtain ⟨pre, post, rfl, rfl, hm, hpre⟩ := ih hr
        exact ⟨a :: pre, post, rfl, rfl, hm, fun x hx => (List.mem_cons.1 hx).elim (· ▸ ‹_›) (hpre x)⟩

theorem removeFirst_ne_none {d : Nat} {ms : List Msg} (h : ∃ x ∈ ms, x.dlci = d) : removeFirst d ms ≠ none := by
  induction ms with
  | nil => exact nomatch h
  | cons a ms ih =>
    rw [removeFirst]
    split
    · exact nofun
    · obtain ⟨x, hx, hxd⟩ := h
      have := ih ⟨x, (List.mem_cons.1 hx).resolve_left fun e => ‹¬ a.dlci = d› (e ▸ hxd), hxd⟩
      split
      · exact nofun
      · contradiction

theorem pick_eq {pending rest : List Msg} {m : Msg} (h : pick pending = some (m, rest)) :
    ∃ pre post, pending = pre ++ m :: post ∧ rest = pre ++ post ∧
      (∀ x ∈ pre, m.dlci < x.dlci) ∧ ∀ x ∈ post, m.dlci ≤ x.dlci := by
  unfold pick at h
  cases hmin : minDlci pending with
  | none => rw [hmin] at h; cases h
  | some d =>
    rw [hmin] at h
    obtain ⟨pre, post, rfl, rfl, rfl, hpre⟩ := removeFirst_eq h
    have hle := (minDlci_spec hmin).2
    exact ⟨pre, post, rfl, rfl,
      fun x hx => Nat.lt_of_le_of_ne (hle x (List.mem_append_left _ hx)) (Ne.symm (hpre x hx)),
      fun x hx => hle x (List.mem_append_right _ (List.mem_cons_of_mem _ hx))⟩

theorem pick_spec {pending : List Msg} {m : Msg} {rest : List Msg} (h : pick pending = some (m, rest)) :
    (∀ x ∈ pending, m.dlci ≤ x.dlci) ∧ m ∈ pending ∧
    ofDlci m.dlci pending = m :: ofDlci m.dlci rest ∧
    (∀ d, d ≠ m.dlci → ofDlci d rest = ofDlci d pending) ∧ (∀ x ∈ rest, x ∈ pending) := by
  obtain ⟨pre, post, rfl, rfl, hpre, hpost⟩ := pick_eq h
  have hnil : ofDlci m.dlci pre = [] := ofDlci_eq_nil fun x hx => Nat.ne_of_gt (hpre x hx)
  refine ⟨fun x hx => ?_, by simp, ?_, fun d hd => ?_, fun x hx => ?_⟩
  · rcases List.mem_append.1 hx with hx | hx
    · exact Nat.le_of_lt (hpre x hx)
    · exact (List.mem_cons.1 hx).elim (· ▸ Nat.le_refl _) (hpost x)
  · rw [ofDlci_append, ofDlci_append, hnil, ofDlci_cons_self]; rfl
  · rw [ofDlci_append, ofDlci_append, ofDlci_cons_ne (Ne.symm hd)]
  · exact (List.mem_append.1 hx).elim (List.mem_append_left _) fun hx =>
      List.mem_append_right _ (List.mem_cons_of_mem _ hx)

theorem pick_none (pending : List Msg) : pick pending = none ↔ pending = [] := by
  refine ⟨fun h => ?_, fun h => h ▸ rfl⟩
  unfold pick at h
  cases hmin : minDlci pending with
  | none => exact (minDlci_none pending).1 hmin
  | some d => rw [hmin] at h; exact absurd h (removeFirst_ne_none (minDlci_spec hmin).1)

/-- the queues of the transmitter hold, per DLCI, the waiting messages of the abstract link -/
def QueuesMatch (nq : Nat) (qs : List (List Buf)) (pending : List Msg) : Prop :=
  qs.length = nq ∧ ∀ d, d < nq → qs[d]? = some ((ofDlci d pending).map txBody)

theorem queues_empty {nq : Nat} {qs : List (List Buf)} (hq : QueuesMatch nq qs []) : ∀ q ∈ qs, q = [] := by
  intro q hq'
  obtain ⟨i, hi, rfl⟩ := List.getElem_of_mem hq'
  have := hq.2 i (hq.1 ▸ hi)
  rw [List.getElem?_eq_getElem hi] at this
  exact Option.some.inj this

/-- the dequeue loop takes what `Spec.pick` takes -/
theorem dequeue_pick {nq : Nat} {qs : List (List Buf)} {pending rest : List Msg} {m : Msg}
    (hq : QueuesMatch nq qs pending) (hd : ∀ x ∈ pending, x.dlci < nq) (hp : pick pending = some (m, rest)) :
    ∃ qs', dequeueFirst qs = some (txBody m, qs') ∧ QueuesMatch nq qs' rest := by
  obtain ⟨hle, hmem, hf, ho, -⟩ := pick_spec hp
  have hdn : m.dlci < nq := hd m hmem
  refine ⟨qs.set m.dlci ((ofDlci m.dlci rest).map txBody), ?_, by rw [List.length_set, hq.1], fun d' hd' => ?_⟩
  · -- the queues below `m.dlci` are empty, `m` is the head of its own
    apply dequeueFirst_at
    · intro j hj
      rw [hq.2 j (Nat.lt_trans hj hdn), ofDlci_eq_nil fun x hx => Nat.ne_of_gt (Nat.lt_of_lt_of_le hj (hle x hx))]
      rfl
    · rw [hq.2 m.dlci hdn, hf]; rfl
  · rw [List.getElem?_set]
    by_cases e : m.dlci = d'
    · subst e; rw [if_pos rfl, if_pos (hq.1 ▸ hdn)]
    · rw [if_neg e, hq.2 d' hd', ho d' (Ne.symm e)]

theorem queues_send {nq : Nat} {qs : List (List Buf)} {pending : List Msg} (m : Msg)
    (hq : QueuesMatch nq qs pending) :
    QueuesMatch nq (qs.modify m.dlci (· ++ [txBody m])) (pending ++ [m]) := by
  refine ⟨by simp [hq.1], ?_⟩
  intro d hd
  rw [List.getElem?_modify, hq.2 d hd]
  by_cases e : m.dlci = d
  · simp [e, ofDlci, List.filter_append]
  · have : (m.dlci == d) = false := by simp [e]
    simp [e, ofDlci, List.filter_append, this]

theorem queues_init (nq : Nat) : QueuesMatch nq (Tx.init nq).queues [] := by
  refine ⟨by simp [Tx.init], ?_⟩
  intro d hd
  simp [Tx.init, hd, ofDlci]

/-! ### invariants of the receiver over arbitrary octets -/

/-- memory safety of the receive buffer: never more than `cap` octets stored, `msgb_put` never
called without tailroom -/
def RxInv (cap : Nat) (r : Rx) : Prop := r.len ≤ cap ∧ r.abort = false

theorem rxChar_inv (c : RxCfg) (r : Rx) (ch : Nat) (h : RxInv c.cap r) : RxInv c.cap (rxChar c r ch).1 := by
  obtain ⟨mb, st, d, k, a⟩ := r
  obtain ⟨hl, ha⟩ := h
  simp only at ha; subst ha
  rw [rxLen_eq] at hl
  rw [rxChar_norm]
  generalize bufOf mb = b at hl
  by_cases hf : b.length = c.cap
  · rw [rx_full c hf]; exact ⟨Nat.zero_le _, rfl⟩
  · have hlt : b.length < c.cap := Nat.lt_of_le_of_ne hl hf
    -- an octet is stored only behind this test
    have hput (x : Nat) : (b ++ [x]).length ≤ c.cap := by rw [List.length_append]; exact hlt
    rw [rxChar_lt c hlt]
    cases st with
    | data =>
      simp only []
      split
      · exact ⟨hl, rfl⟩
      · split
        · exact ⟨Nat.zero_le _, rfl⟩
        · exact ⟨hput _, rfl⟩
    | escape => exact ⟨hput _, rfl⟩
    | _ => exact ⟨hl, rfl⟩

theorem feed_inv (c : RxCfg) (r : Rx) (xs : List Nat) (h : RxInv c.cap r) : RxInv c.cap (feed c r xs).1 := by
  induction xs generalizing r with
  | nil => exact h
  | cons x xs ih => rw [feed_cons]; exact ih _ (rxChar_inv c r x h)

/-- the callbacks among receiver events -/
def evDeliveries : List Ev → List (Nat × Buf)
  | [] => []
  | .deliver d p :: es => (d, p) :: evDeliveries es
  | .overflow :: es => evDeliveries es

theorem evDeliveries_append (xs ys : List Ev) : evDeliveries (xs ++ ys) = evDeliveries xs ++ evDeliveries ys := by
  induction xs with
  | nil => rfl
  | cons x xs ih => cases x <;> simp [evDeliveries, ih]

/-- a handler is only ever called on a flag octet -/
theorem rxChar_noflag_nodeliver (c : RxCfg) (r : Rx) {ch : Nat} (h : ch ≠ 0x7E) :
    evDeliveries (rxChar c r ch).2 = [] := by
  obtain ⟨mb, st, d, k, a⟩ := r
  rw [rxChar_norm]
  generalize bufOf mb = b
  by_cases hf : b.length = c.cap
  · rw [rx_full c hf]; rfl
  · -- the buffer may be over-full here: `msgb_put` can fail, but makes no callback either
    cases st with
    | waitStart => simp only [rxChar, hf, if_false]; split <;> rfl
    | addr | ctrl => simp only [rxChar, hf, if_false]; rfl
    | data =>
      simp only [rxChar, hf, if_false, flag_eq, h]
      split
      · rfl
      · split <;> rfl
    | escape =>
      simp only [rxChar, hf, if_false]
      split <;> rfl

theorem feed_noflag_nodeliver (c : RxCfg) (r : Rx) {xs : List Nat} (h : ∀ x ∈ xs, x ≠ 0x7E) :
    evDeliveries (feed c r xs).2 = [] := by
  induction xs generalizing r with
  | nil => rfl
  | cons x xs ih =>
    rw [feed_cons, evDeliveries_append, rxChar_noflag_nodeliver c r (h x (by simp)),
      ih _ (fun y hy => h y (by simp [hy]))]
    rfl

/-- receiver between frames: aligned (`WAIT_START`) or, after an over-long frame, one flag ahead (`ADDR`) -/
def RxAt (desync : Bool) (r : Rx) : Prop :=
  bufOf r.msg = [] ∧ r.state = (if desync then St.addr else St.waitStart)

theorem rxAt_iff (ds : Bool) (r : Rx) :
    RxAt ds r ↔ r.len = 0 ∧ r.state = (if ds then St.addr else St.waitStart) := by
  rw [RxAt, rxLen_eq, List.length_eq_zero_iff]

theorem rxChar_open_flag (c : RxCfg) {r : Rx} {ds : Bool} (hc : 0 < c.cap) (h : RxAt ds r) :
    (rxChar c r 0x7E).2 = [] := by
  obtain ⟨mb, st, d, k, a⟩ := r
  obtain ⟨hb, hs⟩ := h
  simp only at hb hs
  rw [rxChar_norm, hb, hs, rxChar_lt c (b := []) hc]
  cases ds <;> rfl

theorem rxChar_wait_noise (c : RxCfg) {r : Rx} {x : Nat} (hc : 0 < c.cap) (h : RxAt false r) (hx : x ≠ 0x7E) :
    RxAt false (rxChar c r x).1 ∧ (rxChar c r x).2 = [] := by
  obtain ⟨mb, st, d, k, a⟩ := r
  obtain ⟨hb, hs⟩ := h
  simp only [Bool.false_eq_true, if_false] at hb hs
  rw [rxChar_norm, hb, hs, rxChar_lt c (b := []) hc]
  exact ⟨⟨rfl, if_neg hx⟩, rfl⟩

/-! ### what a complete frame does to the receiver, in the terms of `Spec.Link.complete` -/

/-- a receiver that is one flag ahead stores the control octet as well: one octet more per frame -/
def completeDesync (cap : Nat) (desync : Bool) (m : Msg) : Bool :=
  decide (cap < m.payload.length + desync.toNat)

def completeDelivers (cap : Nat) (desync : Bool) (m : Msg) : Bool :=
  !desync && decide (m.payload.length < cap)

theorem completeDesync_of_lt {cap : Nat} {ds : Bool} {m : Msg} (h : m.payload.length < cap) :
    completeDesync cap ds m = false := by
  cases ds <;> simp [completeDesync] <;> omega

theorem complete_eq (cap : Nat) (s : Link) (m : Msg) :
    Link.complete cap s m =
      { s with cur := none, desync := completeDesync cap s.desync m, completed := s.completed ++ [m],
               delivered := if completeDelivers cap s.desync m then s.delivered ++ [m] else s.delivered } := by
  unfold Link.complete completeDesync completeDelivers
  cases hd : s.desync
  · by_cases hl : m.payload.length < cap
    · simp [hl, Nat.lt_asymm hl]
    · simp [hl]
  · simp [Nat.lt_succ_iff]

/-- case analysis over one octet slot -/
theorem octet_cases (cap : Nat) (s : Link) {P : Link → Prop}
    (same : (s.cur = none ∧ s.pending = []) ∨ (∃ m, s.cur = some (m, [])) → P s)
    (start : ∀ m rest, s.cur = none → pick s.pending = some (m, rest) →
      P { s with pending := rest, cur := some (m, esc (body m) ++ [0x7E]), wire := s.wire ++ [0x7E] })
    (more : ∀ m ch rest, s.cur = some (m, ch :: rest) → rest ≠ [] →
      P { s with cur := some (m, rest), wire := s.wire ++ [ch] })
    (last : ∀ m ch, s.cur = some (m, [ch]) →
      P { s with cur := none, desync := completeDesync cap s.desync m, completed := s.completed ++ [m],
                 delivered := if completeDelivers cap s.desync m then s.delivered ++ [m] else s.delivered,
                 wire := s.wire ++ [ch] }) :
    P (s.octet cap) := by
  cases hc : s.cur with
  | none =>
    cases hp : pick s.pending with
    | none => simp only [Link.octet, hc, hp]; exact same (.inl ⟨hc, (pick_none s.pending).1 hp⟩)
    | some mr => simp only [Link.octet, hc, hp]; exact start _ _ hc hp
  | some mt =>
    obtain ⟨m, todo⟩ := mt
    match todo with
    | [] => simp only [Link.octet, hc]; exact same (.inr ⟨m, hc⟩)
    | [ch] => simp only [Link.octet, hc, if_true, complete_eq]; exact last m ch hc
    | ch :: c2 :: rest =>
      simp only [Link.octet, hc, List.cons_ne_nil, if_false]
      exact more m ch _ hc (List.cons_ne_nil _ _)

/-- what `feed_data_close` leaves behind, in the terms of `completeDesync` / `completeDelivers`: the
receiver is between frames again, one flag ahead exactly after an over-long payload -/
theorem data_close_outcome (c : RxCfg) (d k : Nat) (p : List Nat) (hc : 0 < c.cap) :
    RxAt (decide (c.cap < p.length)) (feed c ⟨some [], .data, d, k, a⟩ (esc p ++ [0x7E])).1 ∧
    evDeliveries (feed c ⟨some [], .data, d, k, a⟩ (esc p ++ [0x7E])).2 =
      if p.length < c.cap then evDeliveries (dispatch c d p) else [] := by
  rw [feed_data_close c (b := []) p hc (Nat.zero_le _), List.length_nil, Nat.zero_add, List.nil_append]
  rcases Nat.lt_trichotomy p.length c.cap with hl | hl | hl
  · rw [if_pos hl, if_pos hl, decide_eq_false (Nat.lt_asymm hl)]
    exact ⟨⟨rfl, rfl⟩, rfl⟩
  · rw [if_neg (hl ▸ Nat.lt_irrefl _), if_pos hl, if_neg (hl ▸ Nat.lt_irrefl _), decide_eq_false (hl ▸ Nat.lt_irrefl _)]
    exact ⟨⟨rfl, rfl⟩, rfl⟩
  · rw [if_neg (Nat.lt_asymm hl), if_neg (Nat.ne_of_gt hl), if_neg (Nat.lt_asymm hl), decide_eq_true hl]
    exact ⟨⟨rfl, rfl⟩, rfl⟩

theorem frame_outcome (c : RxCfg) (hc : 0 < c.cap) (h7e : c.reg 0x7E = false) {r0 : Rx} {ds : Bool}
    (hr : RxAt ds r0) (m : Msg) (ht : Transparent m.dlci) (hreg : c.reg m.dlci = true) (hnh : m.dlci < c.nh) :
    RxAt (completeDesync c.cap ds m) (feed c r0 (frame m)).1 ∧
    evDeliveries (feed c r0 (frame m)).2 =
      (if completeDelivers c.cap ds m then [(m.dlci, m.payload)] else []) := by
  obtain ⟨mb, st, d0, k0, a⟩ := r0
  obtain ⟨hb, hs⟩ := hr
  simp only at hb hs
  subst hs
  cases ds
  · -- aligned: the handler of the frame's DLCI gets the payload
    have hd : evDeliveries (dispatch c m.dlci m.payload) = [(m.dlci, m.payload)] := by
      simp [dispatch, hreg, Nat.not_le.2 hnh, evDeliveries]
    have := data_close_outcome c m.dlci 0x03 m.payload hc (a := a)
    rw [hd] at this
    simpa [feed_frame_sync c m hc hb ht, completeDesync, completeDelivers] using this
  · -- one flag ahead: the frame is read as a message for DLCI 0x7E, which has no handler
    have hd : evDeliveries (dispatch c 0x7E (0x03 :: m.payload)) = [] := by
      simp [dispatch, h7e, evDeliveries]
    have := data_close_outcome c 0x7E m.dlci (0x03 :: m.payload) hc (a := a)
    rw [hd, ite_self] at this
    simpa [feed_frame_desync c m hc hb ht, completeDesync, completeDelivers, Nat.lt_succ_iff] using this

/-! ### observations -/

theorem deliveries_append (xs ys : List Obs) : deliveries (xs ++ ys) = deliveries xs ++ deliveries ys := by
  induction xs with
  | nil => rfl
  | cons x xs ih =>
    cases x with
    | ev e => cases e <;> simp [deliveries, ih]
    | _ => simp [deliveries, ih]

theorem pulledOctets_append (xs ys : List Obs) : pulledOctets (xs ++ ys) = pulledOctets xs ++ pulledOctets ys := by
  induction xs with
  | nil => rfl
  | cons x xs ih => cases x <;> simp [pulledOctets, ih]

theorem deliveries_ev (es : List Ev) : deliveries (es.map Obs.ev) = evDeliveries es := by
  induction es with
  | nil => rfl
  | cons e es ih => cases e <;> simp [deliveries, evDeliveries, ih]

theorem pulledOctets_ev (es : List Ev) : pulledOctets (es.map Obs.ev) = [] := by
  induction es with
  | nil => rfl
  | cons e es ih => simp [pulledOctets, ih]

theorem applyEcho_noecho (c : Cfg) (w : World) (es : List Ev)
    (h : ∀ dp ∈ evDeliveries es, c.echo dp.1 = false) :
    applyEcho c w es = { w with trace := (es.map Obs.ev).reverse ++ w.trace } := by
  induction es generalizing w with
  | nil => simp [applyEcho]
  | cons e es ih =>
    cases e with
    | deliver d p =>
      have hd : c.echo d = false := h (d, p) (by simp [evDeliveries])
      simp only [applyEcho, hd, Bool.false_eq_true, if_false]
      rw [ih _ (fun dp hdp => h dp (by simp [evDeliveries, hdp]))]
      simp
    | overflow =>
      simp only [applyEcho]
      rw [ih _ (fun dp hdp => h dp (by simpa [evDeliveries] using hdp))]
      simp

/-! ### histories the partial theorem speaks about -/

/-- a DLCI a message may be sent on: inside both tables, a user handler registered, and transparent (F10) -/
def DlciOk (c : Cfg) (nq d : Nat) : Prop :=
  d < nq ∧ d < c.nh ∧ c.reg d = true ∧ c.echo d = false ∧ Transparent d

instance (c : Cfg) (nq d : Nat) : Decidable (DlciOk c nq d) := by unfold DlciOk; infer_instance

/-- the abstract link follows a history -/
def specStep (cap : Nat) (s : Link) : Op → Link
  | .send d p => s.send ⟨d, p⟩
  | .pull => s
  | .loop => s.octet cap
  | .rx _ => s

def specRun (cap : Nat) (s : Link) (ops : List Op) : Link := ops.foldl (specStep cap) s

/-- admissible operation: messages on usable DLCIs; every pulled octet reaches the receiver;
foreign octets only between frames, without the flag octet, and (F17) only while the receiver is
aligned -/
def opOk (c : Cfg) (nq : Nat) (s : Link) : Op → Prop
  | .send d _ => DlciOk c nq d
  | .pull => False
  | .loop => True
  | .rx ns => s.cur = none ∧ s.desync = false ∧ ∀ x ∈ ns, x ≠ 0x7E

def opsOk (c : Cfg) (nq : Nat) : Link → List Op → Prop
  | _, [] => True
  | s, op :: ops => opOk c nq s op ∧ opsOk c nq (specStep c.cap s op) ops

/-- configuration the partial theorem needs: a buffer of at least one octet and no handler on
DLCI 0x7E (one of the three addresses that do not travel transparently, F10: it is the address a
receiver that is one flag ahead reads) -/
def CfgOk (c : Cfg) : Prop := 0 < c.cap ∧ c.reg 0x7E = false

/-- simulation relation between the model and the abstract link -/
structure Sim (c : Cfg) (nq : Nat) (w : World) (s : Link) : Prop where
  nofault : w.fault = false
  rxinv : RxInv c.cap w.rx
  queues : QueuesMatch nq w.tx.queues s.pending
  pendOk : ∀ x ∈ s.pending, DlciOk c nq x.dlci
  deliv : deliveries w.obs = s.delivered.map (fun m => (m.dlci, m.payload))
  wire : pulledOctets w.obs = s.wire
  line : match s.cur with
    | none => w.tx.msg = none ∧ w.tx.state ≠ .escape ∧ RxAt s.desync w.rx
    | some (m, todo) => DlciOk c nq m.dlci ∧ TxWire w.tx todo ∧
        ∃ sent r0, sent ++ todo = esc (body m) ++ [0x7E] ∧ RxAt s.desync r0 ∧
          (feed c.toRxCfg r0 (0x7E :: sent)).1 = w.rx

variable {c : Cfg} {nq : Nat} {w : World} {s : Link}

theorem sim_init (c : Cfg) (nq : Nat) : Sim c nq (World.init nq) Link.init where
  nofault := rfl
  rxinv := by simp [RxInv, World.init, Rx.init, Rx.len]
  queues := queues_init nq
  pendOk := by simp [Link.init]
  deliv := rfl
  wire := rfl
  line := by simp [Link.init, World.init, Tx.init, Rx.init, RxAt, bufOf]

theorem sim_send {d : Nat} {p : Buf} (h : Sim c nq w s) (hd : DlciOk c nq d) :
    Sim c nq (World.step c w (.send d p)) (s.send ⟨d, p⟩) := by
  have hlen : d < w.tx.queues.length := by rw [h.queues.1]; exact hd.1
  have hstep : World.step c w (.send d p) =
      { w with tx := { w.tx with queues := w.tx.queues.modify d (· ++ [txBody ⟨d, p⟩]) } } := by
    simp [World.step, sendmsg, hlen, txBody]
  rw [hstep]
  exact { h with
    queues := queues_send ⟨d, p⟩ h.queues
    pendOk := fun x hx => (List.mem_append.1 hx).elim (h.pendOk x) fun e => List.mem_singleton.1 e ▸ hd
    line := h.line }

theorem rxOctet_eq (c : Cfg) (w : World) (ch : Nat)
    (h : ∀ dp ∈ evDeliveries (rxChar c.toRxCfg w.rx ch).2, c.echo dp.1 = false) :
    World.rxOctet c w ch =
      { w with rx := (rxChar c.toRxCfg w.rx ch).1,
               trace := ((rxChar c.toRxCfg w.rx ch).2.map Obs.ev).reverse ++ w.trace } := by
  simp only [World.rxOctet]
  rw [applyEcho_noecho c _ _ h]

theorem sim_noise {ns : List Nat} (hc : CfgOk c)
    (h : Sim c nq w s) (hcur : s.cur = none) (hds : s.desync = false) (hns : ∀ x ∈ ns, x ≠ 0x7E) :
    Sim c nq (World.step c w (.rx ns)) s := by
  simp only [World.step]
  induction ns generalizing w with
  | nil => exact h
  | cons x xs ih =>
    simp only [List.foldl_cons]
    refine ih ?_ (fun y hy => hns y (List.mem_cons_of_mem _ hy))
    have hl := h.line
    simp only [hcur, hds] at hl
    obtain ⟨h1, h2, h3⟩ := hl
    obtain ⟨hat, hev⟩ := rxChar_wait_noise c.toRxCfg hc.1 h3 (hns x List.mem_cons_self)
    rw [rxOctet_eq c w x (by rw [hev]; simp [evDeliveries]), hev]
    exact { h with
      rxinv := rxChar_inv c.toRxCfg w.rx x h.rxinv
      deliv := by simpa [World.obs] using h.deliv
      wire := by simpa [World.obs] using h.wire
      line := by simp only [hcur, hds]; exact ⟨h1, h2, hat⟩ }

theorem txwire_ne_nil {t : Tx} (h : TxWire t []) : False := by
  obtain ⟨rest, _, h⟩ := h
  rcases h with ⟨_, h⟩ | ⟨_, x, tl, _, h⟩ <;> simp at h

/-- what `Sim.line` demands of transmitter and receiver for the frame on the line -/
def LineRel (c : Cfg) (nq : Nat) (t : Tx) (r : Rx) (s : Link) : Prop :=
  match s.cur with
  | none => t.msg = none ∧ t.state ≠ .escape ∧ RxAt s.desync r
  | some (m, todo) => DlciOk c nq m.dlci ∧ TxWire t todo ∧
      ∃ sent r0, sent ++ todo = esc (body m) ++ [0x7E] ∧ RxAt s.desync r0 ∧
        (feed c.toRxCfg r0 (0x7E :: sent)).1 = r

/-- one pulled octet through the receiver, no echo callback: the simulation continues with any abstract
state that accounts for the new queues, the callbacks made, the octet on the wire and the line -/
theorem sim_octet {s' : Link} (h : Sim c nq w s) {t' : Tx} {ch : Nat} {ds : List (Nat × Buf)}
    (hp : pull w.tx = (t', .octet ch))
    (hds : evDeliveries (rxChar c.toRxCfg w.rx ch).2 = ds) (hev : ∀ dp ∈ ds, c.echo dp.1 = false)
    (hq : QueuesMatch nq t'.queues s'.pending) (hpend : ∀ x ∈ s'.pending, DlciOk c nq x.dlci)
    (hdel : s'.delivered.map (fun m => (m.dlci, m.payload)) = s.delivered.map (fun m => (m.dlci, m.payload)) ++ ds)
    (hwire : s'.wire = s.wire ++ [ch]) (hline : LineRel c nq t' (rxChar c.toRxCfg w.rx ch).1 s') :
    Sim c nq (World.step c w .loop) s' := by
  subst hds
  simp only [World.step, hp]
  rw [rxOctet_eq c _ ch (by exact hev)]
  exact {
    nofault := h.nofault
    rxinv := rxChar_inv c.toRxCfg w.rx ch h.rxinv
    queues := hq
    pendOk := hpend
    deliv := by
      simp only [World.obs, List.reverse_append, List.reverse_reverse, List.reverse_cons, List.append_assoc,
        deliveries_append, deliveries_ev, hdel, ← h.deliv]
      simp [deliveries]
    wire := by
      simp only [World.obs, List.reverse_append, List.reverse_reverse, List.reverse_cons, List.append_assoc,
        pulledOctets_append, pulledOctets_ev, hwire, ← h.wire]
      simp [pulledOctets]
    line := hline }

theorem feed_snoc (c : RxCfg) (r : Rx) (xs : List Nat) (x : Nat) :
    feed c r (xs ++ [x]) =
      ((rxChar c (feed c r xs).1 x).1, (feed c r xs).2 ++ (rxChar c (feed c r xs).1 x).2) := by
  rw [feed_append]; simp [feed_cons, feed_nil]

theorem mem_of_split {sent todo e : List Nat} {ch f : Nat} (h : sent ++ ch :: todo = e ++ [f])
    (hne : todo ≠ []) : ch ∈ e := by
  have hlen := congrArg List.length h
  have ht : 0 < todo.length := List.length_pos_iff.2 hne
  simp at hlen
  have h1 : (sent ++ ch :: todo)[sent.length]? = some ch := by simp
  rw [h, List.getElem?_append_left (by omega)] at h1
  exact List.mem_of_getElem? h1

/-- one pulled octet into the receiver: the transmitter starts the frame `Spec.pick` chooses, sends the next
octet of the frame on the line, or has nothing to send -/
theorem sim_loop (hc : CfgOk c) (h : Sim c nq w s) :
    Sim c nq (World.step c w .loop) (s.octet c.cap) := by
  have hl := h.line
  refine octet_cases c.cap s (P := Sim c nq (World.step c w .loop)) ?_ ?_ ?_ ?_
  · rintro (⟨hcur, hp⟩ | ⟨m, hcur⟩)
    · simp only [hcur] at hl
      have hstep : World.step c w .loop = { w with trace := Obs.pullEmpty :: w.trace } := by
        simp only [World.step, pull_idle hl.1 (dequeueFirst_none (queues_empty (hp ▸ h.queues)))]
      exact hstep ▸ { h with
        deliv := by simpa [World.obs, deliveries_append, deliveries] using h.deliv
        wire := by simpa [World.obs, pulledOctets_append, pulledOctets] using h.wire }
    · simp only [hcur] at hl
      exact (txwire_ne_nil hl.2.1).elim
  · intro m rest hcur hp
    simp only [hcur] at hl
    obtain ⟨hmsg, hst, hat⟩ := hl
    obtain ⟨-, hmem, -, -, hsub⟩ := pick_spec hp
    obtain ⟨qs', hdq, hqm⟩ := dequeue_pick h.queues (fun x hx => (h.pendOk x hx).1) hp
    refine sim_octet h (pull_start hmsg hdq) (congrArg evDeliveries (rxChar_open_flag c.toRxCfg hc.1 hat)) nofun hqm
      (fun x hx => h.pendOk x (hsub x hx)) (List.append_nil _).symm rfl ?_
    refine ⟨h.pendOk m hmem, txBody_eq m ▸ txwire_start _ (txBody m) rfl hst, [], w.rx, rfl, hat, ?_⟩
    simp [feed_cons, feed_nil]
  · -- an octet inside the frame is not a flag
    intro m ch rest hcur hr
    simp only [hcur] at hl
    obtain ⟨hok, htx, sent, r0, hsplit, hat, hfeed⟩ := hl
    obtain ⟨t', hpull, hq, -, hmore⟩ := pull_txwire htx
    have hne : ch ≠ 0x7E := esc_noflag _ _ (mem_of_split hsplit hr)
    exact sim_octet h hpull (rxChar_noflag_nodeliver _ _ hne) nofun (hq ▸ h.queues) h.pendOk
      (List.append_nil _).symm rfl
      ⟨hok, hmore hr, sent ++ [ch], r0, by simpa using hsplit, hat, by
        rw [← List.cons_append, feed_snoc, hfeed]⟩
  · -- closing flag: the receiver has seen the whole frame
    intro m ch hcur
    simp only [hcur] at hl
    obtain ⟨hok, htx, sent, r0, hsplit, hat, hfeed⟩ := hl
    obtain ⟨t', hpull, hq, hlast, -⟩ := pull_txwire htx
    obtain ⟨hsent, hch⟩ := List.append_inj' hsplit rfl
    cases hch
    have hframe : 0x7E :: (sent ++ [0x7E]) = frame m := by simp [frame, hsent]
    obtain ⟨hat', hdel⟩ := frame_outcome c.toRxCfg hc.1 hc.2 hat m hok.2.2.2.2 hok.2.2.1 hok.2.1
    rw [← hframe, ← List.cons_append] at hat' hdel
    rw [feed_snoc, hfeed] at hat' hdel
    have hes : evDeliveries (rxChar c.toRxCfg w.rx 0x7E).2 =
        (if completeDelivers c.cap s.desync m then [(m.dlci, m.payload)] else []) := by
      rw [← hdel, evDeliveries_append, feed_cons, evDeliveries_append,
        rxChar_open_flag c.toRxCfg hc.1 hat,
        feed_noflag_nodeliver _ _ (xs := sent) (by rw [hsent]; exact esc_noflag _)]
      rfl
    refine sim_octet h hpull hes ?_ (hq ▸ h.queues) h.pendOk ?_ rfl ⟨(hlast rfl).1, (hlast rfl).2, hat'⟩
    · intro dp hdp
      split at hdp
      · cases List.mem_singleton.1 hdp; exact hok.2.2.2.1
      · cases hdp
    · split <;> simp

theorem sim_run {ops : List Op} (hc : CfgOk c)
    (h : Sim c nq w s) (hops : opsOk c nq s ops) :
    Sim c nq (World.run c w ops) (specRun c.cap s ops) := by
  induction ops generalizing w s with
  | nil => exact h
  | cons op ops ih =>
    have hop := hops.1
    refine ih ?_ hops.2
    cases op with
    | send d p => exact sim_send h hop
    | pull => exact absurd hop (by simp [opOk])
    | loop => exact sim_loop hc h
    | rx ns => exact sim_noise hc h hop.1 hop.2.1 hop.2.2

/-! ### what the abstract link guarantees (no model involved) -/

/-- the messages of the `send` operations of a history, in order -/
def sentMsgs : List Op → List Msg
  | [] => []
  | .send d p :: ops => ⟨d, p⟩ :: sentMsgs ops
  | _ :: ops => sentMsgs ops

/-- history without over-long messages -/
def allShort (cap : Nat) : List Op → Prop
  | [] => True
  | .send _ p :: ops => p.length < cap ∧ allShort cap ops
  | _ :: ops => allShort cap ops

structure LinkInv (cap : Nat) (s : Link) (sent : List Msg) : Prop where
  aligned : s.desync = false
  short : ∀ m ∈ s.inflight ++ s.pending, m.payload.length < cap
  fifo : ∀ d, ofDlci d s.all = ofDlci d sent

theorem linkInv_octet {cap : Nat} {s : Link} {sent : List Msg} (h : LinkInv cap s sent) :
    LinkInv cap (s.octet cap) sent := by
  refine octet_cases cap s (P := fun s' => LinkInv cap s' sent) (fun _ => h) ?_ ?_ ?_
  · -- a frame starts: it moves from the waiting messages to the line
    intro m rest hcur hp
    obtain ⟨-, hmem, hf, ho, hsub⟩ := pick_spec hp
    refine ⟨h.aligned, ?_, fun d => ?_⟩
    · intro x hx
      rcases List.mem_cons.1 hx with rfl | hx
      · exact h.short _ (List.mem_append_right _ hmem)
      · exact h.short x (List.mem_append_right _ (hsub x hx))
    · rw [← h.fifo d]
      simp only [Link.all, Link.inflight, hcur, ofDlci_append, List.append_nil, List.append_assoc]
      congr 1
      by_cases e : d = m.dlci
      · subst e; rw [hf]; simp [ofDlci]
      · rw [ho d e]; simp [ofDlci, Ne.symm e]
  · intro m ch rest hcur _
    refine ⟨h.aligned, fun x hx => h.short x ?_, fun d => ?_⟩
    · simpa [Link.inflight, hcur] using hx
    · rw [← h.fifo d]; simp only [Link.all, Link.inflight, hcur]
  · -- the frame is short and the receiver aligned: it is delivered
    intro m ch hcur
    have hshort : m.payload.length < cap := h.short m (by simp [Link.inflight, hcur])
    have hdel : completeDelivers cap s.desync m = true := by simp [completeDelivers, h.aligned, hshort]
    rw [hdel, completeDesync_of_lt hshort, if_pos rfl]
    refine ⟨rfl, fun x hx => h.short x (List.mem_append_right _ hx), fun d => ?_⟩
    rw [← h.fifo d]
    simp only [Link.all, Link.inflight, hcur, List.append_nil, List.append_assoc]

theorem linkInv_run {cap : Nat} {s : Link} {sent : List Msg} (ops : List Op) (h : LinkInv cap s sent)
    (hs : allShort cap ops) : LinkInv cap (specRun cap s ops) (sent ++ sentMsgs ops) := by
  induction ops generalizing s sent with
  | nil => simpa [specRun, sentMsgs] using h
  | cons op ops ih =>
    simp only [specRun, List.foldl_cons]
    cases op with
    | send d p =>
      have := ih (s := s.send ⟨d, p⟩) (sent := sent ++ [⟨d, p⟩]) ?_ hs.2
      · simpa [sentMsgs, specRun, specStep] using this
      · refine ⟨h.aligned, ?_, ?_⟩
        · intro x hx
          simp [Link.send, Link.inflight] at hx
          rcases hx with hx | hx | rfl
          · exact h.short x (by simp [Link.inflight, hx])
          · exact h.short x (by simp [hx])
          · exact hs.1
        · intro d'
          have := h.fifo d'
          simp only [Link.all, Link.send, Link.inflight, ofDlci_append] at this ⊢
          rw [← this]; simp
    | loop => exact ih (linkInv_octet h) hs
    | pull | rx _ => exact ih h hs

theorem linkInv_init (cap : Nat) : LinkInv cap Link.init [] :=
  ⟨rfl, fun _ h => (nomatch h), fun _ => rfl⟩

theorem linkInv_loops {cap : Nat} {s : Link} {sent : List Msg} (h : LinkInv cap s sent) :
    ∀ n, LinkInv cap (specRun cap s (List.replicate n Op.loop)) sent
  | 0 => h
  | n + 1 => linkInv_loops (linkInv_octet h) n

/-! ### progress: pulling drains the link -/

theorem octet_curOk (cap : Nat) (s : Link) (h : s.curOk) : (s.octet cap).curOk := by
  refine octet_cases cap s (P := Link.curOk) (fun _ => h) ?_ ?_ ?_
  · intro m rest _ _ m' todo e
    cases e
    exact List.append_ne_nil_of_right_ne_nil _ (List.cons_ne_nil _ _)
  · intro m ch rest _ hr m' todo e
    cases e
    exact hr
  · intro m ch _ m' todo e
    cases e

theorem octet_remaining (cap : Nat) (s : Link) (h : s.curOk) (hpos : 0 < s.remaining) :
    (s.octet cap).remaining + 1 = s.remaining := by
  refine octet_cases cap s (P := fun s' => s'.remaining + 1 = s.remaining) ?_ ?_ ?_ ?_
  · rintro (⟨hcur, hp⟩ | ⟨m, hcur⟩)
    · simp [Link.remaining, hcur, hp] at hpos
    · exact absurd rfl (h m [] hcur)
  · intro m rest hcur hp
    obtain ⟨pre, post, hpend, rfl, -⟩ := pick_eq hp
    simp only [Link.remaining, hcur, hpend, frame, List.length_cons, List.length_append, List.length_nil,
      List.map_append, List.map_cons, List.sum_append, List.sum_cons]
    omega
  · intro m ch rest hcur _
    simp only [Link.remaining, hcur, List.length_cons]
    omega
  · intro m ch hcur
    simp only [Link.remaining, hcur, List.length_cons, List.length_nil]
    omega

theorem remaining_zero {s : Link} (h : s.curOk) (hz : s.remaining = 0) : s.cur = none ∧ s.pending = [] := by
  cases hcur : s.cur with
  | some mt =>
    obtain ⟨m, todo⟩ := mt
    have := h m todo hcur
    simp [Link.remaining, hcur] at hz
    exact absurd hz.1 this
  | none =>
    refine ⟨rfl, ?_⟩
    cases hp : s.pending with
    | nil => rfl
    | cons a as => simp [Link.remaining, hcur, hp, frame] at hz

theorem drain (cap : Nat) {s : Link} (h : s.curOk) {n : Nat} (hn : s.remaining ≤ n) :
    let s' := specRun cap s (List.replicate n Op.loop)
    s'.cur = none ∧ s'.pending = [] := by
  induction n generalizing s with
  | zero => simpa [specRun] using remaining_zero h (by omega)
  | succ n ih =>
    simp only [List.replicate_succ, specRun, List.foldl_cons, specStep]
    by_cases hz : s.remaining = 0
    · obtain ⟨hc, hp⟩ := remaining_zero h hz
      have hfix : s.octet cap = s := by simp [Link.octet, hc, hp, pick, minDlci]
      rw [hfix]
      exact ih h (by omega)
    · have := octet_remaining cap s h (by omega)
      exact ih (octet_curOk cap s h) (by omega)

theorem specRun_inv {P : Link → Prop} (cap : Nat) (hsend : ∀ s m, P s → P (s.send m))
    (hoct : ∀ s, P s → P (s.octet cap)) (ops : List Op) : ∀ s, P s → P (specRun cap s ops) := by
  induction ops with
  | nil => exact fun _ h => h
  | cons op ops ih =>
    intro s h
    cases op with
    | send d p => exact ih _ (hsend s _ h)
    | loop => exact ih _ (hoct s h)
    | pull | rx _ => exact ih s h

/-! ### pulling a whole frame -/

theorem pullN_idle (n : Nat) (t : Tx) (hm : t.msg = none) (hq : ∀ q ∈ t.queues, q = []) :
    pullN n t = (t, []) := by
  cases n with
  | zero => rfl
  | succ n => simp only [pullN, pull_idle hm (dequeueFirst_none hq)]

theorem pullN_txwire (todo : List Nat) (n : Nat) (t : Tx) (h : TxWire t todo)
    (hq : ∀ q ∈ t.queues, q = []) (hn : todo.length ≤ n) :
    ∃ t', pullN n t = (t', todo) ∧ t'.msg = none ∧ t'.state ≠ .escape ∧ t'.queues = t.queues := by
  induction todo generalizing n t with
  | nil => exact (txwire_ne_nil h).elim
  | cons ch todo ih =>
    cases n with
    | zero => simp at hn
    | succ n =>
      obtain ⟨t1, hp, hq1, hlast, hmore⟩ := pull_txwire h
      by_cases e : todo = []
      · subst e
        obtain ⟨hm, hs⟩ := hlast rfl
        refine ⟨t1, ?_, hm, hs, hq1⟩
        simp [pullN, hp, pullN_idle n t1 hm (by rw [hq1]; exact hq)]
      · obtain ⟨t', hp', hm', hs', hq'⟩ := ih n t1 (hmore e) (by rw [hq1]; exact hq) (by simpa using hn)
        refine ⟨t', ?_, hm', hs', by rw [hq', hq1]⟩
        simp [pullN, hp, hp']

/-- the transmitter after `sercomm_init` and one `sercomm_sendmsg` -/
def txOne (nq : Nat) (m : Msg) : Tx :=
  { queues := (List.replicate nq []).modify m.dlci (· ++ [txBody m]), msg := none, state := .waitStart }

/-! ### the octet stream of the abstract link is a sequence of frames -/

/-- the wire is the frames that passed, followed by the part of the current frame already sent -/
def WireInv (s : Link) : Prop :=
  ∃ part, s.wire = s.completed.flatMap frame ++ part ∧
    match s.cur with
    | none => part = []
    | some (m, todo) => part ++ todo = frame m ∧ todo ≠ []

theorem wireInv_octet (cap : Nat) (s : Link) (h : WireInv s) : WireInv (s.octet cap) := by
  obtain ⟨part, hw, hc⟩ := h
  refine octet_cases cap s (P := WireInv) (fun _ => ⟨part, hw, hc⟩) ?_ ?_ ?_
  · intro m rest hcur _
    rw [hcur] at hc
    subst hc
    exact ⟨[0x7E], by simp [hw], rfl, List.append_ne_nil_of_right_ne_nil _ (List.cons_ne_nil _ _)⟩
  · intro m ch rest hcur hr
    rw [hcur] at hc
    exact ⟨part ++ [ch], by simp [hw], by simpa using hc.1, hr⟩
  · intro m ch hcur
    rw [hcur] at hc
    exact ⟨[], by simp [hw, ← hc.1], rfl⟩

end OsmoVerif.Sercomm
