/-
Lemmas for the Synchronisation-Burst decoders (C19, part "sch").

Shifts and masks become div/mod once (`and_mask`, `or_eq_add`); from there on the decoders are the four div/mod
expressions `fBsic`, `fT1`, `fT2`, `fT3p` of the word.  A word is a number in mixed radix whose digits are the seven parts
of figure 9.1.30.1 (`word_split`, `digit_unique`); the 25-entry table is seven runs of consecutive bits (`run`).
-/
import OsmoVerif.Model.SchDecode
import OsmoVerif.Spec.SchCoding
import OsmoVerif.Lemmas.GsmTime

namespace OsmoVerif.SchDecode
open OsmoVerif.GsmTime OsmoVerif.Spec.SchCoding

/-! ### masks and shifts -/

/-- A mask of `k` ones from bit `o` cuts out the bit field `x / 2^o % 2^k` and leaves it in place. -/
theorem and_mask (x k o : Nat) : x &&& (2 ^ o * (2 ^ k - 1)) = 2 ^ o * (x / 2 ^ o % 2 ^ k) := by
  have hd : (x &&& (2 ^ o * (2 ^ k - 1))) / 2 ^ o = x / 2 ^ o % 2 ^ k := by
    rw [Nat.and_div_two_pow, Nat.mul_div_cancel_left _ (Nat.two_pow_pos o), Nat.and_two_pow_sub_one_eq_mod]
  have hm : (x &&& (2 ^ o * (2 ^ k - 1))) % 2 ^ o = 0 := by
    rw [Nat.and_mod_two_pow, Nat.mul_mod_right, Nat.and_zero]
  rw [← hd, Nat.mul_div_cancel' (Nat.dvd_of_mod_eq_zero hm)]

/-- Bit ranges that do not overlap: `|` is `+`. -/
theorem or_eq_add (b a i : Nat) (hb : b < 2 ^ i) (ha : a % 2 ^ i = 0) : b ||| a = b + a := by
  rw [← Nat.div_mul_cancel (Nat.dvd_of_mod_eq_zero ha), Nat.or_comm, ← Nat.shiftLeft_eq,
    ← Nat.shiftLeft_add_eq_or_of_lt hb, Nat.add_comm]

/-! ### the fields as div/mod expressions of the word -/

def fBsic (sb : Nat) : Nat := sb / 4 % 64
def fT1 (sb : Nat) : Nat := sb / 8388608 % 2 + 2 * (sb / 256 % 256) + 512 * (sb % 4)
def fT2 (sb : Nat) : Nat := sb / 262144 % 32
def fT3p (sb : Nat) : Nat := sb / 16777216 % 2 + 2 * (sb / 65536 % 4)

theorem fBsic_lt (sb : Nat) : fBsic sb < 64 := Nat.mod_lt _ (by decide)
theorem fT1_lt (sb : Nat) : fT1 sb < 2048 := by simp only [fT1]; omega
theorem fT2_lt (sb : Nat) : fT2 sb < 32 := Nat.mod_lt _ (by decide)
theorem fT3p_lt (sb : Nat) : fT3p sb < 8 := by simp only [fT3p]; omega

theorem bsic_nf (sb : Nat) : (sb >>> 2) &&& 0x3f = fBsic sb := by
  rw [Nat.shiftRight_eq_div_pow]; exact Nat.and_two_pow_sub_one_eq_mod _ 6
theorem t2_nf (sb : Nat) : (sb >>> 18) &&& 0x1f = fT2 sb := by
  rw [Nat.shiftRight_eq_div_pow]; exact Nat.and_two_pow_sub_one_eq_mod _ 5
theorem t3p_nf (sb : Nat) : ((sb >>> 24) &&& 1) ||| ((sb >>> 15) &&& 6) = fT3p sb := by
  rw [Nat.shiftRight_eq_div_pow, Nat.shiftRight_eq_div_pow, Nat.and_two_pow_sub_one_eq_mod _ 1, and_mask _ 2 1,
    or_eq_add _ _ 1 (Nat.mod_lt _ (by decide)) (Nat.mul_mod_right ..), Nat.div_div_eq_div_mul]
  rfl
/-- incl. the `uint32_t` wrap of `sb << 9`: the two bits kept by `& 0x600` are below bit 32 -/
theorem t1_nf (sb : Nat) :
    ((sb >>> 23) &&& 1) ||| ((sb >>> 7) &&& 0x1fe) ||| ((shlU32 sb 9) &&& 0x600) = fT1 sb := by
  have hi : shlU32 sb 9 / 2 ^ 9 % 2 ^ 2 = sb % 4 := by
    rw [shlU32, u32, Nat.shiftLeft_eq, Nat.mul_comm, show 4294967296 = 2 ^ 9 * (2 ^ 2 * 2097152) from rfl,
      Nat.mod_mul_right_div_self, Nat.mul_div_cancel_left _ (by decide), Nat.mod_mul_right_mod]
  rw [Nat.shiftRight_eq_div_pow, Nat.shiftRight_eq_div_pow, Nat.and_two_pow_sub_one_eq_mod _ 1, and_mask _ 8 1,
    and_mask _ 2 9, or_eq_add _ _ 1 (Nat.mod_lt _ (by decide)) (Nat.mul_mod_right ..), Nat.div_div_eq_div_mul, hi]
  exact or_eq_add _ _ 9 (by omega) (Nat.mul_mod_right ..)

theorem mod_div_mod (w a b c : Nat) : w % (a * (b * c)) / a % b = w / a % b := by
  rw [Nat.mod_mul_right_div_self, Nat.mod_mul_right_mod]

/-- bits 25 and up of the word take no part -/
theorem fields_mod (sb : Nat) :
    fBsic (sb % 33554432) = fBsic sb ∧ fT1 (sb % 33554432) = fT1 sb ∧ fT2 (sb % 33554432) = fT2 sb
      ∧ fT3p (sb % 33554432) = fT3p sb := by
  have e1 := mod_div_mod sb 4 64 131072
  have e2 := mod_div_mod sb 8388608 2 2
  have e3 := mod_div_mod sb 256 256 512
  have e4 : sb % 33554432 % 4 = sb % 4 := Nat.mod_mod_of_dvd sb (by decide)
  have e5 := mod_div_mod sb 262144 32 4
  have e6 := mod_div_mod sb 16777216 2 1
  have e7 := mod_div_mod sb 65536 4 128
  simp only [Nat.reduceMul] at e1 e2 e3 e5 e6 e7
  simp only [fBsic, fT1, fT2, fT3p, e1, e2, e3, e4, e5, e6, e7, and_self]

theorem fields_mod32 (sb : Nat) :
    fBsic (sb % 4294967296) = fBsic sb ∧ fT1 (sb % 4294967296) = fT1 sb ∧ fT2 (sb % 4294967296) = fT2 sb
      ∧ fT3p (sb % 4294967296) = fT3p sb := by
  obtain ⟨a0, a1, a2, a3⟩ := fields_mod (sb % 4294967296)
  obtain ⟨b0, b1, b2, b3⟩ := fields_mod sb
  rw [Nat.mod_mod_of_dvd sb (by decide)] at a0 a1 a2 a3
  exact ⟨a0.symm.trans b0, a1.symm.trans b1, a2.symm.trans b2, a3.symm.trans b3⟩

/-! ### gsm_gsmtime2fn on the decoded fields -/

/-- `gsm_gsmtime2fn` reads `t1`, `t2`, `t3` only -/
def fnOf (t1 t2 t3 : Nat) : Nat := cGsmTime2Fn ⟨0, t1, t2, t3, 0⟩
theorem cGsmTime2Fn_eq (t : GsmTime) : cGsmTime2Fn t = fnOf t.t1 t.t2 t.t3 := rfl

/-- the value of `51 * ((t3 - t2 + 26) % 26) + t3 + 26 * 51 * t1` in `int`, before the conversion to `uint32_t` -/
def recompInt (t1 t2 t3 : Nat) : Int :=
  51 * (Int.ofNat t3 - Int.ofNat t2 + 26).tmod 26 + Int.ofNat t3 + 26 * 51 * Int.ofNat t1
theorem fnOf_eq (t1 t2 t3 : Nat) : fnOf t1 t2 t3 = (recompInt t1 t2 t3 % 4294967296).toNat := rfl

theorem recompInt_nonneg (t1 t2 t3 : Nat) (h : t2 ≤ t3 + 26) :
    recompInt t1 t2 t3 = ((51 * ((t3 + 26 - t2) % 26) + t3 + 1326 * t1 : Nat) : Int) := by
  simp only [recompInt]
  rw [tmod_nat _ _ h]
  simp only [Int.ofNat_eq_natCast]
  omega

/-- C remainder of a negative operand: `(t3 - t2 + 26) % 26 = -((t2 - t3 - 26) % 26)` -/
theorem recompInt_neg (t1 t2 t3 : Nat) (h : t3 + 26 < t2) (h2 : t2 < t3 + 52) :
    recompInt t1 t2 t3 = (1326 * t1 + t3 : Nat) - ((51 * (t2 - t3 - 26) : Nat) : Int) := by
  simp only [recompInt]
  have e : (Int.ofNat t3 - Int.ofNat t2 + 26) = - ((t2 - t3 - 26 : Nat) : Int) := by
    simp only [Int.ofNat_eq_natCast]; omega
  rw [e, Int.neg_tmod, Int.tmod_eq_emod_of_nonneg (by omega)]
  simp only [Int.ofNat_eq_natCast]
  omega

theorem fnOf_nonneg (t1 t2 t3 : Nat) (h : t2 ≤ t3 + 26) (hb : t1 < 2048) (h3 : t3 < 256) :
    fnOf t1 t2 t3 = 51 * ((t3 + 26 - t2) % 26) + t3 + 1326 * t1 :=
  cGsmTime2Fn_of_le 0 t1 t2 t3 0 h (by omega) h3

/-- The `int` recomposition is negative only through the C remainder of a negative operand ... -/
theorem recompInt_neg_iff (t1 t2 t3 : Nat) (h2 : t2 < t3 + 52) :
    recompInt t1 t2 t3 < 0 ↔ t3 + 26 < t2 ∧ 1326 * t1 + t3 < 51 * (t2 - t3 - 26) := by
  by_cases c : t2 ≤ t3 + 26
  · rw [recompInt_nonneg _ _ _ c]; omega
  · rw [recompInt_neg _ _ _ (by omega) h2]; omega

/-- ... and `gsm_gsmtime2fn` then returns it plus 2^32. -/
theorem fnOf_neg (t1 t2 t3 : Nat) (h : t3 + 26 < t2) (h2 : t2 < t3 + 52) (hn : 1326 * t1 + t3 < 51 * (t2 - t3 - 26)) :
    fnOf t1 t2 t3 + (51 * (t2 - t3 - 26) - (1326 * t1 + t3)) = 4294967296 := by
  rw [fnOf_eq, recompInt_neg _ _ _ h h2]
  omega

/-! ### normal forms of the two decoders -/

/-- what both decoders compute from the word, stores without wrap -/
def nfTime (s : Nat) : GsmTime :=
  let t3 := 10 * fT3p s + 1
  let fn := fnOf (fT1 s) (fT2 s) t3
  ⟨fn, fT1 s, fT2 s, t3, fn / 51 % 8⟩

/-- no store of a decoder wraps: BSIC ≤ 63, T2 ≤ 31, T3' ≤ 7, T3 ≤ 71 in `uint8_t`, T1 ≤ 2047 in `uint16_t` -/
theorem store_bsic (sb : Nat) : u8 (fBsic sb) = fBsic sb := u8_of_lt (Nat.lt_trans (fBsic_lt sb) (by decide))
theorem store_t1 (sb : Nat) : u16 (fT1 sb) = fT1 sb := u16_of_lt (Nat.lt_trans (fT1_lt sb) (by decide))
theorem store_t2 (sb : Nat) : u8 (fT2 sb) = fT2 sb := u8_of_lt (Nat.lt_trans (fT2_lt sb) (by decide))
theorem store_t3p (sb : Nat) : u8 (fT3p sb) = fT3p sb := u8_of_lt (Nat.lt_trans (fT3p_lt sb) (by decide))
theorem store_t3 (sb : Nat) : u8 (fT3p sb * 10 + 1) = 10 * fT3p sb + 1 := by
  have := fT3p_lt sb
  rw [u8_of_lt (by omega), Nat.mul_comm]

theorem fw_nf (sb : Nat) : fwDecodeSb sb = ⟨fBsic sb, nfTime sb⟩ := by
  obtain ⟨m0, m1, m2, m3⟩ := fields_mod32 sb
  have tc : ∀ x : Nat, u8 (x / 51 % 8) = x / 51 % 8 := fun x =>
    u8_of_lt (Nat.lt_trans (Nat.mod_lt _ (by decide)) (by decide))
  simp only [fwDecodeSb, nfTime, zeroTime, bsic_nf, t1_nf, t2_nf, t3p_nf, cGsmTime2Fn_eq, u32, m0, m1, m2, m3,
    store_bsic, store_t1, store_t2, store_t3p, store_t3, tc]

/-- the assembly of the word from the four octets: no `int` shift overflows, `|` is `+` -/
theorem trxAssemble_eq (o0 o1 o2 o3 : Nat) (h0 : o0 < 256) (h1 : o1 < 256) (h2 : o2 < 256) (h3 : o3 < 256) :
    trxAssemble o0 o1 o2 o3 = .ok (o0 + 256 * o1 + 65536 * o2 + 16777216 * o3) := by
  have e3 : shlU32 (u32 o3) 24 = 16777216 * o3 := by
    rw [u32_of_lt (by omega), shlU32, Nat.shiftLeft_eq, Nat.mul_comm]; exact u32_of_lt (by omega)
  have e2 : shlInt o2 16 = .ok (65536 * o2) := by
    rw [shlInt, Nat.shiftLeft_eq, Nat.mul_comm]; exact if_pos (by omega)
  have e1 : shlInt o1 8 = .ok (256 * o1) := by
    rw [shlInt, Nat.shiftLeft_eq, Nat.mul_comm]; exact if_pos (by omega)
  simp only [trxAssemble, e3, e2, e1, bind, Except.bind, pure, Except.pure]
  -- ((o3<<24 | o2<<16) | o1<<8) | o0, innermost first
  rw [u32_of_lt (by omega : 65536 * o2 < _), u32_of_lt (by omega : 256 * o1 < _), u32_of_lt (by omega : o0 < _),
    Nat.or_comm (16777216 * o3), or_eq_add (65536 * o2) (16777216 * o3) 24 (by omega) (by omega),
    Nat.or_comm _ (256 * o1), or_eq_add (256 * o1) (65536 * o2 + 16777216 * o3) 16 (by omega) (by omega),
    Nat.or_comm _ o0, or_eq_add o0 (256 * o1 + (65536 * o2 + 16777216 * o3)) 8 h0 (by omega), u32_of_lt (by omega)]
  simp only [Nat.add_assoc]

theorem trx_nf (t : GsmTime) (o0 o1 o2 o3 : Nat) (h0 : o0 < 256) (h1 : o1 < 256) (h2 : o2 < 256) (h3 : o3 < 256) :
    trxDecodeSb t o0 o1 o2 o3 =
      .ok ⟨fBsic (o0 + 256 * o1 + 65536 * o2 + 16777216 * o3),
           { nfTime (o0 + 256 * o1 + 65536 * o2 + 16777216 * o3) with tc := t.tc }⟩ := by
  simp only [trxDecodeSb, trxAssemble_eq o0 o1 o2 o3 h0 h1 h2 h3, bind, Except.bind, pure, Except.pure,
    nfTime, bsic_nf, t1_nf, t2_nf, t3p_nf, cGsmTime2Fn_eq, store_bsic, store_t1, store_t2, store_t3p, store_t3]

/-! ### the word as a number in mixed radix -/

/-- A digit below its radix and the digits above it are determined by the number. -/
theorem digit_unique {d d' r t t' : Nat} (h : d < r) (h' : d' < r) (e : d + r * t = d' + r * t') :
    d = d' ∧ t = t' := by
  have hm := congrArg (· % r) e
  have hd := congrArg (· / r) e
  simp only [Nat.add_mul_mod_self_left, Nat.mod_eq_of_lt h, Nat.mod_eq_of_lt h',
    Nat.add_mul_div_left _ _ (Nat.zero_lt_of_lt h), Nat.div_eq_of_lt h, Nat.div_eq_of_lt h', Nat.zero_add] at hm hd
  exact ⟨hm, hd⟩

/-- Every word consists of the seven parts the fields are read from, and of what is above bit 24. -/
theorem word_split (w : Nat) :
    w = w % 4 + 4 * (w / 4 % 64 + 64 * (w / 256 % 256 + 256 * (w / 65536 % 4 + 4 * (w / 262144 % 32
      + 32 * (w / 8388608 % 2 + 2 * (w / 16777216 % 2 + 2 * (w / 33554432))))))) := by
  have h : w = w % 4 + 4 * (w / 4 % 64 + 64 * (w / 4 / 64 % 256 + 256 * (w / 4 / 64 / 256 % 4
      + 4 * (w / 4 / 64 / 256 / 4 % 32 + 32 * (w / 4 / 64 / 256 / 4 / 32 % 2
      + 2 * (w / 4 / 64 / 256 / 4 / 32 / 2 % 2 + 2 * (w / 4 / 64 / 256 / 4 / 32 / 2 / 2))))))) := by
    simp only [Nat.mod_add_div]
  simpa only [Nat.div_div_eq_div_mul, Nat.reduceMul] using h

/-- Conversely a word put together from seven parts (T1 high, BSIC, T1 middle, T3' high, T2, T1 low, T3' low) and anything
above bit 24 gives them back. -/
theorem word_parts (a b m ph t2 l pl g : Nat) (ha : a < 4) (hb : b < 64) (hm : m < 256) (hph : ph < 4) (h2 : t2 < 32)
    (hl : l < 2) (hpl : pl < 2) (w : Nat)
    (hw : w = a + 4 * (b + 64 * (m + 256 * (ph + 4 * (t2 + 32 * (l + 2 * (pl + 2 * g))))))) :
    fBsic w = b ∧ fT1 w = l + 2 * m + 512 * a ∧ fT2 w = t2 ∧ fT3p w = pl + 2 * ph ∧ w / 33554432 = g := by
  have e := (word_split w).symm.trans hw
  obtain ⟨e0, e⟩ := digit_unique (Nat.mod_lt _ (by decide)) ha e
  obtain ⟨e1, e⟩ := digit_unique (Nat.mod_lt _ (by decide)) hb e
  obtain ⟨e2, e⟩ := digit_unique (Nat.mod_lt _ (by decide)) hm e
  obtain ⟨e3, e⟩ := digit_unique (Nat.mod_lt _ (by decide)) hph e
  obtain ⟨e4, e⟩ := digit_unique (Nat.mod_lt _ (by decide)) h2 e
  obtain ⟨e5, e⟩ := digit_unique (Nat.mod_lt _ (by decide)) hl e
  obtain ⟨e6, e7⟩ := digit_unique (Nat.mod_lt _ (by decide)) hpl e
  simp only [fBsic, fT1, fT2, fT3p, e0, e1, e2, e3, e4, e5, e6, e7, and_self]

/-! ### figure 9.1.30.1 and the fields -/

/-- The octets of the figure in the mixed radix of `word_split`, with anything `g` above bit 24. -/
theorem encodeFields_parts (f : Fields) (g : Nat) : encodeFields f + 33554432 * g =
    f.t1 / 512 + 4 * (f.bsic + 64 * (f.t1 / 2 % 256 + 256 * (f.t3p / 2 + 4 * (f.t2 + 32 * (f.t1 % 2
      + 2 * (f.t3p % 2 + 2 * g)))))) := by
  simp only [encodeFields, octets, wordOfOctets, Nat.mul_zero, Nat.add_zero,
    Nat.mul_add, ← Nat.mul_assoc, Nat.reduceMul]
  omega

theorem t1_parts (t1 : Nat) : t1 % 2 + 2 * (t1 / 2 % 256) + 512 * (t1 / 512) = t1 := by omega
theorem t3p_parts (x : Nat) : x % 2 + 2 * (x / 2) = x := Nat.mod_add_div x 2

/-- the fields of the word of `Spec.SchCoding.octets f` (+ any garbage above bit 24) are `f` -/
theorem fields_of_encode (f : Fields) (h : f.InWidth) (g : Nat) :
    fBsic (encodeFields f + 33554432 * g) = f.bsic ∧ fT1 (encodeFields f + 33554432 * g) = f.t1
      ∧ fT2 (encodeFields f + 33554432 * g) = f.t2 ∧ fT3p (encodeFields f + 33554432 * g) = f.t3p
      ∧ (encodeFields f + 33554432 * g) / 33554432 = g := by
  obtain ⟨h0, h1, h2, h3⟩ := h
  have p := word_parts (f.t1 / 512) f.bsic (f.t1 / 2 % 256) (f.t3p / 2) f.t2 (f.t1 % 2) (f.t3p % 2) g
    (Nat.div_lt_of_lt_mul h1) h0 (Nat.mod_lt _ (by decide)) (Nat.div_lt_of_lt_mul h3) h2 (Nat.mod_lt _ (by decide))
    (Nat.mod_lt _ (by decide)) _ (encodeFields_parts f g)
  rwa [t1_parts, t3p_parts] at p

theorem encodeFields_lt (f : Fields) (h : f.InWidth) : encodeFields f < 33554432 :=
  Nat.lt_of_div_eq_zero (by decide) (fields_of_encode f h 0).2.2.2.2

theorem t1_split (l m a : Nat) (hl : l < 2) (hm : m < 256) :
    (l + 2 * m + 512 * a) / 512 = a ∧ (l + 2 * m + 512 * a) / 2 % 256 = m ∧ (l + 2 * m + 512 * a) % 2 = l := by
  refine ⟨?_, ?_, ?_⟩ <;> omega
theorem t3p_split (l h : Nat) (hl : l < 2) : (l + 2 * h) / 2 = h ∧ (l + 2 * h) % 2 = l := by
  refine ⟨?_, ?_⟩ <;> omega

/-- a 25-bit word is the encoding of the fields read from it -/
theorem encode_of_fields (sb : Nat) (h : sb < 33554432) :
    encodeFields ⟨fBsic sb, fT1 sb, fT2 sb, fT3p sb⟩ = sb := by
  have e := encodeFields_parts ⟨fBsic sb, fT1 sb, fT2 sb, fT3p sb⟩ 0
  obtain ⟨a1, a2, a3⟩ := t1_split (sb / 8388608 % 2) (sb / 256 % 256) (sb % 4) (Nat.mod_lt _ (by decide))
    (Nat.mod_lt _ (by decide))
  obtain ⟨c1, c2⟩ := t3p_split (sb / 16777216 % 2) (sb / 65536 % 4) (Nat.mod_lt _ (by decide))
  have s := word_split sb
  rw [Nat.div_eq_of_lt h] at s
  simp only [fBsic, fT1, fT2, fT3p, a1, a2, a3, c1, c2] at e
  exact e.trans s.symm

/-! ### the spec's table and frame predicate -/

/-- `n` consecutive bits of field `fld`, from bit `b` upwards -/
def run (fld b : Nat) : Nat → List (Nat × Nat)
  | 0 => []
  | n + 1 => (fld, b) :: run fld (b + 1) n

/-- the table is seven runs: T1 high, BSIC, T1 middle, T3' high, T2, T1 low, T3' low -/
theorem layout_runs : layout =
    run 1 9 2 ++ (run 0 0 6 ++ (run 1 1 8 ++ (run 3 1 2 ++ (run 2 0 5 ++ (run 1 0 1 ++ (run 3 0 1 ++ [])))))) := rfl

/-- a run of the table carries the bit field `x / 2^b % 2^n` of its field to position `k` ... -/
theorem encode_run (f : Fields) (fld b n k : Nat) (rest : List (Nat × Nat)) :
    encodeByLayout.go f (run fld b n ++ rest) k
      = 2 ^ k * (f.get fld / 2 ^ b % 2 ^ n) + encodeByLayout.go f rest (k + n) := by
  induction n generalizing b k with
  | zero => simp only [run, List.nil_append, Nat.pow_zero, Nat.mod_one, Nat.mul_zero, Nat.zero_add, Nat.add_zero]
  | succ n ih =>
    rw [run, List.cons_append, encodeByLayout.go, ih, Nat.pow_succ 2 n, Nat.mul_comm (2 ^ n) 2,
      Nat.mod_mul, Nat.pow_succ 2 b, Nat.div_div_eq_div_mul, Nat.pow_succ 2 k, Nat.mul_add, Nat.add_assoc k 1 n,
      Nat.add_comm 1 n, Nat.mul_comm _ (2 ^ k), Nat.mul_assoc, Nat.add_assoc]

/-- For every `f`, in width or not: the table encodes each field truncated to its width. -/
theorem encodeByLayout_eq (f : Fields) :
    encodeByLayout f = f.t1 / 512 % 4 + (4 * (f.bsic % 64) + (256 * (f.t1 / 2 % 256)
      + (65536 * (f.t3p / 2 % 4) + (262144 * (f.t2 % 32) + (8388608 * (f.t1 % 2) + 16777216 * (f.t3p % 2)))))) := by
  rw [encodeByLayout, layout_runs]
  simp only [encode_run, encodeByLayout.go, Fields.get, Nat.reducePow, Nat.reduceAdd,
    Nat.div_one, Nat.one_mul, Nat.add_zero]

/-- what `decodeByLayout.go` does with one table entry -/
def addTo (f : Fields) (fld v : Nat) : Fields :=
  match fld with
  | 0 => { f with bsic := f.bsic + v }
  | 1 => { f with t1 := f.t1 + v }
  | 2 => { f with t2 := f.t2 + v }
  | _ => { f with t3p := f.t3p + v }

theorem addTo_addTo (f : Fields) (fld v v' : Nat) :
    addTo (addTo f fld v) fld v' = addTo f fld (v + v') := by
  unfold addTo
  split <;> simp only [Nat.add_assoc]

/-- ... and back: the bit field `w / 2^k % 2^n` of the word goes to bit `b` of the field. -/
theorem decode_run (w fld b n k : Nat) (rest : List (Nat × Nat)) (f : Fields) :
    decodeByLayout.go w (run fld b n ++ rest) k f
      = decodeByLayout.go w rest (k + n) (addTo f fld (2 ^ b * (w / 2 ^ k % 2 ^ n))) := by
  induction n generalizing b k f with
  | zero =>
    have : addTo f fld 0 = f := by unfold addTo; split <;> rfl
    simp only [run, List.nil_append, Nat.pow_zero, Nat.mod_one, Nat.mul_zero, Nat.add_zero, this]
  | succ n ih =>
    have step : ∀ rest, decodeByLayout.go w ((fld, b) :: rest) k f
        = decodeByLayout.go w rest (k + 1) (addTo f fld (w / 2 ^ k % 2 * 2 ^ b)) := fun _ => rfl
    rw [run, List.cons_append, step, ih, addTo_addTo, Nat.pow_succ 2 n, Nat.mul_comm (2 ^ n) 2, Nat.mod_mul,
      Nat.pow_succ 2 k, Nat.div_div_eq_div_mul, Nat.pow_succ 2 b, Nat.mul_add, Nat.add_assoc k 1 n, Nat.add_comm 1 n,
      Nat.mul_comm _ (2 ^ b), Nat.mul_assoc]

/-- Reading the table backwards (for every word: only its bits 0..24 are read) gives the fields of the decoders. -/
theorem decodeByLayout_eq (w : Nat) : decodeByLayout w = ⟨fBsic w, fT1 w, fT2 w, fT3p w⟩ := by
  rw [decodeByLayout, layout_runs]
  simp only [decode_run, decodeByLayout.go, addTo, fBsic, fT1, fT2, fT3p, Nat.reducePow, Nat.reduceAdd,
    Nat.div_one, Nat.zero_add, Nat.one_mul, Fields.mk.injEq, true_and]
  exact ⟨by omega, by omega⟩

theorem isSchFrame_iff (fn : Nat) :
    isSchFrame fn = true ↔ (fn % 51 = 1 ∨ fn % 51 = 11 ∨ fn % 51 = 21 ∨ fn % 51 = 31 ∨ fn % 51 = 41) := by
  simp only [isSchFrame, Bool.or_eq_true, beq_iff_eq, or_assoc]

theorem rfn?_eq_some (bsic fn : Nat) (f : Fields) :
    rfn? bsic fn = some f ↔
      (bsic < 64 ∧ fn < 2715648 ∧ isSchFrame fn = true) ∧ ⟨bsic, fn / 1326, fn % 26, (fn % 51 - 1) / 10⟩ = f := by
  unfold rfn?
  split
  · next c => simp only [Option.some.injEq, iff_and_self]; exact fun _ => c
  · next c => simp only [reduceCtorEq, false_iff, not_and]; exact fun c' => absurd c' c

theorem encodeSb_eq_some (bsic fn w : Nat) :
    encodeSb bsic fn = some w ↔ (bsic < 64 ∧ fn < 2715648 ∧ isSchFrame fn = true) ∧
      encodeFields ⟨bsic, fn / 1326, fn % 26, (fn % 51 - 1) / 10⟩ = w := by
  simp only [encodeSb, Option.map_eq_some_iff, rfn?_eq_some]
  exact ⟨fun ⟨_, ⟨c, e⟩, h⟩ => ⟨c, e ▸ h⟩, fun ⟨c, h⟩ => ⟨_, ⟨c, rfl⟩, h⟩⟩

/-- On an SCH frame of the hyperframe T3 = 10·T3' + 1, and the reduced frame number is in the standard's ranges. -/
theorem rfn_valid (bsic fn : Nat) (hb : bsic < 64) (hf : fn < 2715648) (hs : isSchFrame fn = true) :
    10 * ((fn % 51 - 1) / 10) + 1 = fn % 51 ∧
      Fields.Valid ⟨bsic, fn / 1326, fn % 26, (fn % 51 - 1) / 10⟩ := by
  have hs' := (isSchFrame_iff fn).1 hs
  exact ⟨by omega, hb, Nat.div_lt_of_lt_mul hf, Nat.mod_lt _ (by decide), (by omega : (fn % 51 - 1) / 10 < 5)⟩

theorem _root_.OsmoVerif.Spec.SchCoding.Fields.Valid.inWidth {f : Fields} (h : f.Valid) : f.InWidth :=
  ⟨h.1, h.2.1, Nat.lt_trans h.2.2.1 (by decide), Nat.lt_trans h.2.2.2 (by decide)⟩

end OsmoVerif.SchDecode
