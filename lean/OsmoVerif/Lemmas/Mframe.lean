/-
C11: statement-level predicates that connect the two models through the Spec table,
the Boolean checkers that the kernel evaluates over the regenerated tables (they walk
the tables once instead of indexing them, which keeps kernel evaluation fast), what a
passed check says of a single row or frame number, and, at the end, the evaluations.
-/
import OsmoVerif.Model.Mframe
import OsmoVerif.Spec.Mframe

namespace OsmoVerif.Mframe
open OsmoVerif.Gen OsmoVerif.Gen.FwMframe OsmoVerif.Gen.TrxconMframe OsmoVerif.Spec.Mframe

/-! ## predicates -/

/-- channel and burst id a frame gives to a direction -/
def chanOf (d : Dir) (f : Frame) : Lchan × Nat :=
  match d with
  | .dl => (f.dlChan, f.dlBid)
  | .ul => (f.ulChan, f.ulBid)

/-- row carries `MF_F_SACCH` -/
def isSacch (it : Item) : Bool := it.flags &&& MF_F_SACCH != 0

/-- rows of a task table that serve direction `d` and have SACCH flag `s` -/
def selItems (items : List Item) (d : Dir) (s : Bool) : List Item :=
  items.filter fun it => decide (d ∈ setDirs it.set) && (isSacch it == s)

/-- firmware: at tick `fn` some row of `items` that serves direction `d` and has
    SACCH flag `s` triggers (`mframe_schedule_set` calls `tdma_schedule_set` for it) -/
def fwMarks (items : List Item) (d : Dir) (s : Bool) (fn : Nat) : Bool :=
  (selItems items d s).any fun it => fires it fn

/-- what a frame must show for channel `lc`: it is given to `lc` (`Kind.perFrame`),
    resp. it is the first burst (bid 0) of a block of `lc` (`Kind.block`) -/
def frameMarks (d : Dir) (k : Kind) (lc : Option Lchan) (fr : Frame) : Bool :=
  match lc with
  | none => false
  | some c => (chanOf d fr).1 == c && (k == .perFrame || (chanOf d fr).2 == 0)

/-- trxcon: `frameMarks` of the frame looked up for frame number `f`; `none` if the
    lookup leaves defined behaviour -/
def layoutMarks (L : Layout) (d : Dir) (k : Kind) (lc : Option Lchan) (f : Nat) : Option Bool :=
  match lookup L f with
  | .error _ => none
  | .ok fr => some (frameMarks d k lc fr)

/-- both stacks agree at tick `fn` (air frame `airFrame fn`) on entry `e`, direction `d`:
    for the main channel and for the SACCH (no SACCH in the Spec: the firmware schedules none) -/
def agreeAt (items : List Item) (L : Layout) (e : Entry) (d : Dir) (fn : Nat) : Bool :=
  layoutMarks L d e.kind (some e.main) (airFrame fn) == some (fwMarks items d false fn) &&
  layoutMarks L d e.kind e.sacch (airFrame fn) == some (fwMarks items d true fn)

/-- … for all frame numbers -/
def EntryAgrees (e : Entry) : Prop :=
  ∃ items, tableOf e.task = some items ∧
    ∀ tn ∈ e.tns, ∃ L, layoutFor e.config tn = some L ∧
      ∀ d ∈ e.dirs, ∀ fn, fn + SCHEDULE_AHEAD < 4294967296 → agreeAt items L e d fn = true

/-! ## comparisons for the checkers

For the kernel `Nat.beq` on two literals is one step, while `==` through a `DecidableEq`
instance (derived for `Lchan`, `Nat.decEq` for numbers) is many; the checkers below are
evaluated over thousands of rows, so they compare through `Nat.beq`. -/

theorem natBeq_eq (a b : Nat) : Nat.beq a b = (a == b) := by
  cases h : Nat.beq a b
  · exact (beq_eq_false_iff_ne.2 (Nat.ne_of_beq_eq_false h)).symm
  · exact (beq_iff_eq.2 (Nat.eq_of_beq_eq_true h)).symm

def sameChan (a b : Lchan) : Bool := Nat.beq a.ctorIdx b.ctorIdx

theorem sameChan_eq (a b : Lchan) : sameChan a b = (a == b) := by
  rw [sameChan, natBeq_eq]
  apply Bool.eq_iff_iff.2
  rw [beq_iff_eq, beq_iff_eq]
  exact ⟨fun h => by rw [← Lchan.ofNat_ctorIdx a, h, Lchan.ofNat_ctorIdx], fun h => h ▸ rfl⟩

theorem sameChan_iff {a b : Lchan} : sameChan a b = true ↔ a = b := by
  rw [sameChan_eq, beq_iff_eq]

/-! ## the frame lookup -/

theorem lookup_congr (L : Layout) (f g : Nat) (h : f % L.period = g % L.period) :
    lookup L f = lookup L g := by
  simp only [lookup, h]

theorem lookup_mod (L : Layout) (f : Nat) : lookup L (f % L.period) = lookup L f :=
  lookup_congr L _ _ (Nat.mod_mod _ _)

theorem lookup_mem {L : Layout} {fn : Nat} {f : Frame} (h : lookup L fn = .ok f) :
    ∃ fr, L.frames = some fr ∧ f ∈ fr := by
  unfold lookup at h
  split at h
  · cases h
  · split at h
    · cases h
    · rename_i fr hfr
      split at h
      · rename_i g hg
        cases h
        exact ⟨fr, hfr, List.mem_of_getElem? hg⟩
      · cases h

theorem lookup_ok (L : Layout) (fr : List Frame) (hf : L.frames = some fr) (hp : L.period ≠ 0)
    (hl : fr.length = L.period) (f : Nat) :
    lookup L f = .ok (fr[f % L.period]'(by rw [hl]; exact Nat.mod_lt _ (Nat.pos_of_ne_zero hp))) := by
  have hlt : f % L.period < fr.length := by rw [hl]; exact Nat.mod_lt _ (Nat.pos_of_ne_zero hp)
  simp only [lookup, hp, if_false, hf, List.getElem?_eq_getElem hlt]

/-- a layout whose lookups are total: positive period, a table, exactly `period` rows -/
def tableOk (L : Layout) : Bool :=
  match L.frames with
  | none => false
  | some fr => L.period != 0 && fr.length == L.period

theorem tableOk_lookup {L : Layout} (h : tableOk L = true) :
    0 < L.period ∧ ∃ fr, L.frames = some fr ∧ fr.length = L.period ∧
      ∀ fn, ∃ hlt : fn % L.period < fr.length, lookup L fn = .ok fr[fn % L.period] := by
  unfold tableOk at h
  split at h
  · exact absurd h (by decide)
  · rename_i fr hfr
    simp only [Bool.and_eq_true, bne_iff_ne, ne_eq, beq_iff_eq] at h
    have hl := h.2
    refine ⟨Nat.pos_of_ne_zero h.1, fr, hfr, hl, fun fn => ?_⟩
    have hlt : fn % L.period < fr.length := by rw [hl]; exact Nat.mod_lt _ (Nat.pos_of_ne_zero h.1)
    exact ⟨hlt, lookup_ok L fr hfr h.1 hl fn⟩

theorem frames_unique (L : Layout) (fr fs : List Frame) (hf : L.frames = some fr)
    (hp : L.period ≠ 0) (hl : fr.length = L.period) (hs : fs.length = L.period)
    (hlk : ∀ r (h : r < fs.length), lookup L r = .ok fs[r]) : fs = fr := by
  apply List.ext_getElem (by rw [hs, hl])
  intro i h1 h2
  have := hlk i h1
  rw [lookup_ok L fr hf hp hl i] at this
  have hi : i % L.period = i := Nat.mod_eq_of_lt (by rw [← hs]; exact h1)
  simp only [hi, Except.ok.injEq] at this
  exact this.symm

/-! ## the firmware trigger -/

theorem airFrame_eq : ∀ fn, airFrame fn = fn + SCHEDULE_AHEAD := by
  intro fn
  have : frameOffset + dspLatency = SCHEDULE_AHEAD := by decide
  simp only [airFrame, Nat.add_assoc, this]

/-- the row's trigger expressed in the air frame `f = airFrame fn` -/
def firesAir (it : Item) (f : Nat) : Bool := Nat.beq (f % it.modulo) (it.frameNr % it.modulo)

theorem fires_eq_firesAir (it : Item) (fn : Nat) (h : fn + SCHEDULE_AHEAD < 4294967296) :
    fires it fn = firesAir it (airFrame fn) := by
  simp only [fires, firesAir, natBeq_eq, airFrame_eq, u32, Nat.mod_eq_of_lt h]

theorem firesAir_mod (it : Item) (f P : Nat) (h : P % it.modulo = 0) :
    firesAir it (f % P) = firesAir it f := by
  simp only [firesAir, Nat.mod_mod_of_dvd f (Nat.dvd_of_mod_eq_zero h)]

/-- the item loop of `mframe_schedule_set`: it faults only on a row with modulo 0; otherwise
    it makes one call per triggering row, in table order, nothing else -/
theorem scheduleItems_eq (taskId fn : Nat) (items : List Item) :
    scheduleItems taskId fn items =
      if ∀ it ∈ items, it.modulo ≠ 0 then
        .ok ((items.filter fun it => fires it fn).map (eventOf taskId))
      else .error .divByZero := by
  induction items with
  | nil => rfl
  | cons it rest ih =>
    rw [scheduleItems, ih]
    by_cases hm : it.modulo = 0
    · simp [hm]
    · have hall : (∀ x ∈ it :: rest, x.modulo ≠ 0) ↔ ∀ x ∈ rest, x.modulo ≠ 0 := by simp [hm]
      rw [if_neg hm, List.filter_cons]
      simp only [hall]
      by_cases hr : ∀ x ∈ rest, x.modulo ≠ 0
      · rw [if_pos hr, if_pos hr]
        cases fires it fn <;> rfl
      · rw [if_neg hr, if_neg hr]

/-- the `uint32_t` difference of two numbers below 2^31, read as `int`, is their difference -/
theorem toInt32_sub (a b : Nat) (ha : a < 2147483648) (hb : b < 2147483648) :
    toInt32 (u32 a + 4294967296 - u32 b) = (a : Int) - (b : Int) := by
  rw [show u32 a = a from Nat.mod_eq_of_lt (by omega), show u32 b = b from Nat.mod_eq_of_lt (by omega)]
  by_cases h : b ≤ a
  · have e : u32 (a + 4294967296 - b) = a - b := by
      rw [u32, Nat.sub_add_comm h, Nat.add_mod_right]
      exact Nat.mod_eq_of_lt (Nat.lt_of_le_of_lt (Nat.sub_le _ _) (Nat.lt_trans ha (by decide)))
    rw [toInt32, e, if_pos (Nat.lt_of_le_of_lt (Nat.sub_le _ _) ha), Int.ofNat_sub h]
  · have hlt : a + 4294967296 - b < 4294967296 := by omega
    rw [toInt32, u32, Nat.mod_eq_of_lt hlt, if_neg (by omega)]
    omega

/-! ## `l1sched_mframe_layout` -/

theorem layoutForVal_some {config tn : Nat} {L : Layout} (h : layoutForVal config tn = some L) :
    L ∈ layouts ∧ L.config.val = config ∧ L.slotmask.testBit tn = true := by
  unfold layoutForVal at h
  exact ⟨List.mem_of_find?_eq_some h, by simpa only [Bool.and_eq_true, beq_iff_eq] using List.find?_some h⟩

theorem layoutForVal_none {config tn : Nat} (h : layoutForVal config tn = none) :
    ∀ L ∈ layouts, ¬ (L.config.val = config ∧ L.slotmask.testBit tn = true) := by
  unfold layoutForVal at h
  intro L hL
  simpa only [Bool.and_eq_true, beq_iff_eq] using List.find?_eq_none.1 h L hL

theorem layoutFor_mem {c : Pchan} {tn : Nat} {L : Layout} (h : layoutFor c tn = some L) :
    L ∈ layouts := (layoutForVal_some h).1

/-! ## the Spec entries: checker and lifting -/

/-- walk a table with the row index -/
def walk (chk : Frame → Nat → Bool) : List Frame → Nat → Bool
  | [], _ => true
  | fr :: rest, f => chk fr f && walk chk rest (f + 1)

theorem walk_get (chk : Frame → Nat → Bool) (l : List Frame) (k : Nat) (h : walk chk l k = true)
    (i : Nat) (hi : i < l.length) : chk l[i] (k + i) = true := by
  induction l generalizing k i with
  | nil => exact absurd hi (by simp)
  | cons a t ih =>
    simp only [walk, Bool.and_eq_true] at h
    cases i with
    | zero => simpa using h.1
    | succ j =>
      have := ih (k + 1) h.2 j (by simpa using hi)
      simpa [Nat.add_assoc, Nat.add_comm 1 j] using this

theorem walk_mem (chk : Frame → Nat → Bool) (l : List Frame) (k : Nat) (h : walk chk l k = true)
    (x : Frame) (hx : x ∈ l) : ∃ i, chk x (k + i) = true := by
  obtain ⟨i, hi, rfl⟩ := List.getElem_of_mem hx
  exact ⟨i, walk_get chk l k h i hi⟩

/-- some row of `items` triggers in air frame `f` (`items.any (firesAir · f)`, written as a
    recursion of its own because the kernel evaluates that faster) -/
def anyFiresAir : List Item → Nat → Bool
  | [], _ => false
  | it :: rest, f => firesAir it f || anyFiresAir rest f

theorem anyFiresAir_eq (items : List Item) (f fn : Nat)
    (h : ∀ it ∈ items, firesAir it f = fires it fn) :
    anyFiresAir items f = items.any fun it => fires it fn := by
  induction items with
  | nil => rfl
  | cons it rest ih =>
    rw [anyFiresAir, List.any_cons, h it List.mem_cons_self,
      ih fun x hx => h x (List.mem_cons_of_mem _ hx)]

/-- `frameMarks` for the checker -/
def marks (d : Dir) (k : Kind) (lc : Option Lchan) (fr : Frame) : Bool :=
  match lc with
  | none => false
  | some c => sameChan (chanOf d fr).1 c && (k == .perFrame || Nat.beq (chanOf d fr).2 0)

theorem marks_eq (d : Dir) (k : Kind) (lc : Option Lchan) (fr : Frame) :
    marks d k lc fr = frameMarks d k lc fr := by
  cases lc
  · rfl
  · simp only [marks, frameMarks, sameChan_eq, natBeq_eq]

def frameAgree (mi si : List Item) (e : Entry) (d : Dir) (fr : Frame) (f : Nat) : Bool :=
  (marks d e.kind (some e.main) fr == anyFiresAir mi f) &&
  (marks d e.kind e.sacch fr == anyFiresAir si f)

/-- every row's modulo divides the period (so that one period of the layout is a full cycle
    of both sides), and along the table both sides mark the same rows, for the main channel
    and for the SACCH -/
def layoutCheck (items : List Item) (L : Layout) (e : Entry) : Bool :=
  match L.frames with
  | none => false
  | some fr =>
    (items.all fun it => L.period % it.modulo == 0) &&
    e.dirs.all fun d =>
      walk (frameAgree (selItems items d false) (selItems items d true) e d) fr 0

/-- the whole obligation of one Spec entry: the task has a table, every valid timeslot has a
    layout, and every entry of `layouts[]` that `l1sched_mframe_layout` can return for the
    entry's combination and one of its timeslots is a real layout that agrees with the table -/
def entryCheck (e : Entry) : Bool :=
  match tableOf e.task with
  | none => false
  | some items =>
    (e.tns.all fun tn => (layoutFor e.config tn).isSome) &&
    layouts.all fun L =>
      !(L.config.val == e.config.val && e.tns.any fun tn => L.slotmask.testBit tn) ||
        (L.config != .NONE && layoutCheck items L e)

theorem mem_selItems {items : List Item} {d : Dir} {s : Bool} {it : Item}
    (h : it ∈ selItems items d s) : it ∈ items := by
  simp only [selItems, List.mem_filter] at h
  exact h.1

theorem layout_lift (items : List Item) (L : Layout) (e : Entry) (ht : tableOk L = true)
    (h : layoutCheck items L e = true) (d : Dir) (hd : d ∈ e.dirs) (fn : Nat)
    (hfn : fn + SCHEDULE_AHEAD < 4294967296) : agreeAt items L e d fn = true := by
  obtain ⟨_, fr, hfr, _, row⟩ := tableOk_lookup ht
  obtain ⟨hlt, hlk⟩ := row (airFrame fn)
  simp only [layoutCheck, hfr, Bool.and_eq_true, List.all_eq_true, beq_iff_eq] at h
  obtain ⟨hdvd, hall⟩ := h
  have hrow := walk_get _ fr 0 (hall d hd) (airFrame fn % L.period) hlt
  have hfw : ∀ s, anyFiresAir (selItems items d s) (0 + airFrame fn % L.period) = fwMarks items d s fn :=
    fun s => anyFiresAir_eq _ _ fn fun it hmem => by
      rw [Nat.zero_add, firesAir_mod it _ _ (hdvd it (mem_selItems hmem)), fires_eq_firesAir it fn hfn]
  simp only [frameAgree, marks_eq, hfw, Bool.and_eq_true, beq_iff_eq] at hrow
  simp only [agreeAt, layoutMarks, hlk, Bool.and_eq_true, beq_iff_eq, Option.some.injEq]
  exact hrow

theorem entry_lift (hT : ∀ L ∈ layouts, L.config ≠ .NONE → tableOk L = true) (e : Entry)
    (h : entryCheck e = true) :
    ∃ items, tableOf e.task = some items ∧
      ∀ tn ∈ e.tns, ∃ L, layoutFor e.config tn = some L ∧ L.config ≠ .NONE ∧
        ∀ d ∈ e.dirs, ∀ fn, fn + SCHEDULE_AHEAD < 4294967296 → agreeAt items L e d fn = true := by
  unfold entryCheck at h
  split at h
  · exact absurd h (by decide)
  · rename_i items hitems
    simp only [Bool.and_eq_true, List.all_eq_true, Bool.or_eq_true, Bool.not_eq_true',
      Bool.and_eq_false_iff, beq_eq_false_iff_ne, List.any_eq_false, bne_iff_ne, ne_eq] at h
    obtain ⟨htot, hchk⟩ := h
    refine ⟨items, hitems, fun tn htn => ?_⟩
    obtain ⟨L, hL⟩ := Option.isSome_iff_exists.1 (htot tn htn)
    obtain ⟨hmem, hcfg, hbit⟩ := layoutForVal_some hL
    rcases hchk L hmem with (hsel | hsel) | ⟨hne, hok⟩
    · exact absurd hcfg hsel
    · exact absurd hbit (hsel tn htn)
    · exact ⟨L, hL, hne, fun d hd fn hfn => layout_lift items L e (hT L hmem hne) hok d hd fn hfn⟩

/-! ## reading `agreeAt` in the terms of the property -/

/-- the firmware starts a block of (the SACCH of, `s = true`) the task's channel at
    tick `fn`; the block's first burst is on the air in frame `airFrame fn` -/
def FwStartsBlock (items : List Item) (d : Dir) (s : Bool) (fn : Nat) : Prop :=
  ∃ it ∈ items, d ∈ setDirs it.set ∧ isSacch it = s ∧ fires it fn = true

/-- trxcon's layout marks frame number `f` as the first burst (bid 0) of a block of `c` -/
def LayoutFirstBurst (L : Layout) (d : Dir) (c : Lchan) (f : Nat) : Prop :=
  ∃ fr, lookup L f = .ok fr ∧ (chanOf d fr).1 = c ∧ (chanOf d fr).2 = 0

/-- trxcon's layout gives frame number `f` to channel `c` -/
def LayoutOwns (L : Layout) (d : Dir) (c : Lchan) (f : Nat) : Prop :=
  ∃ fr, lookup L f = .ok fr ∧ (chanOf d fr).1 = c

theorem fwMarks_iff (items : List Item) (d : Dir) (s : Bool) (fn : Nat) :
    fwMarks items d s fn = true ↔ FwStartsBlock items d s fn := by
  simp only [fwMarks, selItems, List.any_eq_true, List.mem_filter, Bool.and_eq_true,
    decide_eq_true_eq, beq_iff_eq, FwStartsBlock, and_assoc]

theorem firstBurst_iff {L : Layout} {f : Nat} {fr : Frame} (h : lookup L f = .ok fr) (d : Dir)
    (c : Lchan) : LayoutFirstBurst L d c f ↔ frameMarks d .block (some c) fr = true := by
  simp [LayoutFirstBurst, h, frameMarks]

theorem owns_iff {L : Layout} {f : Nat} {fr : Frame} (h : lookup L f = .ok fr) (d : Dir)
    (c : Lchan) : LayoutOwns L d c f ↔ frameMarks d .perFrame (some c) fr = true := by
  simp [LayoutOwns, h, frameMarks]

/-- `agreeAt` unfolded into the two equivalences it stands for -/
theorem agreeAt_iff {items : List Item} {L : Layout} {e : Entry} {d : Dir} {fn : Nat}
    (h : agreeAt items L e d fn = true) :
    ∃ fr, lookup L (airFrame fn) = .ok fr ∧
      (FwStartsBlock items d false fn ↔ frameMarks d e.kind (some e.main) fr = true) ∧
      (FwStartsBlock items d true fn ↔ frameMarks d e.kind e.sacch fr = true) := by
  simp only [agreeAt, layoutMarks, Bool.and_eq_true, beq_iff_eq] at h
  cases hl : lookup L (airFrame fn) with
  | error err => rw [hl] at h; exact absurd h.1 (by simp)
  | ok fr =>
    rw [hl] at h
    simp only [Option.some.injEq] at h
    exact ⟨fr, rfl, by rw [← fwMarks_iff, h.1], by rw [← fwMarks_iff, h.2]⟩

/-! ## the same, as sets of frames modulo the multiframe period -/

/-- from "for every tick" to "the residues modulo the period are the same set" -/
theorem residues_of_pointwise (L : Layout) (hA : SCHEDULE_AHEAD ≤ L.period)
    (hb : L.period + L.period < 4294967296) (F G : Nat → Prop) (hG : ∀ f g, f % L.period = g % L.period → (G f ↔ G g))
    (hpt : ∀ fn, fn + SCHEDULE_AHEAD < 4294967296 → (F fn ↔ G (airFrame fn))) :
    ∀ r, r < L.period →
      ((∃ fn, fn + SCHEDULE_AHEAD < 4294967296 ∧ F fn ∧ airFrame fn % L.period = r) ↔ G r) := by
  intro r hr
  constructor
  · rintro ⟨fn, hfn, hF, hres⟩
    have := (hpt fn hfn).1 hF
    exact (hG (airFrame fn) r (by rw [hres, Nat.mod_eq_of_lt hr])).1 this
  · intro hGr
    refine ⟨r + L.period - SCHEDULE_AHEAD, by omega, ?_, ?_⟩
    · apply (hpt _ (by omega)).2
      apply (hG _ r _).2 hGr
      rw [airFrame_eq, Nat.sub_add_cancel (by omega), Nat.add_mod_right]
    · rw [airFrame_eq, Nat.sub_add_cancel (by omega), Nat.add_mod_right, Nat.mod_eq_of_lt hr]

theorem firstBurst_congr (L : Layout) (d : Dir) (c : Lchan) (f g : Nat)
    (h : f % L.period = g % L.period) : LayoutFirstBurst L d c f ↔ LayoutFirstBurst L d c g := by
  simp only [LayoutFirstBurst, lookup_congr L f g h]

theorem owns_congr (L : Layout) (d : Dir) (c : Lchan) (f g : Nat)
    (h : f % L.period = g % L.period) : LayoutOwns L d c f ↔ LayoutOwns L d c g := by
  simp only [LayoutOwns, lookup_congr L f g h]

/-! ## the layouts on their own: burst ids -/

/-- the first frame of `l` that direction `d` gives to channel `c` has burst id `b` -/
def nextHas (d : Dir) (c : Lchan) (b : Nat) : List Frame → Bool
  | [] => false
  | f :: rest => cond (sameChan (chanOf d f).1 c) (Nat.beq (chanOf d f).2 b) (nextHas d c b rest)

/-- a frame of a block channel (block length `n`) has a burst id below `n`, and the next
    frame of the same channel among `later` has the successor burst id modulo `n` -/
def bidStepOk (d : Dir) (f : Frame) (later : List Frame) : Bool :=
  match blockLen (chanOf d f).1 with
  | none => true
  | some n =>
    Nat.blt (chanOf d f).2 n && nextHas d (chanOf d f).1 (((chanOf d f).2 + 1) % n) later

/-- `bidStepOk` for every frame of `l`, "later" being the rest of `l` followed by one
    more period `all` (the table is cyclic) -/
def bidsWalk (d : Dir) (all : List Frame) : List Frame → Bool
  | [] => true
  | f :: rest => bidStepOk d f (rest ++ all) && bidsWalk d all rest

def bidsCheck (L : Layout) : Bool :=
  match L.frames with
  | none => true
  | some fr => bidsWalk .dl fr fr && bidsWalk .ul fr fr

theorem bidsWalk_get (d : Dir) (all l : List Frame) (h : bidsWalk d all l = true)
    (i : Nat) (hi : i < l.length) : bidStepOk d l[i] (l.drop (i + 1) ++ all) = true := by
  induction l generalizing i with
  | nil => exact absurd hi (by simp)
  | cons a t ih =>
    simp only [bidsWalk, Bool.and_eq_true] at h
    cases i with
    | zero => simpa using h.1
    | succ j => simpa using ih h.2 j (by simpa using hi)

theorem nextHas_first (d : Dir) (c : Lchan) (b : Nat) (l : List Frame) (k : Nat) (g : Frame)
    (hg : l[k]? = some g) (hc : (chanOf d g).1 = c)
    (hb : ∀ i, i < k → ∀ h, l[i]? = some h → (chanOf d h).1 ≠ c) :
    nextHas d c b l = Nat.beq (chanOf d g).2 b := by
  induction l generalizing k with
  | nil => cases hg
  | cons a t ih =>
    cases k with
    | zero =>
      cases hg
      rw [nextHas, sameChan_iff.2 hc, cond_true]
    | succ k =>
      rw [nextHas, Bool.eq_false_iff.2 (mt sameChan_iff.1 (hb 0 (Nat.succ_pos k) a rfl)), cond_false]
      exact ih k hg fun i hi h hh => hb (i + 1) (Nat.succ_lt_succ hi) h hh

/-- the rest of the table after row `r`, followed by the table: row `j` of it is row
    `(r + 1 + j) % P` of the table -/
theorem getElem?_drop_append_self {α} (fr : List α) (r j : Nat) (hr : r < fr.length)
    (hj : j < fr.length) : (fr.drop (r + 1) ++ fr)[j]? = fr[(r + 1 + j) % fr.length]? := by
  rw [← List.drop_append_of_le_length (Nat.succ_le_of_lt hr), List.getElem?_drop]
  by_cases h : r + 1 + j < fr.length
  · rw [List.getElem?_append_left h, Nat.mod_eq_of_lt h]
  · rw [List.getElem?_append_right (Nat.not_lt.1 h), Nat.mod_eq_sub_mod (Nat.not_lt.1 h),
      Nat.mod_eq_of_lt (by omega)]

/-! ## the layouts on their own: facts about every row -/

/-- `p` holds of every row of the layout's table (a layout without table has no row) -/
def rowsAll (p : Frame → Bool) (L : Layout) : Bool :=
  match L.frames with
  | none => true
  | some fr => fr.all p

theorem rowsAll_lookup {p : Frame → Bool} {L : Layout} (h : rowsAll p L = true) {fn : Nat}
    {f : Frame} (hf : lookup L fn = .ok f) : p f = true := by
  obtain ⟨fr, hfr, hm⟩ := lookup_mem hf
  simp only [rowsAll, hfr] at h
  exact List.all_eq_true.1 h f hm

/-- the channels whose Spec entries compare the Downlink only, PDTCH excepted -/
def dlOnlyChans : List Lchan := [.BCCH, .CCCH, .SDCCH4_CBCH, .SDCCH8_CBCH]

/-- … that list is what the Spec table says -/
def dlOnlyListCheck : Bool :=
  table.all fun e => decide (Dir.ul ∈ e.dirs) || e.main == .PDTCH ||
    (dlOnlyChans.contains e.main && e.sacch == none)

/-- what a row has to satisfy on its own: every channel it uses (IDLE excepted) has its bit
    in the layout's channel mask, and its Uplink channel is not a Downlink-only channel -/
def rowOk (mask : Nat) (f : Frame) : Bool :=
  (sameChan f.dlChan .IDLE || mask.testBit f.dlChan.val) &&
  (sameChan f.ulChan .IDLE || mask.testBit f.ulChan.val) && !(dlOnlyChans.any (sameChan f.ulChan))

def rowsCheck (L : Layout) : Bool := rowsAll (rowOk L.lchanMask) L

/-! ## coverage of the Spec table -/

/-- timeslots of a slot mask -/
def maskTns (m : Nat) : List Nat := allTn.filter fun tn => m.testBit tn

/-- channel `c`, used by layout `L` in direction `d`, is either outside what the firmware
    implements (`notInFirmware`; PDTCH Uplink: receive-only task) or paired by a Spec
    entry (among `es`, the entries of the layout's combination) valid for every timeslot
    of the slot mask -/
def covered (L : Layout) (es : List Entry) (d : Dir) (c : Lchan) : Bool :=
  notInFirmware c || (d == .ul && c == .PDTCH) ||
    es.any fun e => (sameChan e.main c || e.sacch.any (sameChan c)) && decide (d ∈ e.dirs) &&
      (maskTns L.slotmask).all fun tn => decide (tn ∈ e.tns)

/-- `covered` for every frame of a table; consecutive frames of the same channel are
    checked once -/
def coverWalk (L : Layout) (es : List Entry) (d : Dir) (prev : Lchan) : List Frame → Bool
  | [] => true
  | f :: rest =>
    (sameChan (chanOf d f).1 prev || covered L es d (chanOf d f).1) && coverWalk L es d (chanOf d f).1 rest

def coverCheck (L : Layout) : Bool :=
  match L.frames with
  | none => true
  | some fr =>
    let es := table.filter fun e => e.config == L.config
    coverWalk L es .dl .IDLE fr && coverWalk L es .ul .IDLE fr

theorem coverWalk_mem (L : Layout) (es : List Entry) (d : Dir) (prev : Lchan) (l : List Frame)
    (hp : covered L es d prev = true) (h : coverWalk L es d prev l = true) :
    ∀ f ∈ l, covered L es d (chanOf d f).1 = true := by
  induction l generalizing prev with
  | nil => intro f hf; exact absurd hf (by simp)
  | cons a t ih =>
    simp only [coverWalk, Bool.and_eq_true, Bool.or_eq_true, sameChan_iff] at h
    have ha : covered L es d (chanOf d a).1 = true := by
      rcases h.1 with h1 | h1
      · rw [h1]; exact hp
      · exact h1
    intro f hf
    rcases List.mem_cons.1 hf with rfl | hf
    · exact ha
    · exact ih _ ha h.2 f hf

/-! ## the enumerations -/

/-- `Lchan.all` lists the constructors in their order, so it has each: `c` at `c.ctorIdx` -/
theorem lchan_all_complete : ∀ c : Lchan, c ∈ Lchan.all := by
  intro c
  have hall : Lchan.all = (List.range 40).map Lchan.ofNat := by decide +kernel
  have hlt : c.ctorIdx < 40 := by cases c <;> decide
  rw [hall]
  exact List.mem_map.2 ⟨c.ctorIdx, List.mem_range.2 hlt, Lchan.ofNat_ctorIdx c⟩

theorem dir_all_complete : ∀ d : Dir, d ∈ [Dir.dl, Dir.ul] := by
  intro d; cases d <;> decide

/-! ## the regenerated tables, evaluated

Each `decide +kernel` evaluates one of the checkers above over `layouts[]`, the frame tables,
the task tables and the Spec table; `Props/C11.lean` lifts the results to all frame numbers. -/

theorem layouts_table_ok : (layouts.filter fun L => L.config != .NONE).all tableOk = true := by
  decide +kernel

theorem real_tableOk {L : Layout} (hL : L ∈ layouts) (hn : L.config ≠ .NONE) : tableOk L = true :=
  List.all_eq_true.1 layouts_table_ok L (List.mem_filter.2 ⟨hL, bne_iff_ne.2 hn⟩)

theorem layouts_bids_ok : layouts.all bidsCheck = true := by
  decide +kernel

theorem layouts_rows_ok : layouts.all rowsCheck = true := by
  decide +kernel

theorem row_ok {L : Layout} (hL : L ∈ layouts) {fn : Nat} {f : Frame} (hlk : lookup L fn = .ok f) :
    ((f.dlChan = .IDLE ∨ L.lchanMask.testBit f.dlChan.val = true) ∧
      (f.ulChan = .IDLE ∨ L.lchanMask.testBit f.ulChan.val = true)) ∧ f.ulChan ∉ dlOnlyChans := by
  have := rowsAll_lookup (List.all_eq_true.1 layouts_rows_ok L hL) hlk
  simp only [rowOk, Bool.and_eq_true, Bool.or_eq_true, sameChan_iff, Bool.not_eq_true', List.any_eq_false] at this
  exact ⟨this.1, fun hm => this.2 _ hm rfl⟩

theorem layouts_cover_check : layouts.all coverCheck = true := by
  decide +kernel

theorem layouts_total_check :
    (layouts.all fun L => allTn.all fun tn =>
      (layoutFor L.config tn).any fun L' => L'.config == L.config) = true := by
  decide +kernel

theorem layouts_period_bounds :
    (layouts.all fun L => decide (L.period + L.period < 4294967296) &&
      (L.config == .NONE || decide (SCHEDULE_AHEAD ≤ L.period))) = true := by decide +kernel

/-- the obligation of every entry of the Spec table, evaluated over the regenerated tables -/
theorem entries_check : table.all entryCheck = true := by decide +kernel

/-- what `entries_check` says of an entry of the Spec table -/
theorem entry_agrees {e : Entry} (he : e ∈ table) :
    ∃ items, tableOf e.task = some items ∧
      ∀ tn ∈ e.tns, ∃ L, layoutFor e.config tn = some L ∧ L.config ≠ .NONE ∧
        ∀ d ∈ e.dirs, ∀ fn, fn + SCHEDULE_AHEAD < 4294967296 → agreeAt items L e d fn = true :=
  entry_lift (fun _ hL hn => real_tableOk hL hn) e (List.all_eq_true.1 entries_check e he)

/-- the layout of a Spec entry is a real one, with a period the look-ahead fits into -/
theorem entry_layout_period {e : Entry} (he : e ∈ table) {tn : Nat} (htn : tn ∈ e.tns) {L : Layout}
    (hL : layoutFor e.config tn = some L) :
    SCHEDULE_AHEAD ≤ L.period ∧ L.period + L.period < 4294967296 := by
  obtain ⟨_, _, hall⟩ := entry_agrees he
  obtain ⟨L', hL', hne, _⟩ := hall tn htn
  cases hL.symm.trans hL'
  have hb := List.all_eq_true.1 layouts_period_bounds L (layoutFor_mem hL)
  simp only [Bool.and_eq_true, Bool.or_eq_true, decide_eq_true_eq, beq_iff_eq] at hb
  exact ⟨hb.2.resolve_left hne, hb.1⟩

end OsmoVerif.Mframe
