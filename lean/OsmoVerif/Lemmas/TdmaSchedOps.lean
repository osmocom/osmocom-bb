/- `tdma_schedule`, `tdma_schedule_set`, `tdma_sched_advance`, `tdma_sched_reset` of the model, on a
well-formed state, against the abstract machine of `Spec/TdmaSched.lean` (C08). -/
import OsmoVerif.Lemmas.TdmaSchedBasic
import OsmoVerif.Spec.TdmaSched

set_option linter.unusedVariables false

namespace OsmoVerif.TdmaSched
open OsmoVerif.Spec.TdmaSched (AItem Due)

/-- what the property sees of an item (the `flags` field is not part of it) -/
def absItem (it : Item) : AItem Cb := ⟨it.cb, it.p1, it.p2, it.p3, it.prio⟩

def absBucket (b : Bucket) : List (AItem Cb) := (live b).map absItem

/-- abstraction: the items due in `d` frames are the live items of `bucket[(cur_bucket + d) % 25]`.
(The `none` branch is unreachable on well-formed states, see `abs_get`.) -/
def abs (s : Sched) : Due Cb := fun d =>
  if d < 25 then
    match s.bucket[(s.cur + d) % 25]? with
    | some b => absBucket b
    | none => []
  else []

/-! ### the abstraction and the ring -/

theorem abs_get (s : Sched) (d : Nat) (b : Bucket) (hd : d < 25)
    (hb : s.bucket[(s.cur + d) % 25]? = some b) : abs s d = absBucket b := by
  simp only [abs, hd, if_true, hb]

theorem abs_ge (s : Sched) (d : Nat) (hd : ¬ d < 25) : abs s d = [] := by
  simp only [abs, hd, if_false]

theorem abs_zero (s : Sched) (b : Bucket) (hc : s.cur < 25) (hb : s.bucket[s.cur]? = some b) :
    abs s 0 = absBucket b :=
  abs_get s 0 b (by decide) (by rw [Nat.add_zero, Nat.mod_eq_of_lt hc]; exact hb)

theorem ring_inj (c : Nat) {d e : Nat} (hd : d < 25) (he : e < 25) (h : (c + d) % 25 = (c + e) % 25) :
    d = e := by omega

theorem abs_set (s : Sched) (hl : s.bucket.length = 25) (off : Nat) (b' : Bucket) (d : Nat) :
    abs { s with bucket := s.bucket.set ((s.cur + off) % 25) b' } d =
      if d = off % 25 then absBucket b' else abs s d := by
  have hi : (s.cur + off) % 25 < s.bucket.length := by rw [hl]; exact Nat.mod_lt _ (by decide)
  have ho : off % 25 < 25 := Nat.mod_lt _ (by decide)
  by_cases hd : d < 25
  · simp only [abs, if_pos hd]
    by_cases he : d = off % 25
    · rw [if_pos he, he, Nat.add_mod_mod, List.getElem?_set_self hi]
    · rw [if_neg he, List.getElem?_set_ne fun h => he (ring_inj s.cur hd ho (by rw [Nat.add_mod_mod, h]))]
  · rw [if_neg (fun he : d = off % 25 => hd (he ▸ ho)), abs_ge _ _ hd, abs_ge _ _ hd]

theorem abs_init (cur : Nat) (h : cur < 25) : abs (init cur) = Spec.TdmaSched.empty := by
  funext d
  by_cases hd : d < 25
  · have : (init cur).bucket[((init cur).cur + d) % 25]? = some zeroBucket := by
      simp only [init, List.getElem?_replicate, nf]
      exact if_pos (Nat.mod_lt _ (by decide))
    rw [abs_get _ d _ hd this]
    rfl
  · exact abs_ge _ d hd

theorem absBucket_length (b : Bucket) (hb : BucketWF b) : (absBucket b).length = b.numItems := by
  rw [absBucket, List.length_map, live_length hb]

theorem full_iff {s : Sched} {off : Nat} {b : Bucket} (hw : WF s)
    (hb : s.bucket[(s.cur + off) % 25]? = some b) :
    Spec.TdmaSched.full (abs s) (Spec.TdmaSched.slot off) ↔ 8 ≤ b.numItems := by
  have hb' : s.bucket[(s.cur + off % 25) % 25]? = some b := by rw [Nat.add_mod_mod]; exact hb
  simp only [Spec.TdmaSched.full, Spec.TdmaSched.slot, Spec.TdmaSched.depth, Spec.TdmaSched.capacity]
  rw [abs_get s _ b (Nat.mod_lt _ (by decide)) hb', absBucket_length b (hw.2.2 b (List.mem_of_getElem? hb))]

/-! ### storing one more item -/

/-- `s'` extends `s`: every bucket keeps its live items, in place (new items are only appended) -/
def Ext (s s' : Sched) : Prop :=
  ∀ (j : Nat) (b : Bucket), s.bucket[j]? = some b → ∃ b', s'.bucket[j]? = some b' ∧ live b <+: live b'

theorem Ext.refl (s : Sched) : Ext s s := fun j b h => ⟨b, h, List.prefix_refl _⟩

theorem Ext.trans {s1 s2 s3 : Sched} (h12 : Ext s1 s2) (h23 : Ext s2 s3) : Ext s1 s3 := by
  intro j b hb
  obtain ⟨b2, h2, p2⟩ := h12 j b hb
  obtain ⟨b3, h3, p3⟩ := h23 j b2 h2
  exact ⟨b3, h3, p2.trans p3⟩

/-- storing `v` in slot `num_items` of the bucket `off` frames ahead -/
theorem push_spec {env : Env} {s : Sched} {off : Nat} {b : Bucket} {v : Item} (hinv : Inv env s)
    (hb : s.bucket[(s.cur + off) % 25]? = some b) (hn : b.numItems < 8) (hv : itemOk env v) :
    Inv env { s with bucket := s.bucket.set ((s.cur + off) % 25) ⟨b.item.set b.numItems v, b.numItems + 1⟩ } ∧
    abs { s with bucket := s.bucket.set ((s.cur + off) % 25) ⟨b.item.set b.numItems v, b.numItems + 1⟩ } =
      Spec.TdmaSched.put (abs s) (off % 25) (absItem v) ∧
    Ext s { s with bucket := s.bucket.set ((s.cur + off) % 25) ⟨b.item.set b.numItems v, b.numItems + 1⟩ } := by
  have hbwf := hinv.bucketWF hb
  have hlive : live ⟨b.item.set b.numItems v, b.numItems + 1⟩ = live b ++ [v] :=
    take_set_succ _ _ _ (hbwf.1 ▸ hn)
  refine ⟨hinv.set _ ⟨by simpa using hbwf.1, hn⟩ fun it hit => ?_, ?_, fun j bj hbj => ?_⟩
  · rcases List.mem_append.mp (hlive ▸ hit) with h | h
    · exact hinv.2 b (List.mem_of_getElem? hb) it h
    · exact List.mem_singleton.mp h ▸ hv
  · funext d
    have hb' : s.bucket[(s.cur + off % 25) % 25]? = some b := by rw [Nat.add_mod_mod]; exact hb
    rw [abs_set s hinv.1.1, Spec.TdmaSched.put, abs_get s _ b (Nat.mod_lt _ (by decide)) hb']
    simp only [absBucket, hlive, List.map_append, List.map_cons, List.map_nil]
  · by_cases hj : (s.cur + off) % 25 = j
    · subst hj
      refine ⟨_, List.getElem?_set_self (lt_of_get? _ _ _ hb), ?_⟩
      rw [hlive, Option.some.inj (hb.symm.trans hbj)]
      exact List.prefix_append _ _
    · exact ⟨bj, (List.getElem?_set_ne hj).trans hbj, List.prefix_refl _⟩

/-! ### operations as the property sees them -/

/-- the frames of an item set as the property sees them: the elements before `SCHED_END_SET()`, split
at the `SCHED_END_FRAME()` markers, with the common `p3`.  (A set without end marker is outside
`OpOk`; the `[]` case is then unreachable.) -/
def framesOf (p3 : Nat) : List Item → List (List (AItem Cb))
  | [] => [[]]
  | it :: rest =>
    if it.cb = .endSet then [[]]
    else if it.cb = .null then [] :: framesOf p3 rest
    else match framesOf p3 rest with
      | f :: fs => (absItem { it with p3 := p3 } :: f) :: fs
      | [] => [[absItem { it with p3 := p3 }]]

/-- the set is terminated by `SCHED_END_SET()` -/
def hasEnd : List Item → Bool
  | [] => false
  | it :: rest => if it.cb = .endSet then true else hasEnd rest

/-- number of `SCHED_END_FRAME()` markers before the end marker -/
def markers : List Item → Nat
  | [] => 0
  | it :: rest => if it.cb = .endSet then 0 else if it.cb = .null then markers rest + 1 else markers rest

/-- the items `tdma_schedule_set` tries to store (before the end marker, `p3` overwritten) -/
def setItems (p3 : Nat) : List Item → List Item
  | [] => []
  | it :: rest =>
    if it.cb = .endSet then [] else if it.cb = .null then setItems p3 rest
    else { it with p3 := p3 } :: setItems p3 rest

def absOp : Op → Spec.TdmaSched.Op Cb
  | .schedule off cb p1 p2 p3 prio => .schedule off ⟨cb, p1, p2, p3, prio⟩
  | .scheduleSet off set p3 => .scheduleSet off (framesOf p3 set)
  | .advance => .advance
  | .execute => .execute
  | .reset => .reset

/-- admissible operations: arguments within the C parameter types (so that the conversions at the
call are the identity), the callback a function that reports success in `env`, an item set that is
terminated by `SCHED_END_SET()` and whose frame offsets stay below 256 (no `uint8_t` wrap of
`++frame_offset`) -/
def OpOk (env : Env) : Op → Prop
  | .schedule off cb p1 p2 p3 prio =>
    off < 256 ∧ p1 < 256 ∧ p2 < 256 ∧ p3 < 65536 ∧ -32768 ≤ prio ∧ prio ≤ 32767 ∧
      itemOk env ⟨cb, p1, p2, p3, prio, 0⟩
  | .scheduleSet off set p3 =>
    hasEnd set = true ∧ off + markers set < 256 ∧ p3 < 65536 ∧ ∀ it ∈ setItems p3 set, itemOk env it
  | _ => True

instance (env : Env) (op : Op) : Decidable (OpOk env op) := by
  cases op <;> unfold OpOk <;> infer_instance

/-! ### `tdma_schedule` -/

theorem schedule_spec {env : Env} {s : Sched} {off : Nat} {cb : Cb} {p1 p2 p3 : Nat} {prio : Int}
    (hinv : Inv env s) (hop : OpOk env (.schedule off cb p1 p2 p3 prio)) :
    ∃ s' rc, schedule s off cb p1 p2 p3 prio = .ok (s', rc) ∧ Inv env s' ∧ s'.cur = s.cur ∧
      (abs s', rc) = Spec.TdmaSched.schedule (abs s) off ⟨cb, p1, p2, p3, prio⟩ ∧
      (rc = -1 → s' = s) ∧ Ext s s' := by
  obtain ⟨ho, h1, h2, h3, hp1, hp2, hok⟩ := hop
  obtain ⟨b, hb⟩ := hinv.bucket_get (Nat.mod_lt (s.cur + off) (by decide))
  have hbwf := hinv.bucketWF hb
  simp only [schedule, u8_of_lt ho, u8_of_lt h1, u8_of_lt h2, u16_of_lt h3, i16_of_range hp1 hp2,
    wrapBucket_ok s off hinv.1.2.1 ho, bind, Except.bind, idx_of_get? hb, nc]
  by_cases hfull : b.numItems ≥ 8
  · rw [if_pos hfull]
    refine ⟨s, -1, rfl, hinv, rfl, ?_, fun _ => rfl, Ext.refl s⟩
    rw [Spec.TdmaSched.schedule, if_pos ((full_iff hinv.1 hb).mpr hfull)]
  · have hn : b.numItems < 8 := Nat.lt_of_not_le hfull
    have hnl : b.numItems < b.item.length := hbwf.1 ▸ hn
    rw [if_neg hfull, idx_ok_getD _ _ zeroItem hnl]
    simp only [setIdx_ok _ _ _ hnl, setIdx_ok _ _ _ (lt_of_get? _ _ _ hb), u8_of_lt (Nat.lt_of_le_of_lt hn (by decide))]
    obtain ⟨hi', ha', hx'⟩ := push_spec (v := { b.item.getD b.numItems zeroItem with
      cb := cb, p1 := p1, p2 := p2, p3 := p3, prio := prio }) hinv hb hn hok
    refine ⟨_, 0, rfl, hi', rfl, ?_, fun h => absurd h (by decide), hx'⟩
    rw [Spec.TdmaSched.schedule, if_neg (fun h => hfull ((full_iff hinv.1 hb).mp h)), ha']
    rfl

/-! ### `tdma_schedule_set` -/

theorem framesOf_ne_nil (p3 : Nat) : ∀ rest, ∃ f fs, framesOf p3 rest = f :: fs
  | [] => ⟨[], [], rfl⟩
  | it :: rest => by
    simp only [framesOf]
    split
    · exact ⟨_, _, rfl⟩
    · split
      · exact ⟨_, _, rfl⟩
      · obtain ⟨f, fs, h⟩ := framesOf_ne_nil p3 rest
        rw [h]; exact ⟨_, _, rfl⟩

theorem framesOf_length (p3 : Nat) : ∀ set, (framesOf p3 set).length = markers set + 1
  | [] => rfl
  | it :: rest => by
    obtain ⟨f, fs, hf⟩ := framesOf_ne_nil p3 rest
    have ih := framesOf_length p3 rest
    simp only [framesOf, markers, hf] at ih ⊢
    split
    · rfl
    · split
      · exact congrArg (· + 1) ih
      · exact ih

/-- The loop of `tdma_schedule_set` from an element of the set on, `fo` = the frame offset reached,
`j` = the markers passed: the frames of the rest of the set go where `putFrames` puts them; the
result is the number of markers, or −1 from the first item that does not fit. -/
theorem setLoop_spec (env : Env) (p3 : Nat) : ∀ (rest : List Item) (s : Sched) (fo : Nat) (j : Int),
    Inv env s → hasEnd rest = true → fo + markers rest < 256 →
    (∀ it ∈ setItems p3 rest, itemOk env it) →
    ∃ s' rc, scheduleSetLoop p3 rest s fo ((s.cur + fo) % 25) j = .ok (s', rc) ∧ Inv env s' ∧
      s'.cur = s.cur ∧ Ext s s' ∧
      abs s' = (Spec.TdmaSched.putFrames (abs s) fo (framesOf p3 rest)).1 ∧
      rc = if (Spec.TdmaSched.putFrames (abs s) fo (framesOf p3 rest)).2 = true then j + markers rest else -1 := by
  intro rest
  induction rest with
  | nil => intro s fo j _ he; exact absurd he (by decide)
  | cons it rest ih =>
    intro s fo j hinv he hm hok
    by_cases c1 : it.cb = .endSet
    · refine ⟨s, j, ?_, hinv, rfl, Ext.refl s, ?_, ?_⟩
      · simp only [scheduleSetLoop, c1, if_true]
      · simp only [framesOf, c1, if_true, Spec.TdmaSched.putFrames, Spec.TdmaSched.putFrame]
      · simp [framesOf, markers, c1, Spec.TdmaSched.putFrames, Spec.TdmaSched.putFrame]
    · simp only [hasEnd, if_neg c1] at he
      by_cases c2 : it.cb = .null
      · -- SCHED_END_FRAME: next bucket
        simp only [markers, if_neg c1, if_pos c2] at hm
        simp only [setItems, if_neg c1, if_pos c2] at hok
        have hm' : fo + 1 + markers rest < 256 := Nat.add_right_comm .. ▸ hm
        have hfo : fo + 1 < 256 := Nat.lt_of_le_of_lt (Nat.le_add_right ..) hm'
        obtain ⟨s', rc, h1, h2, h3, h4, h5, h6⟩ := ih s (fo + 1) (j + 1) hinv he hm' hok
        refine ⟨s', rc, ?_, h2, h3, h4, ?_, ?_⟩
        · simp only [scheduleSetLoop, if_neg c1, if_pos c2, u8_of_lt hfo,
            wrapBucket_ok s (fo + 1) hinv.1.2.1 hfo, bind, Except.bind]
          exact h1
        · simp only [framesOf, if_neg c1, if_pos c2, Spec.TdmaSched.putFrames, Spec.TdmaSched.putFrame]
          exact h5
        · simp only [framesOf, markers, if_neg c1, if_pos c2, Spec.TdmaSched.putFrames,
            Spec.TdmaSched.putFrame]
          rw [h6]
          split
          · rw [Int.natCast_succ, Int.add_right_comm, Int.add_assoc]
          · rfl
      · -- an item
        simp only [markers, if_neg c1, if_neg c2] at hm
        simp only [setItems, if_neg c1, if_neg c2] at hok
        obtain ⟨b, hb⟩ := hinv.bucket_get (Nat.mod_lt (s.cur + fo) (by decide))
        have hbwf := hinv.bucketWF hb
        obtain ⟨f, fs, hf⟩ := framesOf_ne_nil p3 rest
        have hfull := full_iff hinv.1 hb
        simp only [scheduleSetLoop, if_neg c1, if_neg c2, bind, Except.bind, idx_of_get? hb, nc, framesOf,
          markers, hf, Spec.TdmaSched.putFrames, Spec.TdmaSched.putFrame]
        by_cases h8 : b.numItems ≥ 8
        · rw [if_pos h8, if_pos (hfull.mpr h8)]
          exact ⟨s, -1, rfl, hinv, rfl, Ext.refl s, rfl, rfl⟩
        · have hn : b.numItems < 8 := Nat.lt_of_not_le h8
          have hnl : b.numItems < b.item.length := hbwf.1 ▸ hn
          rw [if_neg h8, if_neg (fun h => h8 (hfull.mp h)), setIdx_ok _ _ _ hnl]
          simp only [setIdx_ok _ _ _ (lt_of_get? _ _ _ hb), u8_of_lt (Nat.lt_of_le_of_lt hn (by decide))]
          obtain ⟨hi', ha', hx'⟩ := push_spec hinv hb hn
            (hok _ (List.mem_cons_self ..))
          obtain ⟨s', rc, h1, h2, h3, h4, h5, h6⟩ := ih _ fo j hi' he hm
            (fun x hx => hok x (List.mem_cons_of_mem _ hx))
          rw [ha', hf] at h5 h6
          exact ⟨s', rc, h1, h2, h3, hx'.trans h4, h5, h6⟩

theorem scheduleSet_spec {env : Env} {s : Sched} {off : Nat} {set : List Item} {p3 : Nat}
    (hinv : Inv env s) (hop : OpOk env (.scheduleSet off set p3)) :
    ∃ s' rc, scheduleSet s off set p3 = .ok (s', rc) ∧ Inv env s' ∧ s'.cur = s.cur ∧ Ext s s' ∧
      abs s' = (Spec.TdmaSched.putFrames (abs s) off (framesOf p3 set)).1 ∧
      rc = if (Spec.TdmaSched.putFrames (abs s) off (framesOf p3 set)).2 = true then (markers set : Int) else -1 := by
  obtain ⟨he, hm, h3, hok⟩ := hop
  obtain ⟨s', rc, h1, h2, h3', h4, h5, h6⟩ := setLoop_spec env p3 set s off 0 hinv he hm hok
  refine ⟨s', rc, ?_, h2, h3', h4, h5, by rw [h6, Int.zero_add]⟩
  have ho : off < 256 := Nat.lt_of_le_of_lt (Nat.le_add_right ..) hm
  simp only [scheduleSet, u8_of_lt ho, u16_of_lt h3, wrapBucket_ok s off hinv.1.2.1 ho, bind, Except.bind]
  exact h1

/-- a result other than −1 means that the whole set was placed -/
theorem putFrames_of_rc_ne {due due' : Due Cb} {off : Nat} {fs : List (List (AItem Cb))} {rc : Int} {m : Nat}
    (ha : due' = (Spec.TdmaSched.putFrames due off fs).1)
    (hrc : rc = if (Spec.TdmaSched.putFrames due off fs).2 = true then (m : Int) else -1) (hne : rc ≠ -1) :
    Spec.TdmaSched.putFrames due off fs = (due', true) := by
  refine Prod.ext ha.symm ?_
  cases h : (Spec.TdmaSched.putFrames due off fs).2 with
  | true => rfl
  | false => rw [hrc, h] at hne; exact absurd rfl hne

theorem scheduleSet_refines {env : Env} {s : Sched} {off : Nat} {set : List Item} {p3 : Nat}
    (hinv : Inv env s) (hop : OpOk env (.scheduleSet off set p3)) :
    ∃ s' rc, scheduleSet s off set p3 = .ok (s', rc) ∧ Inv env s' ∧ s'.cur = s.cur ∧ Ext s s' ∧
      (abs s', rc) = Spec.TdmaSched.scheduleSet (abs s) off (framesOf p3 set) := by
  obtain ⟨s', rc, h1, h2, h3, h4, h5, h6⟩ := scheduleSet_spec hinv hop
  refine ⟨s', rc, h1, h2, h3, h4, ?_⟩
  rw [Spec.TdmaSched.scheduleSet, h5, h6, framesOf_length]
  cases Spec.TdmaSched.putFrames (abs s) off (framesOf p3 set) with
  | mk due ok => cases ok <;> simp

/-! ### advance -/

theorem advance_spec {env : Env} {s : Sched} (hinv : Inv env s) :
    advance s = .ok { s with cur := (s.cur + 1) % 25 } ∧ Inv env { s with cur := (s.cur + 1) % 25 } ∧
      abs { s with cur := (s.cur + 1) % 25 } = Spec.TdmaSched.advance (abs s) := by
  have hlt : (s.cur + 1) % 25 < 25 := Nat.mod_lt _ (by decide)
  refine ⟨?_, ⟨⟨hinv.1.1, hlt, hinv.1.2.2⟩, hinv.2⟩, ?_⟩
  · simp only [advance, wrapBucket_ok s 1 hinv.1.2.1 (by decide), bind, Except.bind, pure, Except.pure,
      u8_of_lt (Nat.lt_trans hlt (by decide))]
  · funext d
    simp only [Spec.TdmaSched.advance, Spec.TdmaSched.depth, abs]
    by_cases hd : d < 25
    · -- the bucket `d` ahead of the next one is the bucket `d + 1` ahead of this one, round the ring
      have e : ((s.cur + 1) % 25 + d) % 25 = (s.cur + (d + 1) % 25) % 25 := by
        rw [Nat.mod_add_mod, Nat.add_mod_mod, Nat.add_assoc, Nat.add_comm 1 d]
      simp only [hd, Nat.mod_lt (d + 1) (show 0 < 25 by decide), if_true, e]
    · simp only [hd, if_false]

/-! ### reset -/

theorem succ_le_iff_of_ne {k i : Nat} (h : k ≠ i) : k + 1 ≤ i ↔ k ≤ i :=
  ⟨Nat.le_of_succ_le, fun hle => Nat.lt_of_le_of_ne hle h⟩

/-- the loop of `tdma_sched_reset` from bucket `k` on: every bucket from `k` on except the current
one gets `num_items = 0` -/
theorem resetLoop_spec (cur : Nat) : ∀ (rem k : Nat) (buckets : List Bucket), k + rem = buckets.length →
    ∃ bs, resetLoop cur rem k buckets = .ok bs ∧ bs.length = buckets.length ∧
      ∀ i, bs[i]? = (buckets[i]?).map (fun b => if k ≤ i ∧ i ≠ cur then { b with numItems := 0 } else b) := by
  intro rem
  induction rem with
  | zero =>
    intro k buckets hk
    refine ⟨buckets, rfl, rfl, fun i => ?_⟩
    cases hi : buckets[i]? with
    | none => rfl
    | some b =>
      rw [Option.map_some, if_neg fun h => Nat.not_lt.mpr h.1 (hk.symm ▸ lt_of_get? _ _ _ hi : i < k + 0)]
  | succ rem ih =>
    intro k buckets hk
    have hkl : k < buckets.length := hk ▸ Nat.lt_add_of_pos_right (Nat.succ_pos rem)
    have hk' : ∀ l : List Bucket, l.length = buckets.length → k + 1 + rem = l.length := fun l hl =>
      hl ▸ (Nat.succ_add_eq_add_succ k rem).trans hk
    simp only [resetLoop, bind, Except.bind, idx_of_get? (List.getElem?_eq_getElem hkl)]
    by_cases hc : k = cur
    · obtain ⟨bs, h1, h2, h3⟩ := ih (k + 1) buckets (hk' _ rfl)
      refine ⟨bs, by rw [if_neg (fun h => h hc)]; exact h1, h2, fun i => ?_⟩
      have : (k + 1 ≤ i ∧ i ≠ cur) ↔ (k ≤ i ∧ i ≠ cur) :=
        and_congr_left fun hne => succ_le_iff_of_ne (hc ▸ Ne.symm hne)
      simp only [h3 i, this]
    · obtain ⟨bs, h1, h2, h3⟩ := ih (k + 1) (buckets.set k { buckets[k] with numItems := 0 })
        (hk' _ List.length_set)
      refine ⟨bs, by rw [if_pos hc, setIdx_ok _ _ _ hkl]; exact h1, by rw [h2, List.length_set], fun i => ?_⟩
      rw [h3 i]
      by_cases hik : k = i
      · subst hik
        rw [List.getElem?_set_self hkl, List.getElem?_eq_getElem hkl, Option.map_some, Option.map_some,
          if_neg (fun h => Nat.lt_irrefl k h.1), if_pos ⟨Nat.le_refl k, hc⟩]
      · simp only [List.getElem?_set_ne hik, succ_le_iff_of_ne hik]

theorem reset_spec {env : Env} {s : Sched} (hinv : Inv env s) :
    ∃ s', reset s = .ok s' ∧ Inv env s' ∧ s'.cur = s.cur ∧ abs s' = Spec.TdmaSched.reset (abs s) := by
  obtain ⟨⟨hl, hc, hbw⟩, hal⟩ := hinv
  obtain ⟨bs, h1, h2, h3⟩ := resetLoop_spec s.cur 25 0 s.bucket ((Nat.zero_add 25).trans hl.symm)
  -- a bucket of the result is a bucket of `s`, as it was or emptied
  have hmem : ∀ b' ∈ bs, ∃ b ∈ s.bucket, b' = b ∨ b' = { b with numItems := 0 } := by
    intro b' hb'
    obtain ⟨i, hi⟩ := List.mem_iff_getElem?.mp hb'
    rw [h3 i] at hi
    obtain ⟨b, hg, hi⟩ := Option.map_eq_some_iff.mp hi
    refine ⟨b, List.mem_of_getElem? hg, ?_⟩
    split at hi
    · exact Or.inr hi.symm
    · exact Or.inl hi.symm
  refine ⟨{ s with bucket := bs }, ?_, ⟨⟨h2.trans hl, hc, fun b' hb' => ?_⟩, fun b' hb' it hit => ?_⟩, rfl, ?_⟩
  · simp only [reset, nf, bind, Except.bind, h1]; rfl
  · obtain ⟨b, hb, h | h⟩ := hmem b' hb'
    · exact h ▸ hbw b hb
    · exact h ▸ ⟨(hbw b hb).1, Nat.zero_le _⟩
  · obtain ⟨b, hb, h | h⟩ := hmem b' hb'
    · exact hal b hb it (h ▸ hit)
    · rw [h] at hit; simp [live] at hit
  · funext d
    rw [Spec.TdmaSched.reset]
    by_cases hd : d < 25
    · have hlt : (s.cur + d) % 25 < s.bucket.length := by rw [hl]; exact Nat.mod_lt _ (by decide)
      have hget := h3 ((s.cur + d) % 25)
      rw [List.getElem?_eq_getElem hlt, Option.map_some] at hget
      rw [abs_get _ d _ hd hget]
      by_cases h0 : d = 0
      · subst h0
        rw [if_neg (fun h => h.2 (Nat.mod_eq_of_lt hc)), if_pos rfl,
          abs_get s 0 _ hd (List.getElem?_eq_getElem hlt)]
      · have hp : (s.cur + d) % 25 ≠ s.cur := fun h =>
          h0 (ring_inj s.cur hd (by decide) (h.trans (Nat.mod_eq_of_lt hc).symm))
        rw [if_pos ⟨Nat.zero_le _, hp⟩, if_neg h0]
        rfl
    · rw [abs_ge _ d hd, if_neg (fun h0 : d = 0 => hd (h0 ▸ by decide))]

/-! ### the observable result of a step -/

/-- the observable result of a model step agrees with the specification's -/
def OutMatch (o : Out) (so : Spec.TdmaSched.Out Cb) : Prop :=
  o.rc = so.rc ∧ Spec.TdmaSched.ValidRun so.toRun (o.ran.map absItem)

def OutsMatch : List Out → List (Spec.TdmaSched.Out Cb) → Prop
  | [], [] => True
  | o :: os, so :: sos => OutMatch o so ∧ OutsMatch os sos
  | _, _ => False

theorem validRun_nil : Spec.TdmaSched.ValidRun ([] : List (AItem Cb)) [] :=
  ⟨List.Perm.nil, List.Pairwise.nil⟩

end OsmoVerif.TdmaSched
