/-
Lemmas for the GSM time model (C19): stores that keep their value, `ADD_MODULO`, the carry path of `l1s_time_inc`,
`gsm_gsmtime2fn` where no intermediate is negative, and the arithmetic of the moduli 26 and 51 behind them.
-/
import OsmoVerif.Model.GsmTime

namespace OsmoVerif.GsmTime

theorem u8_of_lt {x : Nat} (h : x < 256) : u8 x = x := Nat.mod_eq_of_lt h
theorem u16_of_lt {x : Nat} (h : x < 65536) : u16 x = x := Nat.mod_eq_of_lt h
theorem u32_of_lt {x : Nat} (h : x < 4294967296) : u32 x = x := Nat.mod_eq_of_lt h

/-- `ADD_MODULO` adds modulo `m` when the sum is below `m`, the step is at most `m` and the lvalue holds `2m - 1`. -/
theorem addModulo_eq (wrap : Nat → Nat) (x d m : Nat) (hx : x < m) (hd : d ≤ m)
    (hw : ∀ y < 2 * m, wrap y = y) : addModulo wrap x d m = (x + d) % m := by
  unfold addModulo
  simp only [hw (x + d) (by omega)]
  split
  · rw [hw _ (by omega), Nat.mod_eq_sub_mod ‹_›, Nat.mod_eq_of_lt (by omega)]
  · exact (Nat.mod_eq_of_lt (by omega)).symm

/-! ### `l1s_time_inc` -/

/-- The incremental path on a time whose counters are in range: T2 and T3 count modulo 26 and 51, TC steps when T3
wraps, T1 when both wrap. -/
theorem cTimeInc_one (fn t1 t2 t3 tc : Nat) (hfn : fn < Gen.cGsmMaxFn) (h1 : t1 < 2048) (h2 : t2 < 26)
    (h3 : t3 < 51) (hc : tc < 8) :
    cTimeInc ⟨fn, t1, t2, t3, tc⟩ 1 =
      { fn := (fn + 1) % Gen.cGsmMaxFn
        t1 := if (t3 + 1) % 51 = 0 ∧ (t2 + 1) % 26 = 0 then (t1 + 1) % 2048 else t1
        t2 := (t2 + 1) % 26
        t3 := (t3 + 1) % 51
        tc := if (t3 + 1) % 51 = 0 then (tc + 1) % 8 else tc } := by
  have e : u32 1 = 1 := rfl
  simp only [cTimeInc, e, if_true]
  rw [addModulo_eq u32 _ 1 _ hfn (by decide) (fun y hy => u32_of_lt (Nat.lt_of_lt_of_le hy (by decide))),
    addModulo_eq u8 _ 1 26 h2 (by decide) (fun y hy => u8_of_lt (by omega)),
    addModulo_eq u8 _ 1 51 h3 (by decide) (fun y hy => u8_of_lt (by omega)),
    addModulo_eq u8 _ 1 8 hc (by decide) (fun y hy => u8_of_lt (by omega)),
    addModulo_eq u16 _ 1 2048 h1 (by decide) (fun y hy => u16_of_lt (by omega))]
  by_cases c3 : (t3 + 1) % 51 = 0
  · by_cases c2 : (t2 + 1) % 26 = 0
    · simp only [c3, c2, if_true, and_self]
    · simp only [c3, c2, if_true, if_false, and_false]
  · simp only [c3, if_false, false_and]

theorem cTimeInc_of_ne_one (t : GsmTime) (delta : Nat) (hfn : t.fn < Gen.cGsmMaxFn) (hd : delta ≤ Gen.cGsmMaxFn)
    (hd1 : delta ≠ 1) : cTimeInc t delta = cFn2GsmTime ((t.fn + delta) % Gen.cGsmMaxFn) := by
  have e : u32 delta = delta := u32_of_lt (Nat.lt_of_le_of_lt hd (by decide))
  simp only [cTimeInc, e, hd1, if_false]
  rw [addModulo_eq u32 _ _ _ hfn hd (fun y hy => u32_of_lt (Nat.lt_of_lt_of_le hy (by decide)))]

/-! ### one frame later: TC follows FN div 51, T1 follows FN div (26 · 51), through the wrap of the hyperframe -/

theorem div_succ (n m : Nat) : (n + 1) / m = if (n + 1) % m = 0 then n / m + 1 else n / m := by
  rw [Nat.succ_div]
  simp only [Nat.dvd_iff_mod_eq_zero]
  split <;> rfl

theorem tc_succ (fn : Nat) :
    (fn + 1) % 2715648 / 51 % 8 = if (fn + 1) % 51 = 0 then (fn / 51 + 1) % 8 else fn / 51 % 8 := by
  rw [show 2715648 = 51 * (8 * 6656) from rfl, Nat.mod_mul_right_div_self, Nat.mod_mul_right_mod, div_succ]
  split <;> rfl

/-- T3 and T2 wrap together exactly at the multiples of 26 · 51 (26 and 51 are coprime). -/
theorem carry_iff (n : Nat) : (n % 51 = 0 ∧ n % 26 = 0) ↔ n % 1326 = 0 := by omega

theorem t1_succ (fn : Nat) (h : fn < 2715648) :
    (fn + 1) % 2715648 / 1326 =
      if (fn + 1) % 51 = 0 ∧ (fn + 1) % 26 = 0 then (fn / 1326 + 1) % 2048 else fn / 1326 := by
  simp only [carry_iff]
  rw [show 2715648 = 1326 * 2048 from rfl, Nat.mod_mul_right_div_self, div_succ]
  split
  · rfl
  · exact Nat.mod_eq_of_lt (Nat.div_lt_of_lt_mul h)

theorem t1_step (fn : Nat) (h : (fn + 1) % 1326 = 0) : fn / 1326 + 1 = (fn + 1) / 1326 := by omega

/-! ### `gsm_gsmtime2fn` -/

theorem tmod_nat (a b : Nat) (h : b ≤ a + 26) :
    (Int.ofNat a - Int.ofNat b + 26).tmod 26 = (((a + 26 - b) % 26 : Nat) : Int) := by
  have : (Int.ofNat a - Int.ofNat b + 26) = ((a + 26 - b : Nat) : Int) := by
    simp only [Int.ofNat_eq_natCast]; omega
  rw [this, Int.tmod_eq_emod_of_nonneg (by omega)]
  omega

/-- With T2 ≤ T3 + 26 the `int` operand of `%` is non-negative (C remainder = mathematical remainder); T1 in `uint16_t`
and T3 in `uint8_t` keep the result below 2^32, so the conversion to `uint32_t` changes nothing. -/
theorem cGsmTime2Fn_of_le (fn t1 t2 t3 tc : Nat) (h : t2 ≤ t3 + 26) (h1 : t1 < 65536) (h3 : t3 < 256) :
    cGsmTime2Fn ⟨fn, t1, t2, t3, tc⟩ = 51 * ((t3 + 26 - t2) % 26) + t3 + 1326 * t1 := by
  simp only [cGsmTime2Fn]
  rw [tmod_nat _ _ h]
  simp only [Int.ofNat_eq_natCast]
  have hd : (t3 + 26 - t2) % 26 < 26 := Nat.mod_lt _ (by decide)
  generalize (t3 + 26 - t2) % 26 = d at hd ⊢
  omega

/-- 51 ≡ −1 (mod 26): `51·d + r3` with `d ≡ r3 − r2 (mod 26)`, `d < 26`, is the number below 26 · 51 that is `r2`
modulo 26 and `r3` modulo 51. So the recomposition of the residues of `fn` is `fn` modulo 26 · 51 ... -/
theorem crt (fn : Nat) : 51 * ((fn % 51 + 26 - fn % 26) % 26) + fn % 51 = fn % 1326 := by omega

/-- ... and every (T1, T2, T3) with T2 < 26, T3 < 51 is read back from its recomposition. -/
theorem recomp_parts (t1 t2 t3 : Nat) (h2 : t2 < 26) (h3 : t3 < 51) :
    (51 * ((t3 + 26 - t2) % 26) + t3 + 1326 * t1) / 1326 = t1
      ∧ (51 * ((t3 + 26 - t2) % 26) + t3 + 1326 * t1) % 26 = t2
      ∧ (51 * ((t3 + 26 - t2) % 26) + t3 + 1326 * t1) % 51 = t3 := by
  omega

end OsmoVerif.GsmTime
