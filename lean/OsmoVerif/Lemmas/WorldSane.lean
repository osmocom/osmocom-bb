/-
The invariant `Sane` of the fake_trx world (C14): every configured hopping object came out of
`HoppingParams.__init__`, drop period ≥ 1, drop amount ≥ 0, randomisation thresholds ≥ 0,
`clck_src` exists while the generator runs, queued messages are as `parse_msg` leaves them.
It holds for the start-up world, is preserved by every operation, and under it the clock tick
(clck_tick → forward_msg → handle_data_msg → send_msg) cannot raise.
-/
import OsmoVerif.Lemmas.WorldCtrl
import OsmoVerif.Lemmas.WorldStep
import OsmoVerif.Lemmas.WorldCodec
set_option linter.unusedSimpArgs false

namespace OsmoVerif.World
open OsmoVerif OsmoVerif.PyStr

/-- octets: the element type invariant of Python `bytes` -/
def Octets (d : List Nat) : Prop := ∀ x ∈ d, x < 256

/-- a queued message as `parse_msg` leaves it: frame number, timeslot and attenuation set, the
burst (if any) byte-valued -/
def MsgSane (m : Trxd.TxMsg) : Prop :=
  m.fn.isSome = true ∧ m.tn.isSome = true ∧ m.pwr.isSome = true ∧ m.WellTyped

/-- per-transceiver invariant of every reachable world -/
structure TrxSane (t : Trx) : Prop where
  /-- a configured hopping object came out of `HoppingParams.__init__` -/
  fh : ∀ hp, t.fh = some hp → ∃ hsn maio ma, Hopping.pyInit hsn maio ma = .ok hp
  dropPeriod : 1 ≤ t.dropPeriod
  dropAmount : 0 ≤ t.dropAmount
  toaThr : 0 ≤ t.toaThr
  ciThr : 0 ≤ t.ciThr
  rssiThr : t.fakeRssi = true → 0 ≤ t.rssiThr
  queue : ∀ m ∈ t.txQueue, MsgSane m

def AllSane (ts : List Trx) : Prop := ∀ t ∈ ts, TrxSane t

/-- invariant of every reachable world -/
structure Sane (w : World) : Prop where
  trxs : AllSane w.trxs
  /-- `clck_src` exists once the generator has been started -/
  clk : w.clkRunning = true → w.clkSrc.isSome = true

theorem allSane_modify {ts : List Trx} (h : AllSane ts) (i : Nat) {f : Trx → Trx}
    (hf : ∀ t, TrxSane t → TrxSane (f t)) : AllSane (ts.modify i f) := by
  intro t ht
  obtain ⟨k, hk⟩ := List.mem_iff_getElem?.mp ht
  rw [List.getElem?_modify] at hk
  cases hts : ts[k]? with
  | none => rw [hts] at hk; cases hk
  | some t0 =>
    have h0 : TrxSane t0 := h t0 (List.mem_iff_getElem?.mpr ⟨k, hts⟩)
    rw [hts] at hk
    split at hk
    · cases hk; exact hf t0 h0
    · cases hk; exact h0

theorem allSane_setTrx {w : World} (h : AllSane w.trxs) (i : Nat) {f : Trx → Trx}
    (hf : ∀ t, TrxSane t → TrxSane (f t)) : AllSane (setTrx w i f).trxs :=
  allSane_modify h i hf

theorem allSane_get {w : World} (h : AllSane w.trxs) {i : Nat} {t : Trx} (ht : w.trxs[i]? = some t) :
    TrxSane t := h t (List.mem_iff_getElem?.mpr ⟨i, ht⟩)

theorem hopFreq_ok {t : Trx}
    (h : ∀ hp, t.fh = some hp → ∃ hsn maio ma, Hopping.pyInit hsn maio ma = .ok hp) (fn : Nat) :
    (∃ f, t.hop.getTxFreq fn = .ok f) ∧ ∃ f, t.hop.getRxFreq fn = .ok f := by
  unfold Hopping.Trx.getTxFreq Hopping.Trx.getRxFreq Trx.hop
  cases hf : t.fh with
  | none => exact ⟨⟨_, rfl⟩, _, rfl⟩
  | some hp =>
    obtain ⟨hsn, maio, ma, hi⟩ := h hp hf
    obtain ⟨v, hv⟩ := Hopping.resolve_total hi fn
    simp only [hv]
    exact ⟨⟨_, rfl⟩, _, rfl⟩

/-! ### the burst path cannot raise in a sane world -/

theorem ok_bind {α β : Type} (a : α) (f : α → Except Exc β) : (Except.ok a >>= f) = f a := rfl
theorem pure_eq_ok {α : Type} (a : α) : (pure a : Except Exc α) = Except.ok a := rfl

/-- the burst path only lowers drop counters, and not below 0 -/
theorem AllSane.of_burst {w w' : World} (hf : BurstFrame w w') (h : AllSane w.trxs) : AllSane w'.trxs := by
  intro t' hmem
  obtain ⟨i, hi⟩ := List.mem_iff_getElem?.mp hmem
  cases h0 : w.trxs[i]? with
  | none => rw [hf.static.none i h0] at hi; cases hi
  | some t =>
    obtain ⟨d, hd⟩ := hf.static.2.2 i t h0
    have ht := allSane_get h h0
    have h2 := (hf.dropAmount i t t' h0 hi).2 ht.dropAmount
    rw [hd] at hi
    cases hi
    exact { ht with dropAmount := h2 }

theorem clckTick_sane {w : World} {j : Nat} (fn : Nat) (hs : AllSane w.trxs) (hj : j < w.trxs.length) :
    ∃ w' ds st, clckTick w j fn = .ok (w', ds, st) ∧ AllSane w'.trxs ∧
      w'.trxs.length = w.trxs.length := by
  obtain ⟨t, ht⟩ := getElem?_of_lt hj
  have st := allSane_get hs ht
  obtain ⟨w', ds, n, h⟩ := clckTick_total (fn := fn) ht
    (fun m hm => ⟨(st.queue m hm).2.2.2, (st.queue m hm).2.2.1⟩)
    (fun t ht => by
      obtain ⟨⟨f, hf⟩, g, hg⟩ := hopFreq_ok (hs t ht).fh fn
      exact ⟨⟨f, by simp only [Trx.getTxFreq, hf]⟩, ⟨g, by simp only [Trx.getRxFreq, hg]⟩,
        by have := (hs t ht).dropPeriod; omega, (hs t ht).toaThr, (hs t ht).rssiThr, (hs t ht).ciThr⟩)
  obtain ⟨t', ht', -, hf⟩ := clckTick_frame h
  cases ht.symm.trans ht'
  refine ⟨w', ds, n, h, AllSane.of_burst hf ?_, clckTick_length h⟩
  split
  · exact allSane_setTrx hs j fun _ h' =>
      { h' with queue := fun m hm => st.queue m (List.mem_filter.mp hm).1 }
  · exact hs

theorem tick_go_ok (fn : Nat) :
    ∀ (js : List Nat) (w : World) (acc : List Dgram) (st : Nat), (∀ j ∈ js, j < w.trxs.length) →
      AllSane w.trxs →
      (tick.go fn w acc st js).exc = none ∧ AllSane (tick.go fn w acc st js).world.trxs ∧
        (tick.go fn w acc st js).world.clkSrc.isSome = true := by
  intro js
  induction js with
  | nil =>
    intro w acc st _ hs
    rw [tick.go]
    exact ⟨rfl, hs, rfl⟩
  | cons j js ih =>
    intro w acc st hjs hs
    obtain ⟨w2, ds, st2, h2, hs2, hl2⟩ := clckTick_sane fn hs (hjs j List.mem_cons_self)
    simp only [tick.go, h2]
    exact ih w2 (acc ++ ds) (st + st2)
      (fun x hx => by rw [hl2]; exact hjs x (List.mem_cons_of_mem _ hx)) hs2

theorem tick_ok {w : World} (h : Sane w) : (tick w).exc = none ∧ Sane (tick w).world := by
  cases hr : w.clkRunning with
  | false => rw [tick_stopped hr]; exact ⟨rfl, h⟩
  | true =>
    obtain ⟨fn, hfn⟩ := Option.isSome_iff_exists.mp (h.clk hr)
    rw [tick_eq_go hr hfn]
    obtain ⟨h1, h2, h3⟩ := tick_go_ok fn (List.range w.trxs.length) w (Sched.clockInds w fn) 0
      (fun j hj => List.mem_range.mp hj) h.trxs
    exact ⟨h1, h2, fun _ => h3⟩

/-! ### commands keep the invariant -/

def OptPatchSane : Option Patch → Prop
  | none => True
  | some p => PatchSane p

theorem patch_apply_sane {p : Patch} {t : Trx} (hp : PatchSane p) (ht : TrxSane t) :
    TrxSane (p.apply t) := by
  cases p with
  | toa b th => exact { ht with toaThr := hp }
  | rssi b th => exact { ht with rssiThr := fun _ => hp }
  | rssiOff => exact { ht with rssiThr := fun h => by cases h }
  | ci b th => exact { ht with ciThr := hp }
  | drop n per => exact { ht with dropAmount := hp.1, dropPeriod := hp.2 }
  | fh hp' => exact { ht with fh := fun x hx => by cases hx; exact hp }
  | _ => exact { ht with }

macro "sane_finish" h:ident : tactic =>
  `(tactic| (
    simp only [arg_one, arg_two, bind, Except.bind, pure, Except.pure, map_eq] at $h:ident
    repeat' split at $h:ident
    all_goals first
      | (cases $h:ident; done)
      | contradiction
      | (cases $h:ident; simp only [OptPatchSane, PatchSane]; done)
      | (cases $h:ident; simp only [OptPatchSane, PatchSane]; omega)
      | (cases ‹(Except.ok _ : Except Exc Int) = Except.ok _›; cases $h:ident
         simp only [OptPatchSane, PatchSane]; omega)))

theorem ctrlCmdHandler_sane {req : List Str} {patch : Option Patch} {res : Option Int}
    (h : ctrlCmdHandler req = .ok (patch, res)) : OptPatchSane patch := by
  revert h
  refine ctrlCmdHandler_cases
    (motive := fun req => ctrlCmdHandler req = .ok (patch, res) → OptPatchSane patch) req
    ?_ ?_ ?_ ?_ ?_ ?_ ?_ ?_ ?_ ?_ (fun h h' => by rw [h] at h'; cases h'; trivial)
  · intro a h
    rw [ctrlCmdHandler_setta] at h
    obtain ⟨_, -, h⟩ := bind_toInt_ok h
    cases h; trivial
  · intro a b h
    rw [ctrlCmdHandler_fake_toa2] at h
    obtain ⟨_, -, h⟩ := bind_toInt_ok h
    obtain ⟨thr, -, h⟩ := bind_toInt_ok h
    split at h
    · cases h; trivial
    next hn => cases h; exact Int.not_lt.mp hn
  · intro a h
    rw [ctrlCmdHandler_fake_toa1] at h
    obtain ⟨_, -, h⟩ := bind_toInt_ok h
    cases h; trivial
  · intro a b h
    rw [ctrlCmdHandler_fake_rssi2] at h
    obtain ⟨thr, hthr, h⟩ := bind_toInt_ok h
    split at h
    · cases h; trivial
    next hn =>
      obtain ⟨_, -, h⟩ := bind_toInt_ok h
      obtain ⟨thr2, hthr2, h⟩ := bind_toInt_ok h
      cases h
      cases hthr.symm.trans hthr2
      exact Int.not_lt.mp hn
  · intro a h
    rw [ctrlCmdHandler_fake_rssi1] at h
    obtain ⟨_, -, h⟩ := bind_toInt_ok h
    cases h; trivial
  · intro a b h
    rw [ctrlCmdHandler_fake_ci2] at h
    obtain ⟨_, -, h⟩ := bind_toInt_ok h
    obtain ⟨thr, -, h⟩ := bind_toInt_ok h
    split at h
    · cases h; trivial
    next hn => cases h; exact Int.not_lt.mp hn
  · intro a h
    rw [ctrlCmdHandler_fake_ci1] at h
    obtain ⟨_, -, h⟩ := bind_toInt_ok h
    cases h; trivial
  · intro a h
    rw [ctrlCmdHandler_fake_drop1] at h
    obtain ⟨num, -, h⟩ := bind_toInt_ok h
    split at h
    · cases h; trivial
    next hn => cases h; exact ⟨Int.not_lt.mp hn, Int.le_refl 1⟩
  · intro a b h
    rw [ctrlCmdHandler_fake_drop2] at h
    obtain ⟨num, -, h⟩ := bind_toInt_ok h
    split at h
    · cases h; trivial
    next hn =>
      obtain ⟨period, -, h⟩ := bind_toInt_ok h
      split at h
      · cases h; trivial
      next hp => cases h; exact ⟨Int.not_lt.mp hn, by omega⟩
  · intro a h
    rw [ctrlCmdHandler_fake_trxc_delay] at h
    obtain ⟨_, -, h⟩ := bind_toInt_ok h
    split at h <;> (cases h; trivial)

def ActionSane : Action → Prop
  | .patch p _ => PatchSane p
  | _ => True

macro "asane_finish" h:ident : tactic =>
  `(tactic| (
    simp only [arg_one, arg_two, bind, Except.bind, pure, Except.pure, map_eq] at $h:ident
    repeat' split at $h:ident
    all_goals first
      | (cases $h:ident; done)
      | contradiction
      | (cases $h:ident; simp only [ActionSane, PatchSane]; done)))

theorem commonCmd_sane {trx : Trx} {req : List Str} {a : Action} (h : commonCmd trx req = .ok a) :
    ActionSane a := by
  cases commonCmd_out h with
  | patch _ _ _ hp => exact hp
  | _ => trivial

theorem powerSet_sane (on : Bool) : ∀ (list : List Nat) (w : World), Sane w → Sane (powerSet w list on) := by
  intro list
  induction list with
  | nil => intro w h; exact h
  | cons j js ih =>
    intro w h
    simp only [powerSet, List.foldl_cons]
    apply ih
    refine ⟨allSane_setTrx h.trxs j (fun t ht => ?_), h.clk⟩
    cases on with
    | true => exact { ht with }
    | false =>
      exact { ht with
        fh := fun hp hh => by cases hh
        queue := fun m hm => by cases hm }

theorem powerClock_sane {w : World} (i : Nat) (on : Bool) (h : Sane w) : Sane (powerClock w i on) := by
  have key : ∀ links : List Nat, Sane
      (if ¬ w.clkRunning ∧ links.length > 0 then
        { w with clkLinks := links, clkRunning := true, clkSrc := some Gen.World.clckStart }
      else if w.clkRunning ∧ links.isEmpty then { w with clkLinks := links, clkRunning := false }
      else { w with clkLinks := links }) := by
    intro links
    split
    · exact ⟨h.trxs, fun _ => rfl⟩
    · split
      · exact ⟨h.trxs, fun hr => by cases hr⟩
      · exact ⟨h.trxs, h.clk⟩
  exact key _

theorem powered_sane {w : World} (i : Nat) (self : Trx) (on : Bool) (h : Sane w) :
    Sane (powered w i self on) := by
  unfold powered
  split
  · exact powerSet_sane on _ w h
  · exact powerClock_sane i on (powerSet_sane on _ w h)

theorem applyPatch_sane {w : World} (i : Nat) {p : Option Patch} (h : Sane w) (hp : OptPatchSane p) :
    Sane (applyPatch w i p) := by
  cases p with
  | none => exact h
  | some p => exact ⟨allSane_setTrx h.trxs i (fun t ht => patch_apply_sane hp ht), h.clk⟩

theorem parseCmd_sane {w w' : World} {i : Nat} {req : List Str} {r : CmdRes} (h : Sane w)
    (hp : parseCmd w i req = .ok (w', r)) : Sane w' := by
  obtain ⟨p, _, hc, hw⟩ := parseCmd_ok_cases hp
  have h1 := applyPatch_sane i h (ctrlCmdHandler_sane hc)
  obtain rfl | ⟨trx, a, -, ha, hs⟩ := hw
  · exact h1
  · cases hs with
    | patch q rc => exact applyPatch_sane i h1 (p := some q) (commonCmd_sane ha)
    | reply rc ps => exact h1
    | power on trx' ht => exact powered_sane i trx' on h1
    | measure f => exact ⟨h1.trxs, h1.clk⟩

theorem recvDataMsg_sane {w : World} (i : Nat) {d : List Nat} (hd : Octets d) (h : Sane w) :
    Sane (recvDataMsg w i d).world := by
  cases ht : w.trxs[i]? with
  | none => simp only [recvDataMsg, ht]; exact h
  | some t =>
    rw [recvDataMsg_eq d ht]
    split
    · exact h
    · rename_i msg hm
      split
      · exact h
      · split
        · exact h
        · have hms : MsgSane msg :=
            Trxd.TxMsg.parseMsg_sane hm (fun x hx => hd x (List.mem_of_mem_take hx))
          refine ⟨allSane_setTrx h.trxs i (fun t ht => ?_), h.clk⟩
          have hq : ∀ m ∈ t.txQueue ++ [msg], MsgSane m := by
            intro m hm
            rcases List.mem_append.mp hm with h1 | h1
            · exact ht.queue m h1
            · cases List.mem_singleton.mp h1; exact hms
          exact { ht with queue := hq }

/-- data datagrams are octet strings (the element type of Python `bytes`) -/
def Op.Octets : Op → Prop
  | .data _ d => World.Octets d
  | _ => True

/-! ### the start-up world is sane -/

theorem trxSane_fresh (addr port idx : Nat) (mgt clk : Bool) :
    TrxSane { addr := addr, basePort := port, childIdx := idx, childMgt := mgt, hasClock := clk } :=
  { fh := fun hp h => by cases h
    dropPeriod := Int.le_refl 1
    dropAmount := Int.le_refl 0
    toaThr := Int.le_refl 0
    ciThr := Int.le_refl 0
    rssiThr := fun h => by cases h
    queue := fun m hm => by cases hm }

theorem allSane_append {ts : List Trx} {t : Trx} (h : AllSane ts) (ht : TrxSane t) : AllSane (ts ++ [t]) := by
  intro x hx
  rcases List.mem_append.mp hx with h1 | h1
  · exact h x h1
  · cases List.mem_singleton.mp h1; exact ht

/-! ### no operation raises -/

/-- the operation addresses an existing transceiver -/
def Op.InRange (n : Nat) : Op → Prop
  | .ctrl i _ _ => i < n
  | .data i _ => i < n
  | _ => True

theorem step_exc {w : World} (op : Op) (hr : op.InRange w.trxs.length) (h : Sane w) :
    (step w op).exc = none := by
  cases op with
  | ctrl i sp d =>
    obtain ⟨t, ht⟩ := getElem?_of_lt (show i < w.trxs.length from hr)
    simp only [step, ht]
    exact (handleRx_total hr t.addr sp d).1
  | data i d => exact (recvDataMsg_total (show i < w.trxs.length from hr) d).1
  | tick => exact (tick_ok h).1
  | jump fn => simp only [step, jump]; split <;> rfl

end OsmoVerif.World
