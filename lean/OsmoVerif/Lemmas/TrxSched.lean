/-
C11, trxcon: lemmas about the model of the consumers of the multiframe layouts
(`Model/TrxSched.lean`): the channel-state allocation of `l1sched_configure_ts`, the frame
lookups, the `elapsed` arithmetic and the loop of `subst_frame_loss`.
-/
import OsmoVerif.Model.TrxSched
import OsmoVerif.Lemmas.Mframe
import OsmoVerif.Lemmas.Basics

namespace OsmoVerif.TrxSched
open OsmoVerif.Gen OsmoVerif.Mframe
open OsmoVerif.Gen.TrxconMframe (Layout Frame Lchan Pchan layouts)
open OsmoVerif.Gen.TrxconLchanDesc

/-! ## `LAYOUT_HAS_LCHAN` -/

/-- with a 64-bit mask and `lchan < 64` the macro is the bit test -/
theorem hasLchan_eq (mask t : Nat) (ht : t < 64) (hm : mask < 18446744073709551616) :
    hasLchan mask t = .ok (mask.testBit t) := by
  have h1 : u64 mask = mask := Nat.mod_eq_of_lt hm
  have h2 : u64 (1 <<< t) = 2 ^ t := by
    rw [Nat.one_shiftLeft]
    exact Nat.mod_eq_of_lt (Nat.pow_lt_pow_right (by decide) ht)
  simp only [hasLchan, ht, if_true, h1, h2, and_two_pow_ne_zero]

/-! ## the list of channel states -/

theorem updFirst_types (chan : Nat) (f : LchanState → LchanState) (hf : ∀ l, (f l).type = l.type)
    (ls : List LchanState) : (updFirst chan f ls).map (·.type) = ls.map (·.type) := by
  induction ls with
  | nil => rfl
  | cons l rest ih =>
    simp only [updFirst]
    split
    · simp [hf]
    · simp [ih]

theorem mem_types_iff {lchans : List LchanState} {types : List Nat} {mask : Nat}
    (h : lchans.map (·.type) = types.filter fun t => mask.testBit t) (t : Nat) :
    (∃ l ∈ lchans, l.type = t) ↔ t ∈ types ∧ mask.testBit t = true := by
  rw [← List.mem_filter, ← h, List.mem_map]

theorem allocLchans_types (mask : Nat) (hm : mask < 18446744073709551616) (l : List Nat)
    (hl : ∀ t ∈ l, t < 64 ∧ t < lchanDesc.length) (acc : List LchanState) :
    ∃ r, allocLchans mask l acc = .ok r ∧
      r.map (·.type) = acc.map (·.type) ++ l.filter fun t => mask.testBit t := by
  induction l generalizing acc with
  | nil => exact ⟨acc, rfl, by simp⟩
  | cons t rest ih =>
    obtain ⟨h64, hd⟩ := hl t (by simp)
    have hrest : ∀ t ∈ rest, t < 64 ∧ t < lchanDesc.length := fun x hx => hl x (by simp [hx])
    simp only [allocLchans, hasLchan_eq mask t h64 hm, bind, Except.bind]
    by_cases hb : mask.testBit t = true
    · simp only [hb, Bool.not_true, Bool.false_eq_true, if_false, List.getElem?_eq_getElem hd]
      -- with or without the automatic activation the list goes on with one more state, of type `t`
      have key : ∀ acc' : List LchanState, acc'.map (·.type) = acc.map (·.type) ++ [t] →
          ∃ r, allocLchans mask rest acc' = .ok r ∧
            r.map (·.type) = acc.map (·.type) ++ (t :: rest).filter fun t => mask.testBit t :=
        fun acc' h' => by
          obtain ⟨r, hr, ht⟩ := ih hrest acc'
          exact ⟨r, hr, by rw [ht, h']; simp [hb]⟩
      split
      · exact key _ (by rw [updFirst_types _ _ (fun l => by split <;> rfl)]; simp)
      · exact key _ (by simp)
    · simp only [hb, Bool.not_false, if_true]
      obtain ⟨r, hr, ht⟩ := ih hrest acc
      exact ⟨r, hr, by rw [ht]; simp [hb]⟩

/-! ## `l1sched_configure_ts` -/

theorem getTs_of_lt {s : Sched} {tn : Nat} (h : tn < s.ts.length) : getTs s tn = .ok s.ts[tn] := by
  simp only [getTs, List.getElem?_eq_getElem h]

theorem clearTs_ok {ts : Ts} (h : ts.lchansInit = true) :
    ∃ ts', clearTs ts = .ok ts' ∧ ts'.layout = none ∧ ts'.lchansInit = true := by
  simp only [clearTs, deactivateAll, h, Bool.not_true, Bool.false_eq_true, if_false, bind, Except.bind]
  exact ⟨_, rfl, rfl, rfl⟩

theorem configureGetTs_total (s : Sched) (tn : Nat) (htn : tn < s.ts.length)
    (hinit : ∀ ts, s.ts[tn] = some ts → ts.lchansInit = true) : ∃ r, configureGetTs s tn = .ok r := by
  cases hts : s.ts[tn] with
  | none =>
    simp only [configureGetTs, getTs_of_lt htn, hts, bind, Except.bind, pure, Except.pure]
    exact ⟨_, rfl⟩
  | some ts =>
    obtain ⟨ts', hc, _⟩ := clearTs_ok (hinit ts hts)
    simp only [configureGetTs, getTs_of_lt htn, hts, bind, Except.bind, hc, pure, Except.pure]
    exact ⟨_, rfl⟩

theorem configureRest_none {config tn : Nat} (h : layoutForVal config (u8 tn) = none) (types : List Nat)
    (s : Sched) (ts0 : Ts) (ev0 : List Ev) :
    configureRest types s tn config ts0 ev0 =
      .ok (.EINVAL, setTs s tn (some { ts0 with layout := none }), ev0) := by
  simp only [configureRest, h, pure, Except.pure]

theorem configureRest_some {config tn : Nat} {L : Layout} (h : layoutForVal config (u8 tn) = some L)
    (hm : L.lchanMask < 18446744073709551616) {types : List Nat}
    (htypes : ∀ t ∈ types, t < 64 ∧ t < lchanDesc.length) (s : Sched) (ts0 : Ts) (ev0 : List Ev) :
    ∃ lch, configureRest types s tn config ts0 ev0 =
        .ok (.ok, setTs s tn (some { ts0 with layout := some L, lchansInit := true, lchans := lch }),
          ev0 ++ [.pchanComb (u8 tn) config]) ∧
      lch.map (·.type) = types.filter fun t => L.lchanMask.testBit t := by
  obtain ⟨r, hr, ht⟩ := allocLchans_types L.lchanMask hm types htypes []
  refine ⟨r, ?_, by simpa using ht⟩
  simp only [configureRest, h, (layoutForVal_some h).2.1, bne_self_eq_false, Bool.false_eq_true, if_false,
    hr, bind, Except.bind, pure, Except.pure]

/-! ## the frame lookups -/

/-- for a layout with a table of `period` rows, `0 < period < 256`, the 8-bit offset of
    `l1sched_handle_rx_burst` addresses the same row as `frames[fn % period]` -/
theorem lookupU8_eq (L : Layout) (h : tableOk L = true) (hp : L.period < 256) (fn : Nat) :
    lookupU8 L fn = liftLookup (lookup L fn) := by
  obtain ⟨hpos, fr, hfr, hlen, hrow⟩ := tableOk_lookup h
  obtain ⟨hlt, hlk⟩ := hrow fn
  have hne : L.period ≠ 0 := by omega
  have hu : u8 (fn % L.period) = fn % L.period := by
    have : fn % L.period < L.period := Nat.mod_lt _ hpos
    exact Nat.mod_eq_of_lt (by omega)
  simp only [lookupU8, hne, if_false, hu, frameAt, hfr, List.getElem?_eq_getElem hlt, hlk, liftLookup]

theorem lookup_total {L : Layout} (h : tableOk L = true) (fn : Nat) : ∃ f, lookup L fn = .ok f := by
  obtain ⟨_, fr, _, _, hrow⟩ := tableOk_lookup h
  obtain ⟨hlt, hlk⟩ := hrow fn
  exact ⟨_, hlk⟩

/-! ## `subst_frame_loss` -/

/-- `elapsed` for two valid frame numbers: the distance from `last` to `fn` in the cyclic
    order of frame numbers when that is less than half a hyperframe, otherwise minus the
    distance back (the "older burst" case) -/
theorem elapsedOf_eq (fn last : Nat) (hfn : fn < H) (hl : last < H) :
    elapsedOf fn last =
      if (fn + H - last) % H < H / 2 then (((fn + H - last) % H : Nat) : Int)
      else (((fn + H - last) % H : Nat) : Int) - (H : Int) := by
  have e0 : toInt32 (u32 fn + 4294967296 - u32 last) = (fn : Int) - (last : Int) :=
    toInt32_sub fn last (Nat.lt_trans hfn (by decide)) (Nat.lt_trans hl (by decide))
  simp only [elapsedOf, e0, H] at hfn hl ⊢
  -- the distance in the cyclic order is the plain difference, plus a hyperframe if that is negative
  by_cases h : last ≤ fn
  · rw [Nat.sub_add_comm h, Nat.add_mod_right,
      Nat.mod_eq_of_lt (Nat.lt_of_le_of_lt (Nat.sub_le _ _) hfn), ← Int.ofNat_sub h]
    generalize fn - last = D
    by_cases hd : D < 2715648 / 2
    · rw [if_pos hd, if_neg (by omega), if_neg (by omega)]
    · rw [if_neg hd, if_pos (by omega)]
  · have hx : (fn : Int) - last = ((fn + 2715648 - last : Nat) : Int) - 2715648 := by omega
    have hlt : fn + 2715648 - last < 2715648 := by omega
    rw [Nat.mod_eq_of_lt hlt, hx]
    generalize fn + 2715648 - last = D at hlt ⊢
    by_cases hd : D < 2715648 / 2
    · rw [if_pos hd, if_neg (by omega), if_pos (by omega)]; omega
    · rw [if_neg hd, if_neg (by omega), if_neg (by omega)]
      rfl

/-- the frames `last + 1 .. last + n` (modulo the hyperframe) that the layout gives to
    Downlink channel `type`, each with the burst id of its row, in ascending order -/
def lostFrames (L : Layout) (type last n : Nat) : List (Nat × Nat) :=
  (List.range n).filterMap fun i =>
    match lookup L ((last + 1 + i) % H) with
    | .ok fp => if fp.dlChan.val = type then some ((last + 1 + i) % H, fp.dlBid) else none
    | .error _ => none

/-- frame `f` as a lost frame of Downlink channel `type`: its number and its row's burst id -/
def lostAt (L : Layout) (type f : Nat) : Option (Nat × Nat) :=
  match lookup L f with
  | .ok fp => if fp.dlChan.val = type then some (f, fp.dlBid) else none
  | .error _ => none

theorem lostFrames_eq (L : Layout) (type last n : Nat) :
    lostFrames L type last n =
      (List.range n).filterMap fun i => lostAt L type ((last + 1 + i) % H) :=
  rfl

theorem lostAt_of_lookup {L : Layout} {f : Nat} {fp : Frame} (h : lookup L f = .ok fp) (type : Nat) :
    lostAt L type f = if fp.dlChan.val = type then some (f, fp.dlBid) else none := by
  rw [lostAt, h]

theorem lostAt_eq_some (L : Layout) (type f g b : Nat) :
    lostAt L type f = some (g, b) ↔
      g = f ∧ ∃ fp, lookup L f = .ok fp ∧ fp.dlChan.val = type ∧ b = fp.dlBid := by
  unfold lostAt
  cases lookup L f with
  | error e => simp
  | ok fp =>
    by_cases hc : fp.dlChan.val = type
    · simp only [hc, if_true, Option.some.injEq, Prod.mk.injEq, Except.ok.injEq, true_and,
        exists_eq_left', eq_comm]
    · simp [hc]

theorem lostFrames_succ (L : Layout) (type last n : Nat) :
    lostFrames L type last (n + 1) =
      (lostAt L type ((last + 1) % H)).toList ++ lostFrames L type ((last + 1) % H) n := by
  have harith : ∀ i, (last + 1 + (i + 1)) % H = ((last + 1) % H + 1 + i) % H := fun i => by
    rw [Nat.add_assoc ((last + 1) % H), Nat.mod_add_mod, Nat.add_comm i 1]
  rw [lostFrames_eq, lostFrames_eq, List.range_succ_eq_map, List.filterMap_cons, List.filterMap_map]
  simp only [Function.comp_def, Nat.succ_eq_add_one, harith, Nat.add_zero]
  cases lostAt L type ((last + 1) % H) <;> rfl

/-- the statistics after the substituted frames `subs` -/
def TdmaAfter (td td' : Tdma) (subs : List (Nat × Nat)) : Prop :=
  td'.numProc % 18446744073709551616 = (td.numProc + subs.length) % 18446744073709551616 ∧
  td'.numLost % 18446744073709551616 = (td.numLost + subs.length) % 18446744073709551616 ∧
  td'.lastProc = (subs.getLast?.map (·.1)).getD td.lastProc

theorem TdmaAfter.nil (td : Tdma) : TdmaAfter td td [] := ⟨rfl, rfl, rfl⟩

/-- one more substituted frame in front: the statistics as the loop body updates them -/
theorem TdmaAfter.cons {td td' : Tdma} (p : Nat × Nat) {subs : List (Nat × Nat)}
    (h : TdmaAfter ⟨p.1, u64 (td.numProc + 1), u64 (td.numLost + 1)⟩ td' subs) :
    TdmaAfter td td' (p :: subs) := by
  obtain ⟨h1, h2, h3⟩ := h
  simp only [u64] at h1 h2
  refine ⟨?_, ?_, ?_⟩
  · rw [h1, Nat.mod_add_mod, List.length_cons, Nat.add_assoc, Nat.add_comm 1]
  · rw [h2, Nat.mod_add_mod, List.length_cons, Nat.add_assoc, Nat.add_comm 1]
  · rw [h3, List.getLast?_cons]
    cases subs.getLast? <;> rfl

theorem substLoop_succ {L : Layout} {bfn : Nat} {fp : Frame} (h : lookup L (u32 (bfn + 1) % H) = .ok fp)
    (type tn n : Nat) (td : Tdma) :
    substLoop L type tn (n + 1) bfn td =
      if fp.dlChan.val = type then
        match substLoop L type tn n (u32 (bfn + 1) % H)
            ⟨u32 (bfn + 1) % H, u64 (td.numProc + 1), u64 (td.numLost + 1)⟩ with
        | .ok (td', evs) => .ok (td', Ev.rx type tn (u32 (bfn + 1) % H) fp.dlBid :: evs)
        | .error e => .error e
      else substLoop L type tn n (u32 (bfn + 1) % H) td := by
  simp only [substLoop, h, liftLookup, bind, Except.bind, bne_iff_ne, ne_eq, ite_not, pure, Except.pure]
  by_cases hc : fp.dlChan.val = type
  · rw [if_pos hc, if_pos hc]
    cases substLoop L type tn n (u32 (bfn + 1) % H)
      ⟨u32 (bfn + 1) % H, u64 (td.numProc + 1), u64 (td.numLost + 1)⟩ <;> rfl
  · rw [if_neg hc, if_neg hc]

/-- the loop of `subst_frame_loss` over a layout whose lookups are total: it calls the
    handler for exactly the lost frames of the channel, with the layout's burst ids -/
theorem substLoop_spec (L : Layout) (hok : tableOk L = true) (type tn : Nat) (n last : Nat) (td : Tdma)
    (hl : last < H) :
    ∃ td', substLoop L type tn n last td =
        .ok (td', (lostFrames L type last n).map fun p => Ev.rx type tn p.1 p.2) ∧
      TdmaAfter td td' (lostFrames L type last n) := by
  induction n generalizing last td with
  | zero => exact ⟨td, rfl, TdmaAfter.nil td⟩
  | succ n ih =>
    have hb : u32 (last + 1) % H = (last + 1) % H := by
      rw [u32, Nat.mod_eq_of_lt (Nat.lt_trans (Nat.succ_lt_succ hl) (by decide))]
    obtain ⟨fp, hfp⟩ := lookup_total hok ((last + 1) % H)
    rw [lostFrames_succ, lostAt_of_lookup hfp, substLoop_succ (hb ▸ hfp), hb]
    have hlt : (last + 1) % H < H := Nat.mod_lt _ (by decide)
    by_cases hc : fp.dlChan.val = type
    · obtain ⟨td', h1, h2⟩ := ih ((last + 1) % H)
        ⟨(last + 1) % H, u64 (td.numProc + 1), u64 (td.numLost + 1)⟩ hlt
      rw [if_pos hc, if_pos hc, h1]
      exact ⟨td', rfl, TdmaAfter.cons ((last + 1) % H, fp.dlBid) h2⟩
    · rw [if_neg hc, if_neg hc]
      exact ih ((last + 1) % H) td hlt

theorem substLoop_total (L : Layout) (hok : tableOk L = true) (type tn : Nat) (n bfn : Nat) (td : Tdma) :
    ∃ r, substLoop L type tn n bfn td = .ok r := by
  induction n generalizing bfn td with
  | zero => exact ⟨_, rfl⟩
  | succ n ih =>
    obtain ⟨fp, hfp⟩ := lookup_total hok (u32 (bfn + 1) % H)
    rw [substLoop_succ hfp]
    split
    · obtain ⟨r, hr⟩ := ih (u32 (bfn + 1) % H)
        ⟨u32 (bfn + 1) % H, u64 (td.numProc + 1), u64 (td.numLost + 1)⟩
      rw [hr]
      exact ⟨_, rfl⟩
    · exact ih _ _

theorem substAfterElapsed_nat (L : Layout) (tn : Nat) (l : LchanState) (e : Nat) :
    substAfterElapsed L tn l (e : Int) =
      if L.period < e ∨ e = 0 then .ok (.EIO, l.tdma, [])
      else match substLoop L l.type tn (e - 1) l.tdma.lastProc l.tdma with
        | .ok (td, evs) => .ok (.ok, td, evs)
        | .error c => .error c := by
  rw [substAfterElapsed, if_neg (Int.not_lt.2 (Int.natCast_nonneg e))]
  by_cases h1 : L.period < e
  · rw [if_pos (Int.ofNat_lt.2 h1), if_pos (Or.inl h1)]
  · rw [if_neg (mt Int.ofNat_lt.1 h1)]
    by_cases h0 : e = 0
    · rw [if_pos (h0 ▸ rfl), if_pos (Or.inr h0)]
    · rw [if_neg (mt Int.natCast_eq_zero.1 h0), if_neg (not_or.2 ⟨h1, h0⟩),
        show ((e : Int) - 1).toNat = e - 1 by omega]
      cases substLoop L l.type tn (e - 1) l.tdma.lastProc l.tdma <;> rfl

theorem substFrameLoss_total (L : Layout) (hok : tableOk L = true) (tn : Nat) (l : LchanState) (fn : Nat) :
    ∃ r, substFrameLoss L tn l fn = .ok r := by
  unfold substFrameLoss
  by_cases h0 : l.tdma.numProc = 0
  · exact ⟨_, if_pos h0⟩
  · rw [if_neg h0]
    generalize elapsedOf fn l.tdma.lastProc = e
    unfold substAfterElapsed
    by_cases h1 : e < 0
    · exact ⟨_, if_pos h1⟩
    · rw [if_neg h1]
      by_cases h2 : e > (L.period : Int)
      · exact ⟨_, if_pos h2⟩
      · rw [if_neg h2]
        by_cases h3 : e = 0
        · exact ⟨_, if_pos h3⟩
        · rw [if_neg h3]
          obtain ⟨r, hr⟩ := substLoop_total L hok l.type tn (e - 1).toNat l.tdma.lastProc l.tdma
          rw [hr]
          exact ⟨_, rfl⟩

/-! ## the consumers on a configured timeslot -/

theorem lchanDesc_some (c : Lchan) : ∃ d, lchanDesc[c.val]? = some d := by
  have : c.val < lchanDesc.length := by cases c <;> decide
  exact ⟨_, List.getElem?_eq_getElem this⟩

/-- what `l1sched_handle_rx_burst` may do to the scheduler state: nothing, or rewrite the
    TDMA statistics of the first channel state of the frame's channel on that timeslot -/
def RxStateStep (s s' : Sched) (tn : Nat) (ts : Ts) (chan : Nat) : Prop :=
  s' = s ∨ ∃ td, s' = setTs s tn
    (some { ts with lchans := updFirst chan (fun l => { l with tdma := td }) ts.lchans })

theorem rxStateStep_keeps {s s' : Sched} {tn : Nat} {ts : Ts} {chan : Nat} (hlen : tn < s.ts.length)
    (hget : s.ts[tn] = some ts) (h : RxStateStep s s' tn ts chan) :
    s'.ts.length = s.ts.length ∧
    (∃ ts', s'.ts[tn]? = some (some ts') ∧ ts'.layout = ts.layout ∧ ts'.lchansInit = ts.lchansInit ∧
      ts'.index = ts.index ∧ ts'.lchans.map (·.type) = ts.lchans.map (·.type)) ∧
    ∀ k, k ≠ tn → s'.ts[k]? = s.ts[k]? := by
  rcases h with rfl | ⟨td, rfl⟩
  · exact ⟨rfl, ⟨ts, by rw [List.getElem?_eq_getElem hlen, hget], rfl, rfl, rfl, rfl⟩, fun _ _ => rfl⟩
  · refine ⟨by simp [setTs], ⟨{ ts with lchans := updFirst chan (fun l => { l with tdma := td }) ts.lchans },
      by simp [setTs, hlen], rfl, rfl, rfl, ?_⟩, fun k hk => ?_⟩
    · exact updFirst_types chan (fun l => { l with tdma := td }) (fun _ => rfl) ts.lchans
    · simp only [setTs]
      rw [List.getElem?_set_ne (Ne.symm hk)]

/-- `l1sched_handle_rx_burst` from the frame lookup on: `f` is row `fn % period` (the 8-bit
    offset loses nothing), `d` the description of its Downlink channel -/
theorem handleRxBurst_eq {s : Sched} {tn : Nat} {ts : Ts} {L : Layout} (hlen : tn < s.ts.length)
    (hget : s.ts[tn] = some ts) (hlay : ts.layout = some L) (hinit : ts.lchansInit = true)
    (hok : tableOk L = true) (hp : L.period < 256) {fn : Nat} {f : Frame} (hf : lookup L fn = .ok f)
    {d : Desc} (hd : lchanDesc[f.dlChan.val]? = some d) :
    handleRxBurst s tn fn =
      if d.rx = false then .ok ⟨.ENODEV, s, [], some f.dlBid⟩
      else match ts.lchans.find? (fun l => l.type == f.dlChan.val) with
        | none => .ok ⟨.ENODEV, s, [], some f.dlBid⟩
        | some l =>
          if l.active = false then .ok ⟨.ok, s, [], some f.dlBid⟩
          else match substFrameLoss L ts.index l fn with
            | .error c => .error c
            | .ok (rc, td, evs) =>
              if rc = .EALREADY then .ok ⟨.EALREADY, s, [], some f.dlBid⟩
              else .ok ⟨.ok, setTs s tn (some { ts with lchans := (updFirst f.dlChan.val
                  (fun l => { l with tdma :=
                    ⟨fn, (if u64 (td.numProc + 1) = 0 then 1 else u64 (td.numProc + 1)), td.numLost⟩ })
                  ts.lchans) }),
                evs ++ [Ev.rx l.type tn fn f.dlBid], some f.dlBid⟩ := by
  obtain ⟨idx, lay, ini, lch⟩ := ts
  subst hlay hinit
  simp only [handleRxBurst, getTs_of_lt hlen, hget, lookupU8_eq L hok hp, hf, liftLookup, hd,
    findLchan, bind, Except.bind, pure, Except.pure, Bool.not_true, Bool.false_eq_true, if_false,
    Bool.not_eq_true', beq_iff_eq]
  by_cases hrx : d.rx = false
  · rw [if_pos hrx, if_pos hrx]
  · rw [if_neg hrx, if_neg hrx]
    cases lch.find? (fun l => l.type == f.dlChan.val) with
    | none => rfl
    | some l =>
      by_cases ha : l.active = false
      · simp only [ha, if_true]
      · simp only [ha]
        cases substFrameLoss L idx l fn <;> rfl

/-! ## histories of scheduler calls -/

/-- the calls a user of the scheduler makes -/
inductive Op where
  | cfg (tn config : Nat)     -- `l1sched_configure_ts`
  | del (tn : Nat)            -- `l1sched_del_ts`
  | rts (tn : Nat)            -- `l1sched_reset_ts`
  | rst                       -- `l1sched_reset`
  | act (tn chan : Nat)       -- `l1sched_activate_lchan(sched->ts[tn], chan)` if the timeslot exists
  | deact (tn chan : Nat)     -- `l1sched_deactivate_lchan(sched->ts[tn], chan)` if the timeslot exists
  | rx (tn fn : Nat)          -- `l1sched_handle_rx_burst`
  | tx (tn fn : Nat)          -- `l1sched_pull_burst`
  | probe (tn fn : Nat)       -- `l1sched_handle_rx_probe`

/-- one call: the new scheduler state -/
def stepOp (s : Sched) : Op → Except Crash Sched
  | .cfg tn c => (configureTs s tn c).map fun r => r.2.1
  | .del tn => (delTs s tn).map fun r => r.1
  | .rts tn => (resetTs s tn).map fun r => r.2.1
  | .rst => (resetAll s).map fun r => r.1
  | .act tn ch => do
    match ← getTs s tn with
    | none => pure s
    | some ts =>
      let r ← activateLchan ts ch
      pure (setTs s tn (some r.2))
  | .deact tn ch => do
    match ← getTs s tn with
    | none => pure s
    | some ts =>
      let r ← deactivateLchan ts ch
      pure (setTs s tn (some r.2))
  | .rx tn fn => (handleRxBurst s tn fn).map fun r => r.sched
  | .tx tn fn => (pullBurst s tn fn).map fun _ => s
  | .probe tn fn => (rxProbe s tn fn).map fun _ => s

def runOps (s : Sched) : List Op → Except Crash Sched
  | [] => .ok s
  | op :: rest =>
    match stepOp s op with
    | .error e => .error e
    | .ok s' => runOps s' rest

/-- a timeslot as the scheduler functions leave it when every configuration succeeded: the
    list head is initialised, and if it has a layout, it is a real one and the channel states
    are exactly those of its mask -/
def TsInv (ts : Ts) : Prop :=
  ts.lchansInit = true ∧
  (ts.layout = none ∨ ∃ L, L ∈ layouts ∧ L.config ≠ .NONE ∧ ts.layout = some L ∧
    ts.lchans.map (·.type) = (List.range L1SCHED_CHAN_MAX).filter fun t => L.lchanMask.testBit t)

def Inv (s : Sched) : Prop :=
  s.ts.length = TRX_TS_COUNT ∧ ∀ (tn : Nat) (ts : Ts), s.ts[tn]? = some (some ts) → TsInv ts

/-- the calls the property speaks about: timeslots 0..7, channel combinations that have a
    real layout on that timeslot, channel numbers of the enum -/
def OpOk : Op → Prop
  | .cfg tn c => tn < TRX_TS_COUNT ∧ ∃ L, layoutForVal c tn = some L ∧ L.config ≠ .NONE
  | .act tn ch => tn < TRX_TS_COUNT ∧ ch ≤ L1SCHED_CHAN_MAX
  | .deact tn _ => tn < TRX_TS_COUNT
  | .del tn => tn < TRX_TS_COUNT
  | .rts tn => tn < TRX_TS_COUNT
  | .rx tn _ => tn < TRX_TS_COUNT
  | .tx tn _ => tn < TRX_TS_COUNT
  | .probe tn _ => tn < TRX_TS_COUNT
  | .rst => True

theorem inv_init : Inv initSched := by
  refine ⟨by simp [initSched], fun tn ts h => ?_⟩
  simp only [initSched] at h
  by_cases hlt : tn < TRX_TS_COUNT
  · rw [List.getElem?_eq_getElem (by simpa using hlt), List.getElem_replicate] at h
    cases h
  · rw [List.getElem?_eq_none (by simp; omega)] at h
    cases h

theorem inv_setTs {s : Sched} (tn : Nat) (o : Option Ts) (h : Inv s) (ho : ∀ ts, o = some ts → TsInv ts) :
    Inv (setTs s tn o) := by
  refine ⟨by simp [setTs, h.1], fun k ts hk => ?_⟩
  simp only [setTs] at hk
  by_cases hkt : tn = k
  · subst hkt
    by_cases hlt : tn < s.ts.length
    · rw [List.getElem?_set_self hlt] at hk
      exact ho ts (Option.some.inj hk)
    · rw [List.getElem?_eq_none (by simp only [List.length_set]; omega)] at hk
      cases hk
  · rw [List.getElem?_set_ne hkt] at hk
    exact h.2 k ts hk

theorem inv_get {s : Sched} (h : Inv s) {tn : Nat} (htn : tn < TRX_TS_COUNT) :
    ∃ hlen : tn < s.ts.length, getTs s tn = .ok s.ts[tn] ∧ ∀ ts, s.ts[tn] = some ts → TsInv ts :=
  have hlt : tn < s.ts.length := h.1 ▸ htn
  ⟨hlt, getTs_of_lt hlt, fun ts hts => h.2 tn ts (by rw [List.getElem?_eq_getElem hlt, hts])⟩

theorem tsInv_updFirst {ts : Ts} (h : TsInv ts) (chan : Nat) (f : LchanState → LchanState)
    (hf : ∀ l, (f l).type = l.type) : TsInv { ts with lchans := updFirst chan f ts.lchans } := by
  refine ⟨h.1, ?_⟩
  rcases h.2 with hn | ⟨L, h1, h2, h3, h4⟩
  · exact Or.inl hn
  · exact Or.inr ⟨L, h1, h2, h3, by simp only [updFirst_types chan f hf]; exact h4⟩

theorem delTs_inv {s : Sched} (h : Inv s) {tn : Nat} (htn : tn < TRX_TS_COUNT) :
    ∃ s' evs, delTs s tn = .ok (s', evs) ∧ Inv s' := by
  obtain ⟨_, hg, ho⟩ := inv_get h htn
  cases hts : s.ts[tn] with
  | none =>
    refine ⟨s, [], ?_, h⟩
    simp only [delTs, hg, hts, bind, Except.bind, pure, Except.pure]
  | some ts =>
    have hi := (ho ts hts).1
    refine ⟨setTs s tn none, [.pchanComb tn Pchan.NONE.val], ?_, inv_setTs tn none h (fun _ hc => by cases hc)⟩
    simp only [delTs, hg, hts, bind, Except.bind, deactivateAll, hi, Bool.not_true, Bool.false_eq_true, if_false,
      pure, Except.pure]

theorem delAll_inv (l : List Nat) (hl : ∀ tn ∈ l, tn < TRX_TS_COUNT) :
    ∀ (s : Sched) (evs : List Ev), Inv s → ∃ s' evs', delAll s evs l = .ok (s', evs') ∧ Inv s' := by
  induction l with
  | nil => intro s evs h; exact ⟨s, evs, rfl, h⟩
  | cons tn rest ih =>
    intro s evs h
    obtain ⟨s1, e1, h1, hi1⟩ := delTs_inv h (hl tn (by simp))
    obtain ⟨s2, e2, h2, hi2⟩ := ih (fun k hk => hl k (by simp [hk])) s1 (evs ++ e1) hi1
    refine ⟨s2, e2, ?_, hi2⟩
    simp only [delAll, h1, bind, Except.bind, h2]

theorem activateLchan_inv (ch : Nat) (hch : ch ≤ L1SCHED_CHAN_MAX) (ts : Ts) (h : TsInv ts) :
    ∃ r, activateLchan ts ch = .ok r ∧ TsInv r.2 := by
  obtain ⟨idx, lay, ini, lch⟩ := ts
  obtain rfl : ini = true := h.1
  simp only [activateLchan, Nat.not_lt.2 hch, if_false, findLchan, Bool.not_true, Bool.false_eq_true,
    bind, Except.bind, pure, Except.pure]
  split
  · exact ⟨_, rfl, h⟩
  · split
    · exact ⟨_, rfl, h⟩
    · exact ⟨_, rfl, tsInv_updFirst h ch (fun l => { l with active := true }) (fun _ => rfl)⟩

theorem deactivateLchan_inv (ch : Nat) (ts : Ts) (h : TsInv ts) :
    ∃ r, deactivateLchan ts ch = .ok r ∧ TsInv r.2 := by
  obtain ⟨idx, lay, ini, lch⟩ := ts
  obtain rfl : ini = true := h.1
  simp only [deactivateLchan, findLchan, Bool.not_true, Bool.false_eq_true, if_false, bind, Except.bind,
    pure, Except.pure]
  split
  · exact ⟨_, rfl, h⟩
  · split
    · exact ⟨_, rfl, h⟩
    · exact ⟨_, rfl, tsInv_updFirst h ch (fun l => { (resetLchan l) with active := false }) (fun _ => rfl)⟩

theorem inv_modify {s : Sched} (h : Inv s) {tn : Nat} (htn : tn < TRX_TS_COUNT) {α : Type}
    (F : Ts → Except Crash (α × Ts)) (hF : ∀ ts, TsInv ts → ∃ r, F ts = .ok r ∧ TsInv r.2) :
    ∃ s', (do
      match ← getTs s tn with
      | none => pure s
      | some ts =>
        let r ← F ts
        pure (setTs s tn (some r.2))) = .ok s' ∧ Inv s' := by
  obtain ⟨_, hg, ho⟩ := inv_get h htn
  cases hts : s.ts[tn] with
  | none => exact ⟨s, by simp only [hg, hts, bind, Except.bind, pure, Except.pure], h⟩
  | some ts =>
    obtain ⟨r, hr, hti⟩ := hF ts (ho ts hts)
    exact ⟨setTs s tn (some r.2), by simp only [hg, hts, hr, bind, Except.bind, pure, Except.pure],
      inv_setTs tn _ h (fun t ht => by cases ht; exact hti)⟩

end OsmoVerif.TrxSched
