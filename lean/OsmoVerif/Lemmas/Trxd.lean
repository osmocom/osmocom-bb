/-
Lemmas about `OsmoVerif.Model.Trxd` shared by the TRXD properties (C01, C04, C13, C14, C15): what each
validator accepts, what `gen_msg` writes for a valid message, and what `parse_msg` computes on a datagram
written as its leading octets consed onto the rest.  The properties' statements about the layout (forward
and inverse), about round trips and about arbitrary datagrams are all read off these.
-/
import OsmoVerif.Spec.TrxdRanges
import OsmoVerif.Spec.TrxdLayoutRead

namespace OsmoVerif.Trxd
open OsmoVerif OsmoVerif.Spec.TrxdRanges

/-! ### the regenerated constants are the protocol's numbers -/

theorem mem_knownVersions (v : Int) : v ∈ Gen.Trxd.knownVersions ↔ (v = 0 ∨ v = 1) := by
  simp [Gen.Trxd.knownVersions]

theorem hyperframe_eq : Gen.Trxd.gsmHyperframe = 2715648 := by decide
theorem gmskBurstLen_eq : Gen.Trxd.gmskBurstLen = 148 := by decide
theorem edgeBurstLen_eq : Gen.Trxd.edgeBurstLen = 444 := by decide
theorem pwrMin_eq : Gen.Trxd.pwrMin = 0 := by decide
theorem pwrMax_eq : Gen.Trxd.pwrMax = 255 := by decide
theorem rssiMin_eq : Gen.Trxd.rssiMin = -120 := by decide
theorem rssiMax_eq : Gen.Trxd.rssiMax = -47 := by decide
theorem toa256Min_eq : Gen.Trxd.toa256Min = -32768 := by decide
theorem toa256Max_eq : Gen.Trxd.toa256Max = 32767 := by decide
theorem ciMin_eq : Gen.Trxd.ciMin = -1280 := by decide
theorem ciMax_eq : Gen.Trxd.ciMax = 1280 := by decide
theorem nopeInd_eq : Gen.Trxd.nopeInd = 128 := by decide
theorem chdrLen_eq : Gen.Trxd.chdrLen = 5 := by decide

theorem mem_tscRange (v : Int) : v ∈ Gen.Trxd.tscRange ↔ (0 ≤ v ∧ v ≤ 7) := by
  simp only [Gen.Trxd.tscRange, List.mem_cons, List.not_mem_nil, or_false]
  omega

/-! ### validate -/

/-- `a; b` in a `do` block of checks -/
theorem bind_ok_iff (a : Except Exc Unit) (f : Unit → Except Exc Unit) :
    (a >>= f) = .ok () ↔ a = .ok () ∧ f () = .ok () := by
  cases a <;> simp [bind, Except.bind]

theorem ite_err_iff (c : Prop) {d : Decidable c} (e : Exc) (x : Except Exc Unit) :
    (@ite _ c d (.error e) x) = .ok () ↔ ¬ c ∧ x = .ok () := by
  split <;> simp_all

theorem validateCommon_iff (ver : Int) (fn tn : Option Int) :
    validateCommon ver fn tn = .ok () ↔ knownVersion ver ∧ within 0 2715647 fn ∧ within 0 7 tn := by
  unfold validateCommon knownVersion
  cases fn <;> cases tn <;>
    simp only [within, hyperframe_eq, List.contains_eq_mem, decide_eq_true_eq, mem_knownVersions,
      ite_err_iff, reduceCtorEq, and_false, false_and, and_true, Decidable.not_not] <;> omega

theorem TxMsg.validateOwn_iff (m : TxMsg) :
    m.validateOwn = .ok () ↔ within 0 255 m.pwr ∧ burstLen148or444 m.burst := by
  unfold TxMsg.validateOwn
  rcases m with ⟨ver, fn, tn, pwr, burst⟩
  cases pwr <;> cases burst <;>
    simp only [within, burstLen148or444, pwrMin_eq, pwrMax_eq, gmskBurstLen_eq, edgeBurstLen_eq,
      ite_err_iff, reduceCtorEq, and_false, false_and, and_true, Decidable.not_not] <;> omega

theorem TxMsg.validate_iff (m : TxMsg) : m.validate = .ok () ↔ InRangeTx m := by
  unfold TxMsg.validate InRangeTx
  rw [bind_ok_iff, validateCommon_iff, TxMsg.validateOwn_iff]
  simp only [and_assoc]

/-- the regenerated `Modulation` enum agrees with the protocol's coding/length table -/
theorem modLen_coding (mod : Modulation) : modLen mod.coding = some mod.bl := by
  revert mod; decide

theorem gmsk_iff_coding (mod : Modulation) : mod = Modulation.gmsk ↔ mod.coding = 0 := by
  revert mod; decide

theorem bl_pos : ∀ mod : Modulation, 0 < mod.bl := by decide

theorem RxMsg.validateMeas_iff (m : RxMsg) :
    m.validateMeas = .ok () ↔ within (-120) (-47) m.rssi ∧ within (-32768) 32767 m.toa256 := by
  unfold RxMsg.validateMeas
  cases m.rssi <;> cases m.toa256 <;>
    simp only [within, rssiMin_eq, rssiMax_eq, toa256Min_eq, toa256Max_eq,
      ite_err_iff, reduceCtorEq, and_false, false_and, and_true] <;> omega

theorem RxMsg.validateMts_iff (m : RxMsg) :
    m.validateMts = .ok () ↔
      (m.ver ≥ 1 → m.nopeInd = false → ∃ mod, m.modType = some mod ∧
        (if mod.coding = 0 then within 0 3 m.tscSet else within 0 1 m.tscSet) ∧ within 0 7 m.tsc) := by
  unfold RxMsg.validateMts
  by_cases hc : m.ver ≥ 1 ∧ m.nopeInd = false
  · rw [if_pos hc]
    cases m.modType with
    | none => simp only [reduceCtorEq, false_and, exists_false, hc.1, hc.2, forall_const]
    | some mod =>
      simp only [hc.1, hc.2, forall_const, Option.some.injEq, exists_eq_left', gmsk_iff_coding]
      by_cases hg : mod.coding = 0 <;> cases m.tscSet <;> cases m.tsc <;>
        simp only [hg, if_true, if_false, within, ite_err_iff, reduceCtorEq, List.contains_eq_mem,
          decide_eq_true_eq, mem_tscRange, Decidable.not_not, false_and, and_false, and_true] <;> omega
  · rw [if_neg hc]
    exact ⟨fun _ hv hn => absurd ⟨hv, hn⟩ hc, fun _ => rfl⟩

theorem RxMsg.validateCi_iff (m : RxMsg) :
    m.validateCi = .ok () ↔ (m.ver ≥ 1 → within (-1280) 1280 m.ci) := by
  unfold RxMsg.validateCi
  by_cases hv : m.ver ≥ 1
  · cases m.ci <;>
      simp only [hv, if_true, within, ciMin_eq, ciMax_eq, ite_err_iff, reduceCtorEq, forall_const, and_true] <;>
      omega
  · simp only [hv, if_false, false_imp_iff]

theorem RxMsg.validateBurstV0_iff (m : RxMsg) : m.validateBurstV0 = .ok () ↔ burstLen148or444 m.burst := by
  unfold RxMsg.validateBurstV0
  cases m.burst <;>
    simp only [burstLen148or444, gmskBurstLen_eq, edgeBurstLen_eq, ite_err_iff, reduceCtorEq, Decidable.not_not,
      and_true]

theorem RxMsg.validateBurstV1_iff (m : RxMsg) :
    m.validateBurstV1 = .ok () ↔
      if m.nopeInd then m.burst = none
      else ∃ mod, m.modType = some mod ∧ burstLenOfMod mod.coding m.burst := by
  unfold RxMsg.validateBurstV1
  cases m.nopeInd <;> cases m.burst <;> cases m.modType <;>
    simp only [burstLenOfMod, modLen_coding, ite_err_iff, reduceCtorEq, Bool.false_eq_true, if_true, if_false,
      false_and, and_false, exists_false, Option.some.injEq, exists_eq_left', ne_eq, Decidable.not_not, and_true]
  exact eq_comm

theorem RxMsg.validateBurst_iff (m : RxMsg) :
    m.validateBurst = .ok () ↔ (m.ver = 0 → burstLen148or444 m.burst) ∧
      (m.ver ≥ 1 → if m.nopeInd then m.burst = none
                   else ∃ mod, m.modType = some mod ∧ burstLenOfMod mod.coding m.burst) := by
  unfold RxMsg.validateBurst
  by_cases h0 : m.ver = 0
  · simp only [h0, if_true, validateBurstV0_iff, forall_const, show ¬ (0 : Int) ≥ 1 by omega, false_imp_iff,
      and_true]
  · by_cases h1 : m.ver ≥ 1
    · simp only [h0, h1, if_true, if_false, validateBurstV1_iff, false_imp_iff, forall_const, true_and]
    · simp only [h0, h1, if_false, false_imp_iff, and_self]

theorem inRangeMts_iff (m : RxMsg) :
    InRangeMts m ↔ ∃ mod, m.modType = some mod ∧
      (if mod.coding = 0 then within 0 3 m.tscSet else within 0 1 m.tscSet) ∧ within 0 7 m.tsc ∧
      burstLenOfMod mod.coding m.burst := by
  unfold InRangeMts
  cases m.modType <;> simp only [reduceCtorEq, false_and, exists_false, Option.some.injEq, exists_eq_left']

theorem RxMsg.validate_iff (m : RxMsg) : m.validate = .ok () ↔ InRangeRx m := by
  unfold RxMsg.validate InRangeRx
  simp only [bind_ok_iff, validateCommon_iff, validateMeas_iff, validateMts_iff, validateCi_iff,
    validateBurst_iff, inRangeMts_iff, and_assoc]
  refine and_congr_right fun hk => and_congr_right fun _ => and_congr_right fun _ => and_congr_right fun _ =>
    and_congr_right fun _ => ?_
  rcases hk with h0 | h1
  · simp only [h0, show ¬ (0 : Int) ≥ 1 by omega, show ¬ (0 : Int) = 1 by omega, false_imp_iff, true_and, and_true]
  · simp only [h1, show (1 : Int) ≥ 1 by omega, show ¬ (1 : Int) = 0 by omega, false_imp_iff, forall_const,
      true_and]
    -- what is left differs only in where the C/I range stands among the MTS conditions
    cases m.nopeInd <;> cases m.modType <;>
      simp only [reduceCtorEq, false_and, exists_false, Option.some.injEq, exists_eq_left', forall_const,
        Bool.false_eq_true, if_true, if_false, and_false, false_imp_iff, true_and, and_assoc]
    exact ⟨fun ⟨hset, htsc, hci, hbl⟩ => ⟨hci, hset, htsc, hbl⟩,
      fun ⟨hci, hset, htsc, hbl⟩ => ⟨hset, htsc, hci, hbl⟩⟩

/-! ### the messages as protocol-level field records (`Spec.TrxdLayout`) -/

open OsmoVerif.Spec.TrxdLayout

/-- the protocol-level fields of a Tx message whose attributes are all set and non-negative -/
def TxMsg.fields? (m : TxMsg) : Option TxFields :=
  match m.fn, m.tn, m.pwr, m.burst with
  | some fn, some tn, some pwr, some b =>
    if 0 ≤ m.ver ∧ 0 ≤ fn ∧ 0 ≤ tn ∧ 0 ≤ pwr then
      some ⟨m.ver.toNat, fn.toNat, tn.toNat, pwr.toNat, b⟩
    else none
  | _, _, _, _ => none

theorem within_iff {lo hi : Int} {o : Option Int} : within lo hi o ↔ ∃ x, o = some x ∧ lo ≤ x ∧ x ≤ hi := by
  cases o <;> simp only [within, reduceCtorEq, false_and, exists_false, Option.some.injEq, exists_eq_left']

theorem TxMsg.eq_of_fields? (m : TxMsg) (f : TxFields) (h : m.fields? = some f) :
    m = ⟨f.ver, some f.fn, some f.tn, some f.pwr, some f.bits⟩ := by
  rcases m with ⟨ver, _ | fn, _ | tn, _ | pwr, _ | b⟩ <;> simp only [TxMsg.fields?, reduceCtorEq] at h
  split at h
  · rename_i hc
    cases h
    simp only [Int.toNat_of_nonneg hc.1, Int.toNat_of_nonneg hc.2.1, Int.toNat_of_nonneg hc.2.2.1,
      Int.toNat_of_nonneg hc.2.2.2]
  · cases h

/-! ### gen_msg on valid messages -/

theorem bytearrayAppend_ok (buf : Bytes) (x : Int) (h : 0 ≤ x ∧ x < 256) :
    bytearrayAppend buf x = .ok (buf ++ [x.toNat]) := by
  simp only [bytearrayAppend, h, and_self, if_true]

theorem packBE32u_ok (x : Int) (h : 0 ≤ x ∧ x < 4294967296) : packBE32u x = .ok (be32 x.toNat) := by
  simp only [packBE32u, h, and_self, if_true, be32]

theorem packBE16s_ok (x : Int) (h : -32768 ≤ x ∧ x ≤ 32767) : packBE16s x = .ok (s16be x) := by
  have hlt : (x % 65536).toNat / 256 < 256 := by omega
  simp only [packBE16s, h, and_self, if_true, s16be, Nat.mod_eq_of_lt hlt]

theorem genCommon_ok (ver fn tn : Int) (hv : ver = 0 ∨ ver = 1) (hfn : 0 ≤ fn ∧ fn ≤ 2715647)
    (htn : 0 ≤ tn ∧ tn ≤ 7) :
    genCommon ver (some fn) (some tn) = .ok (hdr ver.toNat tn.toNat fn.toNat) := by
  have hv0 : 0 ≤ ver := by omega
  have h8 : tn % 8 = tn := Int.emod_eq_of_lt htn.1 (by omega)
  have h1 : 0 ≤ 16 * ver + tn ∧ 16 * ver + tn < 256 := by omega
  have h2 : 0 ≤ fn ∧ fn < 4294967296 := by omega
  have e : (16 * ver + tn).toNat = 16 * ver.toNat + tn.toNat := by
    rw [Int.toNat_add (by omega) htn.1, Int.toNat_mul (by omega) hv0]
    rfl
  simp only [genCommon, need, bind, Except.bind, pure, Except.pure, h8, bytearrayAppend_ok _ _ h1,
    packBE32u_ok _ h2, hdr, List.nil_append, List.cons_append, e]

theorem pad_eq (ver : Int) (l : Bool) (buf : Bytes) (hv : ver = 0 ∨ ver = 1) :
    appendLegacy ver l buf = buf ++ pad ver.toNat l := by
  rcases hv with rfl | rfl <;> cases l <;> simp [appendLegacy, pad]

theorem pad_cases (ver : Nat) (l : Bool) : pad ver l = [] ∨ pad ver l = [0, 0] := by
  unfold pad; split <;> simp

/-- the two burst lengths, each with or without the two legacy octets -/
theorem burstLen_mem (n : Nat) (hn : n = 148 ∨ n = 444) (ver : Nat) (l : Bool) :
    n ∈ [148, 444] ∧ (pad ver l).length ∈ [0, 2] := by
  refine ⟨by rcases hn with rfl | rfl <;> decide, ?_⟩
  rcases pad_cases ver l with h | h <;> rw [h] <;> decide

/-- C04 (Tx half): a valid Tx message is encoded exactly as the protocol layout prescribes. -/
theorem TxMsg.genMsg_layout (m : TxMsg) (l : Bool) (h : InRangeTx m) :
    ∃ f, m.fields? = some f ∧ m.genMsg l = .ok (layoutTx f l) := by
  have hval := (TxMsg.validate_iff m).mpr h
  obtain ⟨hv, hfn, htn, hp, hb⟩ := h
  obtain ⟨fn, efn, hfn⟩ := within_iff.mp hfn
  obtain ⟨tn, etn, htn⟩ := within_iff.mp htn
  obtain ⟨pwr, ep, hp⟩ := within_iff.mp hp
  cases eb : m.burst with
  | none => rw [eb] at hb; exact hb.elim
  | some b =>
    have hv' : (0 : Int) ≤ m.ver := by unfold knownVersion at hv; omega
    refine ⟨⟨m.ver.toNat, fn.toNat, tn.toNat, pwr.toNat, b⟩, ?_, ?_⟩
    · simp only [TxMsg.fields?, efn, etn, ep, eb, hv', hfn.1, htn.1, hp.1, and_self, if_true]
    · simp only [TxMsg.genMsg, hval, bind, Except.bind, pure, Except.pure, efn, etn,
        genCommon_ok m.ver fn tn hv hfn htn, TxMsg.appendHdrTo, ep, need, bytearrayAppend_ok _ pwr (by omega),
        TxMsg.appendBurstTo, eb, pad_eq m.ver l _ hv, layoutTx, List.append_assoc]

/-! ### soft-bit translation tables -/

theorem tabSbit2ubit_length : Gen.Trxd.tabSbit2ubit.length = 256 := by decide +kernel
theorem tabUbit2sbit_length : Gen.Trxd.tabUbit2sbit.length = 256 := by decide +kernel

/-- the regenerated table `_tab_usbit2sbit`: entry `u` is `127 - u`, entry 255 is `-127` -/
theorem tabUsbit2sbit_eq : Gen.Trxd.tabUsbit2sbit = (List.range 256).map softVal := by decide +kernel

/-- the regenerated table `_tab_sbit2usbit`: the entry for the octet of signed char `s` is `127 - s` -/
theorem tabSbit2usbit_eq :
    Gen.Trxd.tabSbit2usbit = (List.range 256).map fun u => softOctet (ubyte2s u) := by decide +kernel

theorem translateGo_map {α : Type} (tab : List α) (f : Nat → α) (xs : Bytes)
    (h : ∀ x ∈ xs, tab[x]? = some (f x)) : translateGo tab xs = .ok (xs.map f) := by
  induction xs with
  | nil => rfl
  | cons x xs ih =>
    have hx := h x (List.mem_cons_self ..)
    have ih' := ih (fun y hy => h y (List.mem_cons_of_mem _ hy))
    simp only [translateGo, hx, ih', List.map_cons]

/-- `bytes.translate` with a table that tabulates `f` on octets -/
theorem translate_range_map {α : Type} (f : Nat → α) (xs : Bytes) (h : ∀ x ∈ xs, x < 256) :
    translate ((List.range 256).map f) xs = .ok (xs.map f) := by
  have hl : ((List.range 256).map f).length = 256 := by rw [List.length_map, List.length_range]
  simp only [translate, hl, ne_eq, not_true_eq_false, if_false]
  apply translateGo_map
  intro x hx
  rw [List.getElem?_map, List.getElem?_range (h x hx), Option.map_some]

theorem translateGo_total {α : Type} (tab : List α) (hl : tab.length = 256) (xs : Bytes)
    (h : ∀ x ∈ xs, x < 256) : ∃ ys, translateGo tab xs = .ok ys ∧ ys.length = xs.length := by
  induction xs with
  | nil => exact ⟨[], rfl, rfl⟩
  | cons x xs ih =>
    obtain ⟨ys, hys, hlen⟩ := ih (fun y hy => h y (List.mem_cons_of_mem _ hy))
    have hx : x < tab.length := by have := h x (List.mem_cons_self ..); omega
    refine ⟨tab[x] :: ys, ?_, by simp [hlen]⟩
    simp only [translateGo, List.getElem?_eq_getElem hx, hys]

/-- `usbit2sbit` on octets never raises and reads every octet as the layout says -/
theorem usbit2sbit_eq (u : Bytes) (h : ∀ x ∈ u, x < 256) : usbit2sbit u = .ok (u.map softVal) := by
  unfold usbit2sbit
  rw [tabUsbit2sbit_eq]
  exact translate_range_map softVal u h

theorem softVal_softOctet (s : Int) (h : -127 ≤ s ∧ s ≤ 127) : softVal (softOctet s) = s := by
  unfold softVal softOctet
  split <;> omega

theorem softOctet_lt (b : List Int) (h : ∀ s ∈ b, -127 ≤ s ∧ s ≤ 127) : ∀ x ∈ b.map softOctet, x < 256 := by
  intro x hx
  obtain ⟨s, hs, rfl⟩ := List.mem_map.mp hx
  have := h s hs
  unfold softOctet; omega

theorem map_softVal_softOctet (b : List Int) (h : ∀ s ∈ b, -127 ≤ s ∧ s ≤ 127) :
    (b.map softOctet).map softVal = b := by
  rw [List.map_map]
  conv => rhs; rw [← List.map_id b]
  exact List.map_congr_left fun s hs => softVal_softOctet s (h s hs)

/-- `sbit2usbit` never raises, whatever the `array('b')` holds: every element is first taken to its octet -/
theorem sbit2usbit_wrap (b : List Int) :
    sbit2usbit b = .ok (b.map fun s => softOctet (ubyte2s (sbyte s))) := by
  unfold sbit2usbit
  rw [tabSbit2usbit_eq, translate_range_map _ _ (by
    intro x hx
    obtain ⟨s, _, rfl⟩ := List.mem_map.mp hx
    unfold sbyte; omega), List.map_map]
  rfl

theorem wrap_eq (b : List Int) (h : ∀ s ∈ b, -128 ≤ s ∧ s ≤ 127) :
    (b.map fun s => softOctet (ubyte2s (sbyte s))) = b.map softOctet := by
  apply List.map_congr_left
  intro s hs
  have := h s hs
  unfold ubyte2s sbyte
  congr 1
  split <;> omega

/-! ### RxMsg: protocol-level fields, header and burst encoding -/

/-- protocol-level modulation + TSC set of an MTS coding -/
def modOf (coding set : Nat) : Option Mod :=
  match coding with
  | 0b0000 => some (.gmsk set)
  | 0b0100 => some (.psk8 set)
  | 0b0110 => some (.gmskAB set)
  | 0b1000 => some (.qam16 set)
  | 0b1010 => some (.qam32 set)
  | 0b1100 => some (.aqpsk set)
  | _ => none

/-- the protocol-level fields of an Rx message whose transported attributes are all set -/
def RxMsg.fields? (m : RxMsg) : Option RxFields :=
  match m.fn, m.tn, m.rssi, m.toa256 with
  | some fn, some tn, some rssi, some toa =>
    if ¬ (0 ≤ m.ver ∧ 0 ≤ fn ∧ 0 ≤ tn) then none
    else if m.ver = 1 then
      match m.ci with
      | none => none
      | some ci =>
        if m.nopeInd then
          some { ver := 1, fn := fn.toNat, tn := tn.toNat, rssi := rssi, toa256 := toa,
                 nope := true, ci := ci, soft := m.burst }
        else
          match m.modType, m.tscSet, m.tsc with
          | some mod, some set, some tsc =>
            if 0 ≤ set ∧ 0 ≤ tsc then
              (modOf mod.coding set.toNat).map fun md =>
                { ver := 1, fn := fn.toNat, tn := tn.toNat, rssi := rssi, toa256 := toa,
                  nope := false, mod := md, tsc := tsc.toNat, ci := ci, soft := m.burst }
            else none
          | _, _, _ => none
    else
      some { ver := m.ver.toNat, fn := fn.toNat, tn := tn.toNat, rssi := rssi, toa256 := toa,
             soft := m.burst }
  | _, _, _, _ => none

/-- header octets (everything before the soft bits) of the protocol layout -/
def rxHdrLayout (f : RxFields) : List Nat :=
  hdr f.ver f.tn f.fn ++ [(-f.rssi).toNat] ++ s16be f.toa256
    ++ (if f.ver = 1 then [mtsOctet f] ++ s16be f.ci else [])

theorem layoutRx_eq (f : RxFields) (l : Bool) :
    layoutRx f l = rxHdrLayout f ++ (match f.soft with | some b => b.map softOctet | none => [])
      ++ pad f.ver l := rfl

/-- the MTS octet computed by `gen_mts` is the protocol's `8·(modulation bits + set) + tsc` -/
theorem mts_fin : ∀ (mod : Modulation) (set : Fin 4) (tsc : Fin 8), (mod.coding = 0 ∨ set.val ≤ 1) →
    (modOf mod.coding set.val).map (fun md => 8 * md.bits + tsc.val) =
      some ((tsc.val ||| (mod.coding <<< 3)) ||| (set.val <<< 3)) ∧
    ((tsc.val ||| (mod.coding <<< 3)) ||| (set.val <<< 3)) < 256 := by
  decide +kernel

theorem RxMsg.appendMts_nope (m : RxMsg) (buf : Bytes) (h : m.nopeInd = true) :
    m.appendMts buf = .ok (buf ++ [128]) := by
  simp only [RxMsg.appendMts, h, if_true, nopeInd_eq]
  exact bytearrayAppend_ok buf 128 (by omega)

theorem RxMsg.appendMts_ok (m : RxMsg) (mod : Modulation) (set tsc : Int)
    (hn : m.nopeInd = false) (hm : m.modType = some mod) (hs : m.tscSet = some set)
    (ht : m.tsc = some tsc) (hset : 0 ≤ set ∧ set ≤ 3) (hg : mod.coding = 0 ∨ set ≤ 1)
    (htsc : 0 ≤ tsc ∧ tsc ≤ 7) :
    ∃ md, modOf mod.coding set.toNat = some md ∧
      ∀ buf, m.appendMts buf = .ok (buf ++ [8 * md.bits + tsc.toNat]) := by
  obtain ⟨hf, hlt⟩ := mts_fin mod ⟨set.toNat, by omega⟩ ⟨tsc.toNat, by omega⟩ (by
    rcases hg with h | h
    · exact Or.inl h
    · exact Or.inr (by simp only; omega))
  simp only at hf hlt
  cases hmd : modOf mod.coding set.toNat with
  | none => simp only [hmd, Option.map_none, reduceCtorEq] at hf
  | some md =>
    simp only [hmd, Option.map_some, Option.some.injEq] at hf
    refine ⟨md, rfl, fun buf => ?_⟩
    have e8 : (tsc % 8).toNat = tsc.toNat := by omega
    have hneg : ¬ set < 0 := by omega
    simp only [RxMsg.appendMts, hn, Bool.false_eq_true, if_false, hm, hs, ht, need, bind, Except.bind,
      hneg, e8]
    rw [bytearrayAppend_ok _ _ (by omega), Int.toNat_natCast, hf]

/-- `append_burst_to` never raises: every element goes out as the octet of the signed char it wraps to -/
theorem RxMsg.appendBurstTo_wrap (m : RxMsg) (buf : Bytes) :
    m.appendBurstTo buf =
      .ok (buf ++ (m.burst.map fun b => b.map fun s => softOctet (ubyte2s (sbyte s))).getD []) := by
  unfold RxMsg.appendBurstTo
  cases m.burst with
  | none => simp only [Option.map_none, Option.getD_none, List.append_nil]
  | some b => simp only [sbit2usbit_wrap, bind, Except.bind, pure, Except.pure, Option.map_some, Option.getD_some]

/-- a valid Rx message: its protocol-level fields exist and `gen_msg` emits the protocol's header layout,
then the burst as `append_burst_to` writes it, then the legacy padding -/
theorem RxMsg.genMsg_split (m : RxMsg) (l : Bool) (h : InRangeRx m) :
    ∃ f, m.fields? = some f ∧ f.soft = m.burst ∧
      m.genMsg l = .ok (rxHdrLayout f
        ++ (m.burst.map fun b => b.map fun s => softOctet (ubyte2s (sbyte s))).getD [] ++ pad f.ver l) := by
  have hval := (RxMsg.validate_iff m).mpr h
  obtain ⟨hv, hfn, htn, hr, ht, h0, h1⟩ := h
  obtain ⟨fn, efn, hfn⟩ := within_iff.mp hfn
  obtain ⟨tn, etn, htn⟩ := within_iff.mp htn
  obtain ⟨rssi, ers, hr⟩ := within_iff.mp hr
  obtain ⟨toa, eto, ht⟩ := within_iff.mp ht
  have hrs := fun buf => bytearrayAppend_ok buf (-rssi) (by omega)
  -- everything but `append_hdr_to`
  have hg : ∀ tail, m.appendHdrTo (hdr m.ver.toNat tn.toNat fn.toNat)
        = .ok (hdr m.ver.toNat tn.toNat fn.toNat ++ [(-rssi).toNat] ++ s16be toa ++ tail) →
      m.genMsg l = .ok (hdr m.ver.toNat tn.toNat fn.toNat ++ [(-rssi).toNat] ++ s16be toa ++ tail
        ++ (m.burst.map fun b => b.map fun s => softOctet (ubyte2s (sbyte s))).getD [] ++ pad m.ver.toNat l) := by
    intro tail htail
    simp only [RxMsg.genMsg, hval, efn, etn, genCommon_ok m.ver fn tn hv hfn htn, htail,
      RxMsg.appendBurstTo_wrap, pad_eq m.ver l _ hv, bind, Except.bind, pure, Except.pure]
  rcases hv with hv | hv
  · -- version 0
    refine ⟨{ ver := 0, fn := fn.toNat, tn := tn.toNat, rssi := rssi, toa256 := toa, soft := m.burst }, ?_, rfl, ?_⟩
    · simp only [RxMsg.fields?, efn, etn, ers, eto, hv, hfn.1, htn.1, Int.le_refl, and_self, not_true_eq_false,
        if_false, show ¬ ((0 : Int) = 1) by omega, Int.toNat_zero]
    · rw [hg [] (by
        simp only [RxMsg.appendHdrTo, ers, eto, need, hrs, packBE16s_ok toa ht, hv,
          show ¬ ((0 : Int) ≥ 1) by omega, if_false, bind, Except.bind, pure, Except.pure, List.append_nil])]
      simp only [hv, Int.toNat_zero, rxHdrLayout, show ¬ ((0 : Nat) = 1) by omega, if_false, List.append_nil]
  · -- version 1
    obtain ⟨hci, hrest⟩ := h1 hv
    obtain ⟨ci, eci, hci⟩ := within_iff.mp hci
    have hcp := packBE16s_ok ci (by omega)
    have hhdr : ∀ mts, (∀ buf, m.appendMts buf = .ok (buf ++ [mts])) →
        m.appendHdrTo (hdr m.ver.toNat tn.toNat fn.toNat)
          = .ok (hdr m.ver.toNat tn.toNat fn.toNat ++ [(-rssi).toNat] ++ s16be toa ++ ([mts] ++ s16be ci)) := by
      intro mts hmts
      simp only [RxMsg.appendHdrTo, ers, eto, eci, need, hrs, packBE16s_ok toa ht, hcp, hmts, hv,
        show ((1 : Int) ≥ 1) by omega, if_true, bind, Except.bind, pure, Except.pure, List.append_assoc]
    cases hn : m.nopeInd with
    | true =>
      refine ⟨{ ver := 1, fn := fn.toNat, tn := tn.toNat, rssi := rssi, toa256 := toa, nope := true, ci := ci,
                soft := m.burst }, ?_, rfl, ?_⟩
      · simp only [RxMsg.fields?, efn, etn, ers, eto, eci, hv, hn, hfn.1, htn.1, and_self, not_true_eq_false,
          if_false, if_true, show (0 : Int) ≤ 1 by omega]
      · rw [hg _ (hhdr 128 fun buf => RxMsg.appendMts_nope m buf hn)]
        simp only [hv, rxHdrLayout, mtsOctet, if_true, show (1 : Int).toNat = 1 by rfl]
    | false =>
      rw [hn] at hrest
      obtain ⟨mod, emod, hset, htsc, -⟩ := (inRangeMts_iff m).mp hrest
      obtain ⟨tsc, etsc, htsc⟩ := within_iff.mp htsc
      obtain ⟨set, eset, hset, hg01⟩ : ∃ set, m.tscSet = some set ∧ (0 ≤ set ∧ set ≤ 3) ∧
          (mod.coding = 0 ∨ set ≤ 1) := by
        split at hset <;> obtain ⟨set, eset, hset⟩ := within_iff.mp hset
        · exact ⟨set, eset, hset, Or.inl (by assumption)⟩
        · exact ⟨set, eset, by omega, Or.inr hset.2⟩
      obtain ⟨md, hmd, hmts⟩ := RxMsg.appendMts_ok m mod set tsc hn emod eset etsc hset hg01 htsc
      refine ⟨{ ver := 1, fn := fn.toNat, tn := tn.toNat, rssi := rssi, toa256 := toa, nope := false, mod := md,
                tsc := tsc.toNat, ci := ci, soft := m.burst }, ?_, rfl, ?_⟩
      · simp only [RxMsg.fields?, efn, etn, ers, eto, eci, emod, eset, etsc, hv, hn, hfn.1, htn.1, hset.1, htsc.1,
          and_self, not_true_eq_false, if_false, if_true, Bool.false_eq_true, hmd, Option.map_some,
          show (0 : Int) ≤ 1 by omega]
      · rw [hg _ (hhdr _ hmts)]
        simp only [hv, rxHdrLayout, mtsOctet, if_true, Bool.false_eq_true, if_false, show (1 : Int).toNat = 1 by rfl]

theorem RxMsg.genMsg_ok (m : RxMsg) (l : Bool) (h : InRangeRx m) : ∃ b, m.genMsg l = .ok b := by
  obtain ⟨f, _, _, hg⟩ := RxMsg.genMsg_split m l h
  exact ⟨_, hg⟩

/-- C04 (Rx half): a valid Rx message is encoded exactly as the protocol layout prescribes. -/
theorem RxMsg.genMsg_layout (m : RxMsg) (l : Bool) (h : InRangeRx m) (hw : m.WellTyped) :
    ∃ f, m.fields? = some f ∧ m.genMsg l = .ok (layoutRx f l) := by
  obtain ⟨f, hf, hs, hg⟩ := RxMsg.genMsg_split m l h
  refine ⟨f, hf, ?_⟩
  rw [hg, layoutRx_eq, hs]
  cases hb : m.burst with
  | none => rfl
  | some b =>
    simp only [Option.map_some, Option.getD_some]
    rw [wrap_eq b (hw b (by simp [hb]))]

/-! ### `validate` raises nothing but ValueError

Every check is a chain of tests that end in `ValueError` or go on, so each proof below walks the chain. -/

theorem bind_err (a : Except Exc Unit) (f : Unit → Except Exc Unit) (e : Exc) (h : (a >>= f) = .error e) :
    a = .error e ∨ (a = .ok () ∧ f () = .error e) := by
  cases a with
  | error _ => exact Or.inl h
  | ok _ => exact Or.inr ⟨rfl, h⟩

theorem validateCommon_err (ver : Int) (fn tn : Option Int) (e : Exc)
    (h : validateCommon ver fn tn = .error e) : e = .valueError := by
  unfold validateCommon at h
  repeat' split at h
  all_goals cases h <;> rfl

theorem TxMsg.validateOwn_err (m : TxMsg) (e : Exc) (h : m.validateOwn = .error e) : e = .valueError := by
  unfold TxMsg.validateOwn at h
  repeat' split at h
  all_goals cases h <;> rfl

theorem TxMsg.validate_err (m : TxMsg) (e : Exc) (h : m.validate = .error e) : e = .valueError := by
  rcases bind_err _ _ e h with h | ⟨-, h⟩
  · exact validateCommon_err _ _ _ e h
  · exact TxMsg.validateOwn_err m e h

theorem RxMsg.validateMeas_err (m : RxMsg) (e : Exc) (h : m.validateMeas = .error e) :
    e = .valueError := by
  unfold RxMsg.validateMeas at h
  repeat' split at h
  all_goals cases h <;> rfl

theorem RxMsg.validateMts_err (m : RxMsg) (e : Exc) (h : m.validateMts = .error e) :
    e = .valueError := by
  unfold RxMsg.validateMts at h
  repeat' split at h
  all_goals cases h <;> rfl

theorem RxMsg.validateCi_err (m : RxMsg) (e : Exc) (h : m.validateCi = .error e) :
    e = .valueError := by
  unfold RxMsg.validateCi at h
  repeat' split at h
  all_goals cases h <;> rfl

theorem RxMsg.validateBurstV0_err (m : RxMsg) (e : Exc) (h : m.validateBurstV0 = .error e) :
    e = .valueError := by
  unfold RxMsg.validateBurstV0 at h
  repeat' split at h
  all_goals cases h <;> rfl

/-- `self.mod_type.bl` in `_validate_burst_v1` (AttributeError when `mod_type` is None) is only reached
after the modulation was checked -/
theorem RxMsg.validateBurst_err (m : RxMsg) (e : Exc) (hm : m.validateMts = .ok ())
    (h : m.validateBurst = .error e) : e = .valueError := by
  unfold RxMsg.validateBurst at h
  split at h
  · exact validateBurstV0_err m e h
  · split at h
    · rename_i hv
      unfold RxMsg.validateBurstV1 at h
      split at h
      · cases h
      · cases h; rfl
      · cases h; rfl
      · rename_i hn _
        obtain ⟨mod, hmod, _⟩ := (validateMts_iff m).mp hm hv hn
        simp only [hmod] at h
        split at h <;> cases h <;> rfl
    · cases h

theorem RxMsg.validate_err (m : RxMsg) (e : Exc) (h : m.validate = .error e) : e = .valueError := by
  rcases bind_err _ _ e h with h | ⟨-, h⟩
  · exact validateCommon_err _ _ _ e h
  rcases bind_err _ _ e h with h | ⟨-, h⟩
  · exact validateMeas_err m e h
  rcases bind_err _ _ e h with h | ⟨hm, h⟩
  · exact validateMts_err m e h
  rcases bind_err _ _ e h with h | ⟨-, h⟩
  · exact validateCi_err m e h
  · exact validateBurst_err m e hm h

theorem refuses_iff {v : Except Exc Unit} {P : Prop} (hiff : v = .ok () ↔ P)
    (herr : ∀ e, v = .error e → e = .valueError) : v = .error .valueError ↔ ¬ P := by
  rw [← hiff]
  cases h : v with
  | ok u => simp
  | error e => simp [herr e h]

theorem gen_refuses_iff {g : Except Exc Bytes} {P : Prop} (hbad : ¬ P → g = .error .valueError)
    (hok : P → ∃ b, g = .ok b) : (g = .error .valueError ↔ ¬ P) ∧ (P → ∃ b, g = .ok b) := by
  refine ⟨⟨fun he hp => ?_, hbad⟩, hok⟩
  obtain ⟨b, hb⟩ := hok hp
  rw [hb] at he
  cases he

theorem sendMsg_iff {g : Except Exc Bytes} {P : Prop} (hiff : g = .error .valueError ↔ ¬ P)
    (hok : P → ∃ b, g = .ok b) :
    ((∃ b, sendMsg g = .ok [b]) ↔ P) ∧ (P → ∃ b, g = .ok b ∧ sendMsg g = .ok [b]) ∧
    (¬ P → sendMsg g = .ok []) := by
  have hbad : ¬ P → sendMsg g = .ok [] := fun hn => by rw [hiff.mpr hn]; rfl
  have hgood : P → ∃ b, g = .ok b ∧ sendMsg g = .ok [b] := fun h => by
    obtain ⟨b, hb⟩ := hok h; exact ⟨b, hb, by rw [hb]; rfl⟩
  refine ⟨⟨fun ⟨b, hb⟩ => ?_, fun h => ?_⟩, hgood, hbad⟩
  · by_cases h : P
    · exact h
    · rw [hbad h] at hb; cases hb
  · obtain ⟨b, _, hs⟩ := hgood h; exact ⟨b, hs⟩

/-! ### parse_msg evaluated on datagrams of known shape

`parse_msg` looks at a datagram through `msg[i]`, `msg[i:j]` and `len(msg)` only.  On a datagram written
as its leading octets consed onto the rest all of these compute, so the parsers have closed forms in the
terms the layout is read in (`be32val`, `s16val`, `/ 16`, `% 8`); a datagram too short to be written
that way is refused. -/

theorem knownVersions_nat (v : Nat) : Gen.Trxd.knownVersions.contains (v : Int) = true ↔ v < 2 := by
  rw [List.contains_iff_mem, mem_knownVersions]; omega

theorem be32val_be32 (n : Nat) (h : n < 4294967296) :
    be32val (n / 16777216 % 256) (n / 65536 % 256) (n / 256 % 256) (n % 256) = n := by
  have h1 := Nat.div_add_mod n 256
  have h2 := Nat.div_add_mod (n / 256) 256
  have h3 := Nat.div_add_mod (n / 65536) 256
  rw [Nat.div_div_eq_div_mul] at h2 h3
  rw [Nat.mod_eq_of_lt (Nat.div_lt_of_lt_mul h : n / 16777216 < 256)]
  unfold be32val
  -- the quotients and remainders are tied by `h1 h2 h3` alone
  generalize n / 256 % 256 = r1 at *
  generalize n / 65536 % 256 = r2 at *
  generalize n % 256 = r0 at *
  generalize n / 256 = q1 at *
  generalize n / 65536 = q2 at *
  generalize n / 16777216 = q3 at *
  omega

theorem s16_unpack (a b : Nat) : unpackBE16s [a, b] = .ok (s16val a b) := by
  simp only [unpackBE16s, s16val, Except.ok.injEq]
  split <;> split <;> omega

theorem s16val_s16be (x : Int) (h : -32768 ≤ x ∧ x ≤ 32767) :
    s16val ((x % 65536).toNat / 256) ((x % 65536).toNat % 256) = x := by
  unfold s16val
  simp only [Nat.div_add_mod (x % 65536).toNat 256]
  split <;> omega

theorem exists_cons5 (b : Bytes) (h : 5 ≤ b.length) :
    ∃ o0 f0 f1 f2 f3 rest, b = o0 :: f0 :: f1 :: f2 :: f3 :: rest := by
  match b, h with
  | o0 :: f0 :: f1 :: f2 :: f3 :: rest, _ => exact ⟨o0, f0, f1, f2, f3, rest, rfl⟩

theorem exists_cons3 (b : Bytes) (h : 3 ≤ b.length) : ∃ x y z rest, b = x :: y :: z :: rest := by
  match b, h with
  | x :: y :: z :: rest, _ => exact ⟨x, y, z, rest, rfl⟩

theorem hdrLen_of_known (ver : Nat) (h : ver < 2) :
    txHdrLen ver = .ok 6 ∧ rxHdrLen ver = .ok (if ver = 0 then 8 else 11) := by
  match ver, h with
  | 0, _ => exact ⟨rfl, rfl⟩
  | 1, _ => exact ⟨rfl, rfl⟩

theorem rxHdrLen_v0 : rxHdrLen 0 = .ok 8 := rfl
theorem rxHdrLen_v1 : rxHdrLen 1 = .ok 11 := rfl

theorem parseCommon_short (b : Bytes) (hl : b.length < 5) : parseCommon b = .error .valueError := by
  simp only [parseCommon, chdrLen_eq, hl, if_true, bind, Except.bind]
  rfl

theorem parseCommon_cons (o0 f0 f1 f2 f3 : Nat) (rest : Bytes) :
    parseCommon (o0 :: f0 :: f1 :: f2 :: f3 :: rest) =
      if o0 / 16 < 2 then .ok (o0 / 16, o0 % 8, be32val f0 f1 f2 f3) else .error .valueError := by
  have e1 : o0 >>> 4 = o0 / 16 := Nat.shiftRight_eq_div_pow o0 4
  have e2 : o0 &&& 7 = o0 % 8 := Nat.and_two_pow_sub_one_eq_mod o0 3
  have e3 : ((f0 * 256 + f1) * 256 + f2) * 256 + f3 = be32val f0 f1 f2 f3 := by unfold be32val; omega
  have hl : ¬ (rest.length + 1 + 1 + 1 + 1 + 1 < 5) := by omega
  simp only [parseCommon, List.length_cons, chdrLen_eq, hl, index, List.getElem?_cons_zero, slice,
    List.take_succ_cons, List.take_zero, List.drop_succ_cons, List.drop_zero, unpackBE32u, bind, Except.bind,
    pure, Except.pure, e1, e2, e3, if_false, knownVersions_nat]
  by_cases hv : o0 / 16 < 2 <;> simp only [hv, not_true_eq_false, not_false_eq_true, if_true, if_false] <;> rfl

/-! #### TxMsg -/

/-- how many of the received hard-bit octets `TxMsg.parse_burst` keeps -/
def txKeep (n : Nat) : Nat := if n ≥ 444 then 444 else if n > 148 then 148 else n

theorem TxMsg.parseBurst_eq (bits : Bytes) : TxMsg.parseBurst bits = bits.take (txKeep bits.length) := by
  unfold TxMsg.parseBurst txKeep
  simp only [edgeBurstLen_eq, gmskBurstLen_eq]
  by_cases c1 : bits.length ≥ 444
  · by_cases c2 : bits.length > 444
    · simp only [c1, c2, if_true]
    · simp only [c1, c2, if_true, if_false, List.take_of_length_le (show bits.length ≤ 444 by omega)]
  · by_cases c3 : bits.length > 148
    · simp only [c1, c3, if_true, if_false]
    · simp only [c1, c3, if_false, List.take_length]

theorem TxMsg.parseMsg_short (b : Bytes) (h : b.length < 6) : TxMsg.parseMsg b = .error .valueError := by
  unfold TxMsg.parseMsg
  by_cases h5 : b.length < 5
  · simp only [parseCommon_short b h5, bind, Except.bind]
  · obtain ⟨o0, f0, f1, f2, f3, rest, rfl⟩ := exists_cons5 b (by omega)
    rw [parseCommon_cons]
    by_cases hv : o0 / 16 < 2
    · simp only [hv, if_true, bind, Except.bind, (hdrLen_of_known _ hv).1, h, throw, throwThe,
        MonadExceptOf.throw]
    · simp only [hv, if_false, bind, Except.bind]

theorem TxMsg.parseMsg_cons (o0 f0 f1 f2 f3 p : Nat) (bits : Bytes) :
    TxMsg.parseMsg (o0 :: f0 :: f1 :: f2 :: f3 :: p :: bits) =
      if o0 / 16 < 2 then
        .ok ⟨(o0 / 16 : Nat), some (be32val f0 f1 f2 f3 : Nat), some (o0 % 8 : Nat), some (p : Nat),
             if bits = [] then none else some (bits.take (txKeep bits.length))⟩
      else .error .valueError := by
  unfold TxMsg.parseMsg
  rw [parseCommon_cons]
  by_cases hv : o0 / 16 < 2
  · have h6 : ¬ (bits.length + 1 + 1 + 1 + 1 + 1 + 1 < 6) := by omega
    have he : (bits.length + 1 + 1 + 1 + 1 + 1 + 1 = 6) ↔ bits = [] := by
      rw [← List.length_eq_zero_iff]; omega
    simp only [hv, if_true, bind, Except.bind, (hdrLen_of_known _ hv).1, List.length_cons, h6, if_false, index,
      List.getElem?_cons_succ, List.getElem?_cons_zero, pure, Except.pure, he, List.drop_succ_cons,
      List.drop_zero, TxMsg.parseBurst_eq]
    split <;> rfl
  · simp only [hv, if_false, bind, Except.bind]


theorem TxMsg.parse_layout (f : TxFields) (l : Bool) (hv : f.ver < 2) (ht : f.tn < 8)
    (hf : f.fn < 4294967296) (hb : f.bits.length = 148 ∨ f.bits.length = 444) :
    TxMsg.parseMsg (layoutTx f l) =
      .ok ⟨(f.ver : Int), some (f.fn : Int), some (f.tn : Int), some (f.pwr : Int), some f.bits⟩ := by
  have e1 : (16 * f.ver + f.tn) / 16 = f.ver := by omega
  have e2 : (16 * f.ver + f.tn) % 8 = f.tn := by omega
  have hne : f.bits ++ pad f.ver l ≠ [] :=
    List.append_ne_nil_of_left_ne_nil (List.ne_nil_of_length_pos (by omega)) _
  have hk : (f.bits ++ pad f.ver l).take (txKeep (f.bits ++ pad f.ver l).length) = f.bits := by
    have hkeep : ∀ n ∈ [148, 444], ∀ k ∈ [0, 2], txKeep (n + k) = n := by decide
    rw [List.length_append, hkeep _ (burstLen_mem _ hb f.ver l).1 _ (burstLen_mem _ hb f.ver l).2,
      List.take_left']
    rfl
  simp only [layoutTx, hdr, be32, List.cons_append, List.nil_append, TxMsg.parseMsg_cons, e1, e2,
    hv, if_true, be32val_be32 f.fn hf, hne, if_false, hk]

/-! #### RxMsg -/

theorem RxMsg.parseMsgFrom_short (self : RxMsg) (b : Bytes) (h : b.length < 8) :
    self.parseMsgFrom b = .error .valueError := by
  unfold RxMsg.parseMsgFrom
  by_cases h5 : b.length < 5
  · simp only [parseCommon_short b h5, bind, Except.bind]
  · obtain ⟨o0, f0, f1, f2, f3, rest, rfl⟩ := exists_cons5 b (by omega)
    rw [parseCommon_cons]
    by_cases hv : o0 / 16 < 2
    · have hl : (o0 :: f0 :: f1 :: f2 :: f3 :: rest).length < (if o0 / 16 = 0 then 8 else 11) := by
        split <;> omega
      simp only [hv, if_true, bind, Except.bind, (hdrLen_of_known _ hv).2, hl, throw, throwThe,
        MonadExceptOf.throw]
    · simp only [hv, if_false, bind, Except.bind]

theorem RxMsg.parseMsgFrom_badver (self : RxMsg) {o0 f0 f1 f2 f3 : Nat} {rest : Bytes} (hv : ¬ o0 / 16 < 2) :
    self.parseMsgFrom (o0 :: f0 :: f1 :: f2 :: f3 :: rest) = .error .valueError := by
  simp only [RxMsg.parseMsgFrom, parseCommon_cons, hv, if_false, bind, Except.bind]

theorem RxMsg.parseMsgFrom_v0 (self : RxMsg) {o0 f0 f1 f2 f3 r t0 t1 : Nat} {soft : Bytes} (hv : o0 / 16 = 0) :
    self.parseMsgFrom (o0 :: f0 :: f1 :: f2 :: f3 :: r :: t0 :: t1 :: soft) =
      if soft = [] then
        .ok { self with ver := 0, tn := some ((o0 % 8 : Nat) : Int), fn := some ((be32val f0 f1 f2 f3 : Nat) : Int),
                        rssi := some (-(r : Int)), toa256 := some (s16val t0 t1), burst := none }
      else
        RxMsg.parseBurst { self with ver := 0, tn := some ((o0 % 8 : Nat) : Int),
                                     fn := some ((be32val f0 f1 f2 f3 : Nat) : Int),
                                     rssi := some (-(r : Int)), toa256 := some (s16val t0 t1) } soft := by
  have h8 : ¬ (soft.length + 1 + 1 + 1 + 1 + 1 + 1 + 1 + 1 < 8) := by omega
  have he : (soft.length + 1 + 1 + 1 + 1 + 1 + 1 + 1 + 1 = 8) ↔ soft = [] := by
    rw [← List.length_eq_zero_iff]; omega
  simp only [RxMsg.parseMsgFrom, parseCommon_cons, hv, Nat.zero_lt_succ, if_true, bind, Except.bind, rxHdrLen_v0,
    List.length_cons, h8, if_false, RxMsg.parseHdr, index, slice, List.getElem?_cons_succ, List.getElem?_cons_zero,
    List.take_succ_cons, List.take_zero, List.drop_succ_cons, List.drop_zero, s16_unpack, pure, Except.pure,
    Int.natCast_zero, show ¬ ((0 : Int) ≥ 1) by omega, he]

theorem RxMsg.parseMsgFrom_v1_short (self : RxMsg) {o0 f0 f1 f2 f3 : Nat} {rest : Bytes} (hv : o0 / 16 = 1)
    (h : rest.length < 6) : self.parseMsgFrom (o0 :: f0 :: f1 :: f2 :: f3 :: rest) = .error .valueError := by
  have hl : rest.length + 1 + 1 + 1 + 1 + 1 < 11 := by omega
  simp only [RxMsg.parseMsgFrom, parseCommon_cons, hv, Nat.lt_add_one, if_true, bind, Except.bind, rxHdrLen_v1,
    List.length_cons, hl, throw, throwThe, MonadExceptOf.throw]

theorem RxMsg.parseMsgFrom_v1 (self : RxMsg) {o0 f0 f1 f2 f3 r t0 t1 mts c0 c1 : Nat} {soft : Bytes}
    (hv : o0 / 16 = 1) :
    self.parseMsgFrom (o0 :: f0 :: f1 :: f2 :: f3 :: r :: t0 :: t1 :: mts :: c0 :: c1 :: soft) =
      if soft = [] then
        .ok { RxMsg.parseMts { self with ver := 1, tn := some ((o0 % 8 : Nat) : Int),
                                         fn := some ((be32val f0 f1 f2 f3 : Nat) : Int),
                                         rssi := some (-(r : Int)), toa256 := some (s16val t0 t1) } mts
              with ci := some (s16val c0 c1), burst := none }
      else
        RxMsg.parseBurst { RxMsg.parseMts { self with ver := 1, tn := some ((o0 % 8 : Nat) : Int),
                                                      fn := some ((be32val f0 f1 f2 f3 : Nat) : Int),
                                                      rssi := some (-(r : Int)), toa256 := some (s16val t0 t1) } mts
                           with ci := some (s16val c0 c1) } soft := by
  have h11 : ¬ (soft.length + 1 + 1 + 1 + 1 + 1 + 1 + 1 + 1 + 1 + 1 + 1 < 11) := by omega
  have he : (soft.length + 1 + 1 + 1 + 1 + 1 + 1 + 1 + 1 + 1 + 1 + 1 = 11) ↔ soft = [] := by
    rw [← List.length_eq_zero_iff]; omega
  simp only [RxMsg.parseMsgFrom, parseCommon_cons, hv, Nat.lt_add_one, if_true, bind, Except.bind, rxHdrLen_v1,
    List.length_cons, h11, if_false, RxMsg.parseHdr, index, slice, List.getElem?_cons_succ, List.getElem?_cons_zero,
    List.take_succ_cons, List.take_zero, List.drop_succ_cons, List.drop_zero, s16_unpack, pure, Except.pure,
    Int.natCast_one, show ((1 : Int) ≥ 1) by omega, he]

theorem RxMsg.parseBurst_v0 {m : RxMsg} {soft : Bytes} (hs : ∀ x ∈ soft, x < 256) (hv : m.ver = 0) :
    m.parseBurst soft =
      match RxMsg.guessMod (soft.length : Int) with
      | none => .error .valueError
      | some mod => .ok { m with modType := some mod, burst := some ((soft.take mod.bl).map softVal) } := by
  unfold RxMsg.parseBurst RxMsg.parseBurstV0
  cases RxMsg.guessMod (soft.length : Int) with
  | none => simp only [hv, if_true, bind, Except.bind]
  | some mod =>
    simp only [hv, if_true, bind, Except.bind, pure, Except.pure,
      usbit2sbit_eq _ fun x hx => hs x (List.mem_of_mem_take hx)]

theorem RxMsg.parseBurst_v1 {m : RxMsg} {soft : Bytes} (hs : ∀ x ∈ soft, x < 256) (hv : ¬ m.ver = 0) :
    m.parseBurst soft = .ok { m with burst := some (soft.map softVal) } := by
  simp only [RxMsg.parseBurst, hv, if_false, usbit2sbit_eq soft hs, bind, Except.bind, pure, Except.pure]

/-- the four attributes `parse_mts` assigns -/
def mtsParts (mts : Nat) : Bool × Option Modulation × Option Int × Option Int :=
  let m := RxMsg.fresh.parseMts mts
  (m.nopeInd, m.modType, m.tscSet, m.tsc)

theorem parseMts_parts (m : RxMsg) (mts : Nat) :
    m.parseMts mts = { m with nopeInd := (mtsParts mts).1, modType := (mtsParts mts).2.1,
                              tscSet := (mtsParts mts).2.2.1, tsc := (mtsParts mts).2.2.2 } := by
  unfold mtsParts RxMsg.parseMts
  by_cases h1 : mts &&& Gen.Trxd.nopeInd > 0
  · simp only [h1, if_true]
  · by_cases h2 : ((mts >>> 3) &&& 15) &&& 12 > 0
    · simp only [h1, h2, if_true, if_false]
    · simp only [h1, h2, if_false]

theorem mtsParts_nope : mtsParts 128 = (true, none, none, none) := by decide +kernel

/-- `parse_mts` inverts `gen_mts` on every (modulation, TSC set, TSC) combination -/
theorem mtsParts_fin : ∀ (mod : Modulation) (set : Fin 4) (tsc : Fin 8), (mod.coding = 0 ∨ set.val ≤ 1) →
    (modOf mod.coding set.val).map (fun md => mtsParts (8 * md.bits + tsc.val)) =
      some (false, some mod, some (set.val : Int), some (tsc.val : Int)) := by
  decide +kernel

theorem guess_fin : ∀ n ∈ [148, 444], ∀ k ∈ [0, 2],
    RxMsg.guessMod ((n + k : Nat) : Int) = Modulation.pickByBl (n : Int) ∧
    (Modulation.pickByBl (n : Int)).map (·.bl) = some n := by decide

/-! #### the protocol layout of a valid message -/

theorem RxMsg.parse_v0_raw (self : RxMsg) (fn tn : Nat) (rssi toa : Int) (u : Bytes) (l : Bool)
    (ht : tn < 8) (hf : fn < 4294967296) (hr : -255 ≤ rssi ∧ rssi ≤ 0)
    (hto : -32768 ≤ toa ∧ toa ≤ 32767) (hb : u.length = 148 ∨ u.length = 444) (hu : ∀ x ∈ u, x < 256) :
    RxMsg.parseMsgFrom self (hdr 0 tn fn ++ [(-rssi).toNat] ++ s16be toa ++ u ++ pad 0 l)
      = .ok { self with ver := 0, fn := some (fn : Int), tn := some (tn : Int), rssi := some rssi,
                        toa256 := some toa, modType := Modulation.pickByBl u.length,
                        burst := some (u.map softVal) } := by
  have e1 : (16 * 0 + tn) / 16 = 0 := by omega
  have e2 : (16 * 0 + tn) % 8 = tn := by omega
  have hrr : -(((-rssi).toNat : Nat) : Int) = rssi := by omega
  have hne : u ++ pad 0 l ≠ [] := List.append_ne_nil_of_left_ne_nil (List.ne_nil_of_length_pos (by omega)) _
  have hpad : ∀ x ∈ u ++ pad 0 l, x < 256 := List.forall_mem_append.mpr ⟨hu, by cases l <;> decide⟩
  obtain ⟨hg, hm⟩ := guess_fin u.length (burstLen_mem _ hb 0 l).1 (pad 0 l).length (burstLen_mem _ hb 0 l).2
  simp only [hdr, be32, s16be, List.cons_append, List.nil_append,
    RxMsg.parseMsgFrom_v0 _ e1, e2, hne, if_false, be32val_be32 fn hf, hrr, s16val_s16be toa hto]
  rw [RxMsg.parseBurst_v0 hpad (by rfl), List.length_append, hg]
  cases hp : Modulation.pickByBl (u.length : Int) with
  | none => simp only [hp, Option.map_none, reduceCtorEq] at hm
  | some md =>
    simp only [hp, Option.map_some, Option.some.injEq] at hm
    simp only [hm, List.take_left' rfl]

theorem RxMsg.parseMsgFrom_enc_v1 (self : RxMsg) (fn tn : Nat) (rssi toa ci : Int) (mts : Nat) (soft : Bytes)
    (ht : tn < 8) (hf : fn < 4294967296) (hr : -255 ≤ rssi ∧ rssi ≤ 0)
    (hto : -32768 ≤ toa ∧ toa ≤ 32767) (hci : -32768 ≤ ci ∧ ci ≤ 32767) :
    RxMsg.parseMsgFrom self (hdr 1 tn fn ++ [(-rssi).toNat] ++ s16be toa ++ ([mts] ++ s16be ci) ++ soft) =
      if soft = [] then
        .ok { RxMsg.parseMts { self with ver := 1, tn := some (tn : Int), fn := some (fn : Int),
                                         rssi := some rssi, toa256 := some toa } mts
              with ci := some ci, burst := none }
      else
        RxMsg.parseBurst { RxMsg.parseMts { self with ver := 1, tn := some (tn : Int), fn := some (fn : Int),
                                                      rssi := some rssi, toa256 := some toa } mts
                           with ci := some ci } soft := by
  have e1 : (16 * 1 + tn) / 16 = 1 := by omega
  have e2 : (16 * 1 + tn) % 8 = tn := by omega
  have hrr : -(((-rssi).toNat : Nat) : Int) = rssi := by omega
  simp only [hdr, be32, s16be, List.cons_append, List.nil_append,
    RxMsg.parseMsgFrom_v1 _ e1, e2, be32val_be32 fn hf, hrr, s16val_s16be toa hto,
    s16val_s16be ci hci]

theorem RxMsg.parse_v1_nope (self : RxMsg) (fn tn : Nat) (rssi toa ci : Int)
    (ht : tn < 8) (hf : fn < 4294967296) (hr : -255 ≤ rssi ∧ rssi ≤ 0)
    (hto : -32768 ≤ toa ∧ toa ≤ 32767) (hci : -32768 ≤ ci ∧ ci ≤ 32767) :
    RxMsg.parseMsgFrom self (hdr 1 tn fn ++ [(-rssi).toNat] ++ s16be toa ++ ([128] ++ s16be ci))
      = .ok { self with ver := 1, fn := some (fn : Int), tn := some (tn : Int), rssi := some rssi,
                        toa256 := some toa, nopeInd := true, modType := none, tscSet := none, tsc := none,
                        ci := some ci, burst := none } := by
  have h := RxMsg.parseMsgFrom_enc_v1 self fn tn rssi toa ci 128 [] ht hf hr hto hci
  rw [List.append_nil] at h
  simp only [h, if_true, parseMts_parts, mtsParts_nope]

theorem RxMsg.parse_v1_burst (self : RxMsg) (fn tn : Nat) (rssi toa ci : Int) (mod : Modulation)
    (set tsc : Nat) (md : Mod) (b : List Int)
    (ht : tn < 8) (hf : fn < 4294967296) (hr : -255 ≤ rssi ∧ rssi ≤ 0)
    (hto : -32768 ≤ toa ∧ toa ≤ 32767) (hci : -32768 ≤ ci ∧ ci ≤ 32767)
    (hset : set < 4) (htsc : tsc < 8) (hg : mod.coding = 0 ∨ set ≤ 1) (hmd : modOf mod.coding set = some md)
    (hbne : b ≠ []) (hs : ∀ s ∈ b, -127 ≤ s ∧ s ≤ 127) :
    RxMsg.parseMsgFrom self
        (hdr 1 tn fn ++ [(-rssi).toNat] ++ s16be toa ++ ([8 * md.bits + tsc] ++ s16be ci) ++ b.map softOctet)
      = .ok { self with ver := 1, fn := some (fn : Int), tn := some (tn : Int), rssi := some rssi,
                        toa256 := some toa, nopeInd := false, modType := some mod, tscSet := some (set : Int),
                        tsc := some (tsc : Int), ci := some ci, burst := some b } := by
  have hfin := mtsParts_fin mod ⟨set, hset⟩ ⟨tsc, htsc⟩ hg
  simp only [hmd, Option.map_some, Option.some.injEq] at hfin
  have hne : b.map softOctet ≠ [] := by simpa using hbne
  simp only [RxMsg.parseMsgFrom_enc_v1 self fn tn rssi toa ci _ _ ht hf hr hto hci, hne, if_false, parseMts_parts,
    hfin]
  rw [RxMsg.parseBurst_v1 (softOctet_lt b hs) (by show ¬ (1 : Int) = 0; decide), map_softVal_softOctet b hs]

end OsmoVerif.Trxd
