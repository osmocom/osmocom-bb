/-
C12: the wiring and clock invariants are established by `build` and preserved by `step`; the power
state after every operation, and that the specification's last-power-command fold follows it; the
arithmetic of the port plan; the clock indications as the list of running clock owners.
-/
import OsmoVerif.Lemmas.WorldWiring
import OsmoVerif.Lemmas.WorldPower

namespace OsmoVerif.WorldPower
open OsmoVerif OsmoVerif.World OsmoVerif.PyStr

/-! ### `clck_links` after `power_event_handler` -/

theorem mem_powerLinks {links : List Nat} (hnd : links.Nodup) (i j : Nat) (on : Bool) :
    i ∈ powerLinks links j on ↔ if i = j then on = true else i ∈ links := by
  unfold powerLinks
  by_cases hij : i = j
  · subst hij; cases on <;> by_cases h : i ∈ links <;> simp [h, hnd.mem_erase_iff]
  · cases on <;> by_cases h : j ∈ links <;> simp [h, hij, hnd.mem_erase_iff]

theorem nodup_powerLinks {links : List Nat} (hnd : links.Nodup) (j : Nat) (on : Bool) :
    (powerLinks links j on).Nodup := by
  unfold powerLinks
  split
  · exact hnd.erase _
  · split
    next h =>
      have hj : j ∉ links := fun hm => h.2 (List.contains_iff_mem.mpr hm)
      refine List.nodup_append.mpr ⟨hnd, by simp, ?_⟩
      intro a ha b hb
      simp only [List.mem_singleton] at hb
      subst hb
      exact fun hab => hj (hab ▸ ha)
    · exact hnd

/-! ### the clock invariant -/

theorem wiring_hasClock {t t' : Trx} (h : wiring t = wiring t') : t.hasClock = t'.hasClock :=
  ((wiring_eq_iff t t').mp h).2.2.2.2.1

theorem ClockInv.of_frameC {w w' : World} (f : FrameC w w') (inv : ClockInv w) : ClockInv w' := by
  constructor
  · intro i
    rw [f.hlinks, inv.links_iff]
    constructor
    · rintro ⟨t, ht, h1, h2⟩
      obtain ⟨t', ht', hw, hr⟩ := getElem?_of_views f.hwiring.symm f.hrunning.symm ht
      exact ⟨t', ht', by rw [wiring_hasClock hw]; exact h1, by rw [hr]; exact h2⟩
    · rintro ⟨t', ht', h1, h2⟩
      obtain ⟨t, ht, hw, hr⟩ := getElem?_of_views f.hwiring f.hrunning ht'
      exact ⟨t, ht, by rw [wiring_hasClock hw]; exact h1, by rw [hr]; exact h2⟩
  · rw [f.hlinks]; exact inv.links_nodup
  · rw [f.hclk, f.hlinks]; exact inv.runs_iff
  · intro h
    rw [f.hclk] at h
    exact f.hsrc (inv.src h)

theorem ClockInv.of_initial {w : World} (h : Initial w) : ClockInv w := by
  constructor
  · intro i
    rw [h.links]
    constructor
    · intro h'; cases h'
    · rintro ⟨t, ht, -, h2⟩
      have := (h.not_running i (lt_of_getElem? ht) t ht).1
      rw [this] at h2; cases h2
  · rw [h.links]; exact List.nodup_nil
  · rw [h.clk, h.links]; simp
  · rw [h.clk]; intro h'; cases h'

theorem affects_noclock {w : World} (wf : WF w) {j : Nat} {self : Trx} (hw : w.trxs[j]? = some self)
    (hc : self.hasClock = false) (k : Nat) : affects w j k = true ↔ k = j := by
  have h0 : ¬ self.childIdx = 0 := by
    intro h
    have := (wf.clock_iff j (lt_of_getElem? hw) self hw).mpr h
    rw [hc] at this; cases this
  unfold affects
  rw [hw]
  have : (self.childIdx == 0) = false := by simpa using h0
  simp [this]

theorem affects_child {w : World} (wf : WF w) {j : Nat} {self : Trx} (hw : w.trxs[j]? = some self)
    {k : Nat} (ha : affects w j k = true) (hk : k ≠ j) :
    ∃ tc, w.trxs[k]? = some tc ∧ tc.hasClock = false ∧ 0 < tc.childIdx := by
  unfold affects at ha
  rw [hw] at ha
  simp only [Bool.or_eq_true, beq_iff_eq, hk, false_or, Bool.and_eq_true, List.contains_iff_mem] at ha
  obtain ⟨tc, htc, h1, h2, -⟩ := wf.child_ok j (lt_of_getElem? hw) self hw k ha.2
  exact ⟨tc, htc, h2, h1⟩

/-- who is a running clock owner after `power_event_handler(on)` of `j`: the children it may also
touch own no clock, every other transceiver is left alone -/
theorem owner_powered {w : World} (wf : WF w) {j : Nat} {self : Trx} (hw : w.trxs[j]? = some self) (on : Bool)
    (i : Nat) :
    (∃ t ∈ (powered w j self on).trxs[i]?, t.hasClock = true ∧ t.running = true) ↔
      if i = j then self.hasClock = true ∧ on = true
      else ∃ t ∈ w.trxs[i]?, t.hasClock = true ∧ t.running = true := by
  rw [powered_affects hw]
  by_cases hij : i = j
  · subst hij
    have : affects w i i = true := by simp [affects]
    simp only [this, if_true, hw, Option.map_some, Option.mem_def, Option.some.injEq, exists_eq_left',
      powerUpd_running, wiring_hasClock (powerUpd_wiring on self)]
  · rw [if_neg hij]
    by_cases ha : affects w j i = true
    · obtain ⟨tc, htc, hcl, -⟩ := affects_child wf hw ha hij
      simp only [ha, if_true, htc, Option.map_some, Option.mem_def, Option.some.injEq, exists_eq_left',
        wiring_hasClock (powerUpd_wiring on tc), hcl, Bool.false_eq_true, false_and]
    · rw [if_neg ha]

theorem ClockInv.power {w : World} (wf : WF w) (inv : ClockInv w) {j : Nat} {self : Trx}
    (hw : w.trxs[j]? = some self) (on : Bool) : ClockInv (powered w j self on) := by
  cases hc : self.hasClock with
  | false =>
    obtain ⟨h1, h2, h3⟩ := powered_clk_noclock hc w j on
    refine ⟨fun i => ?_, h1 ▸ inv.links_nodup, h1 ▸ h2 ▸ inv.runs_iff, h2 ▸ h3 ▸ inv.src⟩
    rw [h1, inv.links_iff, owner_powered wf hw, hc]
    split
    next hij => simp only [hij, hw, Option.mem_def, Option.some.injEq, exists_eq_left', hc, Bool.false_eq_true, false_and]
    · rfl
  | true =>
    obtain ⟨h1, h2, h3⟩ := powered_clk_clock hc w j on
    have hrun : (powered w j self on).clkRunning = true ↔ powerLinks w.clkLinks j on ≠ [] := by
      rw [h2]; cases powerLinks w.clkLinks j on <;> simp
    refine ⟨fun i => ?_, h1 ▸ nodup_powerLinks inv.links_nodup _ _, h1 ▸ hrun, fun hr => ?_⟩
    · rw [h1, mem_powerLinks inv.links_nodup, owner_powered wf hw, hc]
      split
      · simp only [true_and]
      · exact inv.links_iff i
    · -- `clck_src` is set when the generator starts, and was there when it already ran
      rw [h3]
      split
      · rfl
      next hn =>
        apply inv.src
        cases hcr : w.clkRunning with
        | true => rfl
        | false => exact absurd ⟨hcr, hrun.mp hr⟩ hn

theorem ClockInv.powerAt {w : World} (wf : WF w) (inv : ClockInv w) (j : Nat) (on : Bool) :
    ClockInv (powerAt w j on) := by
  unfold WorldPower.powerAt
  split
  next t ht => exact inv.power wf ht on
  · exact inv

/-! ### every step -/

theorem step_wiring (w : World) (op : Op) :
    (step w op).world.trxs.map wiring = w.trxs.map wiring := by
  cases hp : powerCmd op with
  | none => exact (step_no_power hp).hwiring
  | some jo =>
    rw [step_power_world hp]
    split
    · exact powerAt_wiring _ _ _
    · rfl

theorem WF.step {w : World} (wf : WF w) (op : Op) : WF (step w op).world :=
  WFT.of_wiring (step_wiring w op) wf

theorem ClockInv.step {w : World} (wf : WF w) (inv : ClockInv w) (op : Op) :
    ClockInv (step w op).world := by
  cases hp : powerCmd op with
  | none => exact inv.of_frameC (step_no_power hp)
  | some jo =>
    rw [step_power_world hp]
    split
    · exact inv.powerAt wf _ _
    · exact inv

theorem run_inv {w : World} (wf : WF w) (inv : ClockInv w) (ops : List Op) :
    WF (run w ops).1 ∧ ClockInv (run w ops).1 := by
  induction ops generalizing w with
  | nil => exact ⟨wf, inv⟩
  | cons op ops ih =>
    rw [run_cons_world]
    exact ih (wf.step op) (inv.step wf op)

theorem reachable_inv {w : World} (h : Reachable w) : WF w ∧ ClockInv w := by
  obtain ⟨seed, extra, w0, ops, hb, rfl⟩ := h
  obtain ⟨wf, ini⟩ := build_wf hb
  exact run_inv wf (ClockInv.of_initial ini) ops

/-! ### power state after a power command -/

theorem runningOf_powerAt (w : World) (j : Nat) (on : Bool) (k : Nat) :
    runningOf (powerAt w j on) k = if affects w j k then (runningOf w k).map (fun _ => on) else runningOf w k := by
  unfold runningOf
  rw [powerAt_getElem?]
  split
  · cases w.trxs[k]? with
    | none => rfl
    | some x => simp only [Option.map_some, powerUpd_running]
  · rfl

theorem runningOf_step (w : World) (op : Op) (k : Nat) :
    runningOf (step w op).world k =
      match powerCmd op with
      | some (j, true) =>
        if accepted w j && affects w j k then (runningOf w k).map (fun _ => true) else runningOf w k
      | some (j, false) =>
        if affects w j k then (runningOf w k).map (fun _ => false) else runningOf w k
      | none => runningOf w k := by
  cases hp : powerCmd op with
  | none => exact (step_no_power hp).runningOf k
  | some jo =>
    obtain ⟨j, on⟩ := jo
    rw [step_power_world hp]
    cases on with
    | false => rw [if_pos (.inl rfl)]; exact runningOf_powerAt w j false k
    | true =>
      cases ha : accepted w j with
      | false => simp only [ha, Bool.true_eq_false, Bool.false_eq_true, or_self, if_false, Bool.false_and]
      | true => simp only [ha, or_true, if_true, Bool.true_and]; exact runningOf_powerAt w j true k

/-! ### the last-power-command fold follows the model -/

theorem spec_step_inv {w : World} {cur : Nat → Bool}
    (h : ∀ (k : Nat) (t : Trx), w.trxs[k]? = some t → t.running = cur k) (op : Op) :
    ∀ (k : Nat) (t : Trx), (step w op).world.trxs[k]? = some t → t.running = specPowerStep w op cur k := by
  intro k t' ht'
  -- the specification's acceptance test is the model's
  have hacc : ∀ j, (!cur j && readyOf w j) = accepted w j := by
    intro j
    unfold accepted readyOf
    cases hj : w.trxs[j]? with
    | none => exact Bool.and_false _
    | some t => simp only [h j t hj]
  obtain ⟨t, ht⟩ : ∃ t, w.trxs[k]? = some t :=
    ⟨_, List.getElem?_eq_getElem (step_length w op ▸ lt_of_getElem? ht')⟩
  have hps := runningOf_step w op k
  simp only [runningOf, ht', ht, Option.map_some, h k t ht] at hps
  unfold specPowerStep
  simp only [hacc]
  -- both sides are the same case distinction, once on `some`
  apply Option.some.inj
  rw [hps]
  cases powerCmd op with
  | none => rfl
  | some jo => obtain ⟨j, _ | _⟩ := jo <;> exact (apply_ite some _ _ _).symm

theorem spec_run_inv (ops : List Op) : ∀ (w : World) (cur : Nat → Bool),
    (∀ (k : Nat) (t : Trx), w.trxs[k]? = some t → t.running = cur k) →
    ∀ (k : Nat) (t : Trx), (run w ops).1.trxs[k]? = some t → t.running = specRunningFrom w cur ops k := by
  induction ops with
  | nil => intro w cur h k t ht; exact h k t ht
  | cons op ops ih =>
    intro w cur h k t ht
    rw [run_cons_world] at ht
    exact ih _ _ (spec_step_inv h op) k t ht

/-! ### port plan -/

/-- control and data ports of two transceivers on one base port, with different child indices -/
theorem ports_ne {b x y : Nat} (h : x ≠ y) :
    b + x * 2 + 1 ≠ b + y * 2 + 1 ∧ b + x * 2 + 2 ≠ b + y * 2 + 2 ∧ b + x * 2 + 1 ≠ b + y * 2 + 2 ∧
    b + x * 2 + 2 ≠ b + y * 2 + 1 ∧ b + x * 2 + 1 ≠ b ∧ b + x * 2 + 2 ≠ b := by
  omega

/-! ### clock indications -/

theorem filterMap_links {w : World} (f : Trx → Dgram) (l : List Nat)
    (h : ∀ i ∈ l, ∃ t, w.trxs[i]? = some t ∧ t.hasClock = true ∧ t.running = true) :
    l.filterMap (fun i => (w.trxs[i]?).map f) = (runningClockOwners w l).map f ∧
    (runningClockOwners w l).map some = l.map (fun i => w.trxs[i]?) := by
  induction l with
  | nil => exact ⟨rfl, rfl⟩
  | cons i l ih =>
    obtain ⟨t, ht, h1, h2⟩ := h i List.mem_cons_self
    obtain ⟨ih1, ih2⟩ := ih (fun i hi => h i (List.mem_cons_of_mem _ hi))
    unfold runningClockOwners at ih1 ih2 ⊢
    simp only [List.filterMap_cons, ht, Option.map_some, h1, h2, Bool.and_self, if_true, List.map_cons,
      ih1, ih2, and_self]

end OsmoVerif.WorldPower
