/-
Facts about the TRXD codec model and the hopping model that the world proofs (C05/C14) need:
  * `RxMsg.gen_msg` returns octets or raises ValueError, nothing else (for every object state);
  * `TxMsg.trans` cannot fail on a byte-valued burst; what `TxMsg.parse_msg` leaves in the object;
  * `HoppingParams.resolve` is total on every object `__init__` accepted (from Lemmas/Hopping).
The codec statements are derived from Lemmas/Trxd (validate_iff / validate_err / genMsg_ok).
-/
import OsmoVerif.Lemmas.Trxd
import OsmoVerif.Model.Trxd
import OsmoVerif.Lemmas.Hopping
namespace OsmoVerif.Trxd
open OsmoVerif

theorem knownVersions_contains {ver : Int} (h : Gen.Trxd.knownVersions.contains ver = true) :
    ver = 0 ∨ ver = 1 := by
  simp [Gen.Trxd.knownVersions] at h
  exact h

namespace RxMsg
theorem genMsg_safe (m : RxMsg) (l : Bool) :
    (∃ b, m.genMsg l = .ok b) ∨ m.genMsg l = .error .valueError := by
  cases hv : m.validate with
  | ok u => exact .inl (RxMsg.genMsg_ok m l ((RxMsg.validate_iff m).mp hv))
  | error e =>
    cases RxMsg.validate_err m e hv
    right
    simp only [genMsg, hv, bind, Except.bind]
end RxMsg

namespace TxMsg
theorem trans_ok (m : TxMsg) (v : Option Int) (hw : m.WellTyped) :
    ∃ r, m.trans v = .ok r ∧ r.fn = m.fn ∧ (r.nopeInd = false → m.burst.isSome = true) ∧
      r.ver = (match v with | none => m.ver | some v => v) := by
  unfold trans
  cases hb : m.burst with
  | none =>
    refine ⟨_, rfl, rfl, ?_, rfl⟩
    intro h; cases h
  | some b =>
    obtain ⟨s, hs, _⟩ := translateGo_total Gen.Trxd.tabUbit2sbit tabUbit2sbit_length b
      (hw b (by rw [hb]; exact rfl))
    have hs' : ubit2sbit b = .ok s := by
      simp only [ubit2sbit, translate, tabUbit2sbit_length, ne_eq, not_true_eq_false, if_false, hs]
    simp only [hs']
    refine ⟨_, rfl, rfl, ?_, rfl⟩
    intro _; rfl

theorem parseBurst_mem {b : Bytes} {x : Nat} (h : x ∈ parseBurst b) : x ∈ b := by
  unfold parseBurst at h
  simp only at h
  repeat' split at h
  all_goals first | exact h | exact List.mem_of_mem_take h

theorem parseMsg_sane {d : Bytes} {m : TxMsg} (h : parseMsg d = .ok m) (hd : ∀ x ∈ d, x < 256) :
    m.fn.isSome = true ∧ m.tn.isSome = true ∧ m.pwr.isSome = true ∧ m.WellTyped := by
  simp only [parseMsg, bind, Except.bind, pure, Except.pure, throw, throwThe, MonadExceptOf.throw] at h
  repeat' split at h
  all_goals first
    | (cases h; done)
    | (cases h
       refine ⟨rfl, rfl, rfl, ?_⟩
       intro b hb x hx
       first
         | (cases hb; done)
         | (cases hb; exact hd x (List.mem_of_mem_drop (parseBurst_mem hx))))
end TxMsg
end OsmoVerif.Trxd

namespace OsmoVerif.Hopping

/-- `resolve` never raises on an object built by `__init__` (shape of `Props.C07.py_resolve_total`) -/
theorem resolve_total {α : Type} {hsn maio : Int} {ma : List α} {hp : HoppingParams α}
    (h : pyInit hsn maio ma = .ok hp) (fn : Nat) : ∃ v, hp.resolve fn = .ok v := by
  obtain ⟨hn, h0, h64, e1, e2, e3, _⟩ := pyInit_inv hsn maio ma hp h
  obtain ⟨k, hk⟩ := Int.eq_ofNat_of_zero_le h0
  subst hk
  obtain ⟨hsn', maio', ma', pnm⟩ := hp
  simp only at e1 e2 e3
  subst e1 e2 e3
  obtain ⟨v, _, hv⟩ := py_resolve_total_aux k maio' ma' pnm fn (by omega) hn (by decide)
  exact ⟨v, hv⟩

/-- `__init__` succeeds exactly for a non-empty MA and an HSN in `range(64)`
(shape of `Props.C07.py_init_iff`) -/
theorem pyInit_cases {α : Type} (hsn maio : Int) (ma : List α) :
    (ma ≠ [] ∧ 0 ≤ hsn ∧ hsn < 64 →
      pyInit hsn maio ma = .ok ⟨hsn, maio, ma, powNbinMask ma.length⟩) ∧
    (¬ (ma ≠ [] ∧ 0 ≤ hsn ∧ hsn < 64) → pyInit hsn maio ma = .error .ValueError) := by
  have hl : ma.length = 0 ↔ ma = [] := List.length_eq_zero_iff
  constructor
  · intro ⟨hne, h0, h64⟩
    have hn0 : ma.length ≠ 0 := fun h => hne (hl.1 h)
    have hr : ¬ ¬ (0 ≤ hsn ∧ hsn < 64) := fun h => h ⟨h0, h64⟩
    simp only [pyInit, hn0, if_false, if_neg hr, pyPnm_eq]
  · intro h
    by_cases hn0 : ma.length = 0
    · simp only [pyInit, hn0, if_true]
    · have hr : ¬ (0 ≤ hsn ∧ hsn < 64) := fun hr => h ⟨fun e => hn0 (hl.2 e), hr⟩
      simp only [pyInit, hn0, if_false, hr, not_false_eq_true, if_true]

end OsmoVerif.Hopping
