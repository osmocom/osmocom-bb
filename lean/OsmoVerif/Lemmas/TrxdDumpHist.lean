/-
Helper lemmas about histories on one capture-file object (`OsmoVerif.Model.TrxdDumpHist`) for C15:
a read's answer does not depend on the cursor it starts from, `append_msg` / `append_all` add the records
at the end of the content wherever the cursor was; one step and a whole history against the content-only
specification.
-/
import OsmoVerif.Model.TrxdDumpHist
import OsmoVerif.Lemmas.TrxdDump
namespace OsmoVerif.TrxdDump
open OsmoVerif OsmoVerif.Trxd

/-! ### a read's answer does not depend on the cursor it starts from -/

theorem seek2msg_cursor (d : Bytes) (p idx : Nat) : seek2msg ⟨d, p⟩ idx = seek2msg ⟨d, 0⟩ idx := rfl

theorem parseMsg_cursor (d : Bytes) (p idx : Nat) : parseMsg ⟨d, p⟩ idx = parseMsg ⟨d, 0⟩ idx := rfl

theorem parseAll_cursor (d : Bytes) (p : Nat) (skip count : Option Nat) :
    parseAll ⟨d, p⟩ skip count = parseAll ⟨d, 0⟩ skip count := by
  cases skip <;> rfl

/-! ### appending -/

/-- `append_msg`: wherever the cursor was, the record goes to the end of the content -/
theorem appendMsgSt_eq (f : File) (m : Msg) :
    appendMsgSt f m =
      (match dumpMsg m with
       | .ok raw => (none, ⟨f.data ++ raw, (f.data ++ raw).length⟩)
       | .error e => (some e, ⟨f.data, f.data.length⟩)) := by
  unfold appendMsgSt
  cases dumpMsg m with
  | error e => rfl
  | ok raw => simp only [File.seekEnd, write_at_end]

/-- the `Except` form of `append_msg` used by the stored/read theorems is the same method -/
theorem appendMsg_eq_St (f : File) (m : Msg) :
    appendMsg f m = (match appendMsgSt f m with
      | (none, f') => .ok f'
      | (some e, _) => .error e) := by
  unfold appendMsg appendMsgSt
  cases dumpMsg m with
  | error e => rfl
  | ok raw => rfl

theorem appendAllSt_eq : ∀ (ms : List Msg) (f : File),
    (appendAllSt f ms).1 = (dumpAll ms).1 ∧ (appendAllSt f ms).2.data = f.data ++ (dumpAll ms).2 := by
  intro ms
  induction ms with
  | nil => intro f; simp [appendAllSt, dumpAll]
  | cons m ms ih =>
    intro f
    cases hd : dumpMsg m with
    | error e => simp [appendAllSt, dumpAll, appendMsgSt_eq, hd]
    | ok raw =>
      obtain ⟨h1, h2⟩ := ih ⟨f.data ++ raw, (f.data ++ raw).length⟩
      simp only [appendAllSt, dumpAll, appendMsgSt_eq, hd, h1, h2, List.append_assoc, and_self]

/-- the `Except` form of `append_all` is the same method -/
theorem appendAll_eq_St : ∀ (ms : List Msg) (f : File),
    appendAll f ms = (match appendAllSt f ms with
      | (none, f') => .ok f'
      | (some e, _) => .error e) := by
  intro ms
  induction ms with
  | nil => intro f; rfl
  | cons m ms ih =>
    intro f
    cases hd : dumpMsg m with
    | error e => simp [appendAll, appendAllSt, appendMsg_eq_St, appendMsgSt_eq, hd, bind, Except.bind]
    | ok raw =>
      simp only [appendAll, appendAllSt, appendMsg_eq_St, appendMsgSt_eq, hd, bind, Except.bind]
      exact ih _

/-! ### one step, a whole history -/

/-- every operation leaves an object behind (no read raises), answers what the content alone determines
and turns the content into what the content alone determines -/
theorem step_spec (f : File) (op : Op) :
    ∃ f', step f op = ((specStep f.data op).1, some f') ∧ f'.data = (specStep f.data op).2 := by
  cases op with
  | appendMsg m =>
    cases hd : dumpMsg m with
    | error e => exact ⟨⟨f.data, f.data.length⟩, by simp only [step, specStep, appendMsgSt_eq, hd], by simp only [specStep, hd]⟩
    | ok raw =>
      exact ⟨⟨f.data ++ raw, (f.data ++ raw).length⟩, by simp only [step, specStep, appendMsgSt_eq, hd],
        by simp only [specStep, hd]⟩
  | appendAll ms =>
    obtain ⟨h1, h2⟩ := appendAllSt_eq ms f
    rcases ha : appendAllSt f ms with ⟨e, f'⟩
    rcases hq : dumpAll ms with ⟨e', b⟩
    simp only [ha, hq] at h1 h2
    subst h1
    cases e <;> exact ⟨f', by simp only [step, specStep, ha, hq], by simp only [specStep, hq, h2]⟩
  | parseMsg idx =>
    obtain ⟨r, f', h, hd⟩ := parseMsg_total f idx
    have h0 : parseMsg ⟨f.data, 0⟩ idx = .ok (r, f') := h
    exact ⟨f', by simp only [step, specStep, h, h0], by simp only [specStep, h0, hd]⟩
  | parseAll skip count =>
    obtain ⟨r, f', h, hd⟩ := parseAll_total f skip count
    have h0 : parseAll ⟨f.data, 0⟩ skip count = .ok (r, f') := by
      rw [← parseAll_cursor f.data f.pos]; exact h
    exact ⟨f', by simp only [step, specStep, h, h0], by simp only [specStep, h0, hd]⟩
  | truncate n => exact ⟨_, rfl, rfl⟩

theorem runHist_spec : ∀ (ops : List Op) (f : File),
    ∃ fe, runHist f ops = ((specHist f.data ops).1, some fe) ∧ fe.data = (specHist f.data ops).2 := by
  intro ops
  induction ops with
  | nil => intro f; exact ⟨f, rfl, rfl⟩
  | cons op ops ih =>
    intro f
    obtain ⟨f', hs, hd⟩ := step_spec f op
    obtain ⟨fe, hr, hde⟩ := ih f'
    refine ⟨fe, ?_, ?_⟩
    · simp only [runHist, hs, hr, specHist, hd]
    · simp only [specHist, ← hd, hde]

theorem specHist_append (d : Bytes) (a b : List Op) :
    specHist d (a ++ b) = ((specHist d a).1 ++ (specHist (specHist d a).2 b).1, (specHist (specHist d a).2 b).2) := by
  induction a generalizing d with
  | nil => simp [specHist]
  | cons op a ih => simp only [List.cons_append, specHist, ih, List.cons_append]

end OsmoVerif.TrxdDump
