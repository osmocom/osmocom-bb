/-
Helper lemmas for C14 (parser half): the receiving half of the TRXD interface (`OsmoVerif.Model.TrxdIf`)
and read-only histories on a capture reader (`OsmoVerif.Model.TrxdDumpHist`).
-/
import OsmoVerif.Model.TrxdIf
import OsmoVerif.Lemmas.TrxdParse
import OsmoVerif.Lemmas.TrxdDumpHist
namespace OsmoVerif.TrxdIf
open OsmoVerif OsmoVerif.Trxd

/-- the `except` clauses of `recv_tx_msg` / `recv_rx_msg` swallow (at least) `ValueError` -/
theorem txCatches_valueError : catches Gen.TrxdIf.txCatches .valueError = true := by decide
theorem rxCatches_valueError : catches Gen.TrxdIf.rxCatches .valueError = true := by decide

theorem octets_take (d : Bytes) (n : Nat) (h : ∀ x ∈ d, x < 256) : ∀ x ∈ d.take n, x < 256 :=
  fun x hx => h x (List.mem_of_mem_take hx)

/-- what `recv_tx_msg` / `recv_rx_msg` make of the parser's outcome `p` (`tab`: the `except` clause) -/
def recvWith {α : Type} (tab : List (String × Bool)) (ver : α → Int) (s : DataIf) (p : Except Exc α) :
    Except Exc (Option α) × DataIf :=
  match p with
  | .error e => if catches tab e then (.ok none, s) else (.error e, s)
  | .ok msg => if ¬ matchHdrVer s (ver msg) then (.ok none, s) else (.ok (some msg), s)

theorem recvTxMsg_eq (s : DataIf) (d : Bytes) :
    recvTxMsg s d = recvWith Gen.TrxdIf.txCatches TxMsg.ver s (TxMsg.parseMsg (d.take Gen.TrxdIf.txRecvSize)) := by
  cases h : TxMsg.parseMsg (d.take Gen.TrxdIf.txRecvSize) <;> simp only [recvTxMsg, recvWith, recvRawData, h]

theorem recvRxMsg_eq (s : DataIf) (d : Bytes) :
    recvRxMsg s d = recvWith Gen.TrxdIf.rxCatches RxMsg.ver s (RxMsg.parseMsg (d.take Gen.TrxdIf.rxRecvSize)) := by
  cases h : RxMsg.parseMsg (d.take Gen.TrxdIf.rxRecvSize) <;> simp only [recvRxMsg, recvWith, recvRawData, h]

/-- what the callers of `recv_*_msg` rely on, `p` being the parser's outcome and `r` the call's: never an
exception, `None` for every rejected datagram and for a header version other than the negotiated one, the
parsed message otherwise, the object left as it was -/
def RecvSpec {α : Type} (ver : α → Int) (s : DataIf) (p : Except Exc α)
    (r : Except Exc (Option α) × DataIf) : Prop :=
  r.2 = s ∧ (∃ v, r.1 = .ok v) ∧ ((∃ e, p = .error e) → r.1 = .ok none) ∧
  (∀ m, p = .ok m → r.1 = .ok (if ver m = s.hdrVer then some m else none))

/-- it holds around a parser that signals nothing but ValueError -/
theorem recvWith_spec {α : Type} {tab : List (String × Bool)} (ver : α → Int) (s : DataIf) (p : Except Exc α)
    (hc : catches tab .valueError = true) (herr : ∀ e, p = .error e → e = .valueError) :
    RecvSpec ver s p (recvWith tab ver s p) := by
  cases p with
  | error e =>
    cases herr e rfl
    have h : recvWith tab ver s (.error .valueError) = (.ok none, s) := by simp only [recvWith, hc, if_true]
    rw [h]
    exact ⟨rfl, ⟨_, rfl⟩, fun _ => rfl, fun m h => by cases h⟩
  | ok m =>
    have h : recvWith tab ver s (.ok m) = (.ok (if ver m = s.hdrVer then some m else none), s) := by
      by_cases hv : ver m = s.hdrVer <;>
        simp only [recvWith, matchHdrVer, beq_iff_eq, hv, not_true_eq_false, not_false_eq_true, if_true, if_false]
    rw [h]
    exact ⟨rfl, ⟨_, rfl⟩, fun h => h.elim fun e he => (by cases he), fun m' hm => by cases hm; rfl⟩

theorem RecvSpec.mismatch {α : Type} {ver : α → Int} {s : DataIf} {p : Except Exc α}
    {r : Except Exc (Option α) × DataIf} (h : RecvSpec ver s p r) (hv : ∀ m, p = .ok m → ver m ≠ s.hdrVer) :
    r.1 = .ok none := by
  obtain ⟨-, -, herr, hok⟩ := h
  cases hp : p with
  | error e => exact herr ⟨e, hp⟩
  | ok m => rw [hok m hp, if_neg (hv m hp)]

theorem recvTxMsg_spec (s : DataIf) (d : Bytes) :
    RecvSpec TxMsg.ver s (TxMsg.parseMsg (d.take Gen.TrxdIf.txRecvSize)) (recvTxMsg s d) :=
  recvTxMsg_eq s d ▸ recvWith_spec TxMsg.ver s _ txCatches_valueError (TxMsg.parseMsg_err _)

theorem recvRxMsg_spec (s : DataIf) (d : Bytes) (hd : ∀ x ∈ d, x < 256) :
    RecvSpec RxMsg.ver s (RxMsg.parseMsg (d.take Gen.TrxdIf.rxRecvSize)) (recvRxMsg s d) :=
  recvRxMsg_eq s d ▸ recvWith_spec RxMsg.ver s _ rxCatches_valueError
    (RxMsg.parseMsgFrom_err RxMsg.fresh _ (octets_take d _ hd))

/-! ### histories on one interface object -/

/-- datagram operations (everything but `set_hdr_ver`) on octet strings -/
def Op.IsRecv : Op → Prop
  | .setVer _ => False
  | .recvTx _ => True
  | .recvRx d => ∀ x ∈ d, x < 256
instance (op : Op) : Decidable op.IsRecv := by cases op <;> unfold Op.IsRecv <;> infer_instance

/-- operations whose datagrams are octet strings -/
def Op.Octets : Op → Prop
  | .setVer _ => True
  | .recvTx _ => True
  | .recvRx d => ∀ x ∈ d, x < 256
instance (op : Op) : Decidable op.Octets := by cases op <;> unfold Op.Octets <;> infer_instance

theorem step_recv_state (s : DataIf) (op : Op) (h : op.IsRecv) : (step s op).2 = s := by
  cases op with
  | setVer v => exact h.elim
  | recvTx d => exact (recvTxMsg_spec s d).1
  | recvRx d => exact (recvRxMsg_spec s d h).1

theorem runIf_append (s : DataIf) (a b : List Op) :
    runIf s (a ++ b) = ((runIf s a).1 ++ (runIf (runIf s a).2 b).1, (runIf (runIf s a).2 b).2) := by
  induction a generalizing s with
  | nil => simp [runIf]
  | cons op a ih => simp only [List.cons_append, runIf, ih, List.cons_append]

theorem runIf_recv_state (s : DataIf) (pre : List Op) (h : ∀ op ∈ pre, op.IsRecv) : (runIf s pre).2 = s := by
  induction pre generalizing s with
  | nil => rfl
  | cons op pre ih =>
    have h1 := step_recv_state s op (h op (List.mem_cons_self ..))
    simp only [runIf]
    rw [h1]
    exact ih s (fun o ho => h o (List.mem_cons_of_mem _ ho))

theorem runIf_length (s : DataIf) (ops : List Op) : (runIf s ops).1.length = ops.length := by
  induction ops generalizing s with
  | nil => rfl
  | cons op ops ih => simp only [runIf, List.length_cons, ih]

/-- the call returned (`set_hdr_ver` always does): its answer is not an exception -/
def Ans.Returned : Ans → Prop
  | .set _ => True
  | .tx r => ∃ v, r = .ok v
  | .rx r => ∃ v, r = .ok v

theorem step_returned (s : DataIf) (op : Op) (h : op.Octets) : (step s op).1.Returned := by
  cases op with
  | setVer v => exact trivial
  | recvTx d => exact (recvTxMsg_spec s d).2.1
  | recvRx d => exact (recvRxMsg_spec s d h).2.1

end OsmoVerif.TrxdIf

namespace OsmoVerif.TrxdDump
open OsmoVerif OsmoVerif.Trxd

/-- read operations of a capture history (any index, skip, count) -/
def Op.IsRead : Op → Prop
  | .parseMsg _ => True
  | .parseAll _ _ => True
  | _ => False
instance (op : Op) : Decidable op.IsRead := by cases op <;> unfold Op.IsRead <;> infer_instance

theorem specStep_read (d : Bytes) (op : Op) (h : op.IsRead) :
    (specStep d op).2 = d ∧ ∀ e, (specStep d op).1 ≠ .raised e := by
  cases op with
  | parseMsg idx =>
    obtain ⟨r, f', hr, _⟩ := parseMsg_total ⟨d, 0⟩ idx
    simp only [specStep, hr]
    exact ⟨trivial, fun e h => by cases h⟩
  | parseAll skip count =>
    obtain ⟨r, f', hr, _⟩ := parseAll_total ⟨d, 0⟩ skip count
    simp only [specStep, hr]
    exact ⟨trivial, fun e h => by cases h⟩
  | appendMsg m => exact h.elim
  | appendAll ms => exact h.elim
  | truncate n => exact h.elim

theorem specHist_reads (d : Bytes) (ops : List Op) (h : ∀ op ∈ ops, op.IsRead) :
    (specHist d ops).2 = d ∧ ∀ a ∈ (specHist d ops).1, ∀ e, a ≠ .raised e := by
  induction ops with
  | nil => exact ⟨rfl, fun a ha => by cases ha⟩
  | cons op ops ih =>
    obtain ⟨h1, h2⟩ := specStep_read d op (h op (List.mem_cons_self ..))
    obtain ⟨i1, i2⟩ := ih (fun o ho => h o (List.mem_cons_of_mem _ ho))
    simp only [specHist, h1]
    refine ⟨i1, ?_⟩
    intro a ha
    simp only [List.mem_cons] at ha
    rcases ha with rfl | ha
    · exact h2
    · exact i2 a ha

end OsmoVerif.TrxdDump
