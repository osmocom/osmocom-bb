/-
The TRXC control plane never raises (C05, C14): the handlers and `parse_cmd` raise nothing but
ValueError, `handle_rx` answers it with status −1, `recv_data_msg` raises nothing at all.
-/
import OsmoVerif.Lemmas.WorldBurst
open OsmoVerif OsmoVerif.World OsmoVerif.PyStr
namespace OsmoVerif.World

/-! ### the handlers raise nothing but ValueError -/

macro "exc_finish" h:ident : tactic =>
  `(tactic| (
    simp only [arg_one, arg_two, bind, Except.bind, pure, Except.pure, map_eq] at $h:ident
    repeat' split at $h:ident
    all_goals first
      | (cases $h:ident; done)
      | contradiction
      | (cases $h:ident; exact toInt_error ‹_›)))

theorem ctrlCmdHandler_error {req : List Str} {e : Exc} (h : ctrlCmdHandler req = .error e) :
    e = .valueError := by
  revert h
  refine ctrlCmdHandler_cases (motive := fun req => ctrlCmdHandler req = .error e → e = .valueError) req
    ?_ ?_ ?_ ?_ ?_ ?_ ?_ ?_ ?_ ?_ (fun h h' => by rw [h] at h'; cases h')
  · intro a h; rw [ctrlCmdHandler_setta] at h
    exact bind_toInt_error (fun _ h => by cases h) h
  · intro a b h; rw [ctrlCmdHandler_fake_toa2] at h
    exact bind_toInt_error (fun _ => bind_toInt_error fun thr h => by split at h <;> cases h) h
  · intro a h; rw [ctrlCmdHandler_fake_toa1] at h
    exact bind_toInt_error (fun _ h => by cases h) h
  · intro a b h; rw [ctrlCmdHandler_fake_rssi2] at h
    refine bind_toInt_error (fun thr h => ?_) h
    split at h
    · cases h
    · exact bind_toInt_error (fun _ => bind_toInt_error fun _ h => by cases h) h
  · intro a h; rw [ctrlCmdHandler_fake_rssi1] at h
    exact bind_toInt_error (fun _ h => by cases h) h
  · intro a b h; rw [ctrlCmdHandler_fake_ci2] at h
    exact bind_toInt_error (fun _ => bind_toInt_error fun thr h => by split at h <;> cases h) h
  · intro a h; rw [ctrlCmdHandler_fake_ci1] at h
    exact bind_toInt_error (fun _ h => by cases h) h
  · intro a h; rw [ctrlCmdHandler_fake_drop1] at h
    exact bind_toInt_error (fun num h => by split at h <;> cases h) h
  · intro a b h; rw [ctrlCmdHandler_fake_drop2] at h
    refine bind_toInt_error (fun num h => ?_) h
    split at h
    · cases h
    · exact bind_toInt_error (fun period h => by split at h <;> cases h) h
  · intro a h; rw [ctrlCmdHandler_fake_trxc_delay] at h
    exact bind_toInt_error (fun d h => by split at h <;> cases h) h

theorem commonCmd_error {trx : Trx} {req : List Str} {e : Exc} (h : commonCmd trx req = .error e) :
    e = .valueError := by
  revert h
  refine commonCmd_cases (motive := fun req => commonCmd trx req = .error e → e = .valueError) req
    ?_ ?_ ?_ ?_ ?_ ?_ ?_ ?_ ?_ ?_ (fun h h' => by rw [h] at h'; cases h')
  · intro h; rw [commonCmd_poweron] at h
    split at h
    · cases h
    · split at h <;> cases h
  · intro h; rw [commonCmd_poweroff] at h; cases h
  · intro a h; rw [commonCmd_rxtune] at h
    exact bind_toInt_error (fun _ h => by cases h) h
  · intro a h; rw [commonCmd_txtune] at h
    exact bind_toInt_error (fun _ h => by cases h) h
  · intro a h; rw [commonCmd_measure] at h
    split at h
    · cases h
    · exact bind_toInt_error (fun _ h => by cases h) h
  · intro hsn maio c d r h; rw [commonCmd_setfh] at h
    refine bind_toInt_error (fun _ => bind_toInt_error fun _ h => ?_) h
    cases hk : khzList (c :: d :: r) with
    | error e' => rw [hk] at h; cases h; exact khzList_error hk
    | ok ma =>
      rw [hk] at h
      simp only [bind, Except.bind] at h
      split at h <;> cases h
  · intro a h; rw [commonCmd_setformat] at h
    refine bind_toInt_error (fun v h => ?_) h
    split at h
    · cases h
    · split at h <;> cases h
  · intro a h; rw [commonCmd_setpower] at h
    exact bind_toInt_error (fun _ h => by cases h) h
  · intro h; rw [commonCmd_nomtxpower] at h; cases h
  · intro a h; rw [commonCmd_rfmute] at h
    exact bind_toInt_error (fun _ h => by cases h) h

/-! ### power handling, measurement, `parse_cmd` -/

theorem draw_ok {lo hi : Int} (h : lo ≤ hi) (seed k : Nat) :
    ∃ v, draw seed k lo hi = .ok v ∧ lo ≤ v ∧ v ≤ hi := by
  obtain ⟨v, hv⟩ := (draw_ok_iff seed k lo hi).2 h
  exact ⟨v, hv, draw_window _ _ _ _ _ hv⟩

/-- the `randint` bounds `FakePM.measure(freq)` uses in world `w` -/
def pmRange (w : World) (freq : Int) : Int × Int :=
  if fakePmFound w.trxs freq then (Gen.World.fakePmTrxMin, Gen.World.fakePmTrxMax)
  else (Gen.World.fakePmNoiseMin, Gen.World.fakePmNoiseMax)

theorem fakePmMeasure_draw (w : World) (freq : Int) :
    ∃ dbm, draw w.seed w.drawK (pmRange w freq).1 (pmRange w freq).2 = .ok dbm ∧
      (pmRange w freq).1 ≤ dbm ∧ dbm ≤ (pmRange w freq).2 ∧
      fakePmMeasure w freq = .ok (dbm, { w with drawK := w.drawK + 1 }) := by
  unfold fakePmMeasure pmRange World.randint
  split
  · obtain ⟨v, hv, h1, h2⟩ := draw_ok (show Gen.World.fakePmTrxMin ≤ Gen.World.fakePmTrxMax by decide)
      w.seed w.drawK
    exact ⟨v, hv, h1, h2, by simp only [hv]⟩
  · obtain ⟨v, hv, h1, h2⟩ := draw_ok
      (show Gen.World.fakePmNoiseMin ≤ Gen.World.fakePmNoiseMax by decide) w.seed w.drawK
    exact ⟨v, hv, h1, h2, by simp only [hv]⟩

theorem applyAction_ok {w : World} {i : Nat} (hi : i < w.trxs.length) (a : Action) :
    ∃ r, applyAction w i a = .ok r := by
  cases a with
  | patch p rc => exact ⟨_, rfl⟩
  | reply rc ps => exact ⟨_, rfl⟩
  | power on =>
    obtain ⟨t, ht⟩ := getElem?_of_lt hi
    exact ⟨_, applyAction_power ht on⟩
  | measure f =>
    obtain ⟨v, -, -, -, hv⟩ := fakePmMeasure_draw w f
    simp only [applyAction, hv, bind, Except.bind, pure, Except.pure]
    exact ⟨_, rfl⟩

/-- `parse_cmd` raises nothing but ValueError (the `request[k]` IndexError is unreachable after
`verify_cmd`, power handling and the power measurement cannot fail). -/
theorem parseCmd_only_valueError {w : World} {i : Nat} {req : List Str} {e : Exc}
    (hi : i < w.trxs.length) (h : parseCmd w i req = .error e) : e = .valueError := by
  rw [parseCmd_eq] at h
  split at h
  · cases h; exact ctrlCmdHandler_error ‹_›
  · cases h
  · rename_i patch hc
    have hlen : i < (applyPatch w i patch).trxs.length := by simp [hi]
    obtain ⟨t, ht⟩ := getElem?_of_lt hlen
    rw [ht] at h
    simp only at h
    split at h
    · cases h; exact commonCmd_error ‹_›
    · obtain ⟨r, hr⟩ := applyAction_ok hlen ‹Action›
      rw [hr] at h; cases h

/-! ### `handle_rx` -/

theorem splitSpace_ne_nil (s : Str) : splitSpace s ≠ [] := by
  induction s with
  | nil => simp [splitSpace]
  | cons c r ih =>
    simp only [splitSpace]
    split
    · simp
    · split
      · contradiction
      · simp

theorem request_cons (s : Str) : ∃ verb args, request s = verb :: args := by
  unfold request
  cases h : splitSpace (stripNul (strip (s.drop 4))) with
  | nil => exact absurd h (splitSpace_ne_nil _)
  | cons v a => exact ⟨v, a, rfl⟩

theorem handleRx_undecodable {w : World} {i : Nat} {t : Trx} {d : List Nat} (a p : Nat)
    (ht : w.trxs[i]? = some t)
    (hd : decodeUtf8 (d.take Gen.World.ctrlRecvSize) = none) :
    handleRx w i a p d = { world := w } := by
  rw [handleRx_eq ht, hd]

theorem handleRx_noprefix {w : World} {i : Nat} {t : Trx} {d : List Nat} {s : Str} (a p : Nat)
    (ht : w.trxs[i]? = some t)
    (hd : decodeUtf8 (d.take Gen.World.ctrlRecvSize) = some s)
    (hp : startsWith s (lit "CMD") = false) :
    handleRx w i a p d = { world := w } := by
  rw [handleRx_eq ht, hd]
  exact if_neg (by rw [hp]; exact Bool.false_ne_true)

/-- a decodable `CMD …` datagram: exactly one reply to the sender, no exception; the reply carries
the outcome of `parse_cmd`, ValueError being answered with status −1 and no state change -/
theorem handleRx_reply {w : World} {i : Nat} {t : Trx} {d : List Nat} {s : Str} (a p : Nat)
    (ht : w.trxs[i]? = some t)
    (hd : decodeUtf8 (d.take Gen.World.ctrlRecvSize) = some s)
    (hp : startsWith s (lit "CMD") = true) :
    ∃ rc params w',
      handleRx w i a p d =
        { world := w', out := [⟨t.ctrlPort, a, p, encodeUtf8 (rspText (request s) rc params)⟩] } ∧
      (parseCmd w i (request s) = .ok (w', (rc, params)) ∨
       (parseCmd w i (request s) = .error .valueError ∧ rc = -1 ∧ params = [] ∧ w' = w)) := by
  have hi : i < w.trxs.length := (List.getElem?_eq_some_iff.1 ht).1
  rw [handleRx_eq ht, hd]
  dsimp only
  rw [if_pos hp, handleReq]
  cases hpc : parseCmd w i (request s) with
  | ok r =>
    obtain ⟨w', rc, params⟩ := r
    exact ⟨rc, params, w', rfl, .inl rfl⟩
  | error e =>
    cases parseCmd_only_valueError hi hpc
    exact ⟨-1, [], w, rfl, .inr ⟨rfl, rfl, rfl, rfl⟩⟩

theorem handleRx_total {w : World} {i : Nat} (hi : i < w.trxs.length) (a p : Nat) (d : List Nat) :
    (handleRx w i a p d).exc = none ∧ (handleRx w i a p d).out.length ≤ 1 := by
  obtain ⟨t, ht⟩ := getElem?_of_lt hi
  cases hd : decodeUtf8 (d.take Gen.World.ctrlRecvSize) with
  | none => rw [handleRx_undecodable a p ht hd]; exact ⟨rfl, Nat.le_of_ble_eq_true rfl⟩
  | some s =>
    cases hp : startsWith s (lit "CMD") with
    | false => rw [handleRx_noprefix a p ht hd hp]; exact ⟨rfl, Nat.le_of_ble_eq_true rfl⟩
    | true =>
      obtain ⟨rc, params, w', h, _⟩ := handleRx_reply a p ht hd hp
      rw [h]; exact ⟨rfl, Nat.le_of_ble_eq_true rfl⟩

/-! ### `recv_data_msg` -/

theorem recvDataMsg_total {w : World} {i : Nat} (hi : i < w.trxs.length) (d : List Nat) :
    (recvDataMsg w i d).exc = none ∧ (recvDataMsg w i d).out = [] ∧ (recvDataMsg w i d).stale = 0 := by
  obtain ⟨t, ht⟩ := getElem?_of_lt hi
  rw [recvDataMsg_eq d ht]
  split
  · exact ⟨rfl, rfl, rfl⟩
  · split
    · exact ⟨rfl, rfl, rfl⟩
    · split <;> exact ⟨rfl, rfl, rfl⟩

end OsmoVerif.World
