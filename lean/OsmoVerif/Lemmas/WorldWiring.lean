/-
`Application.__init__` (`build`): an induction principle over the transceivers it appends, and the
wiring invariant it establishes (C12).
-/
import OsmoVerif.Lemmas.World
import OsmoVerif.Spec.WorldPower
import OsmoVerif.Lemmas.Basics

namespace OsmoVerif.WorldPower
open OsmoVerif OsmoVerif.World OsmoVerif.PyStr

theorem lt_of_getElem? {α} {l : List α} {i : Nat} {y : α} (h : l[i]? = some y) : i < l.length :=
  (List.getElem?_eq_some_iff.mp h).1

/-! ### `find_trx` -/

theorem findTrx_none {ts : List Trx} {a p i : Nat} (h : findTrx ts a p i = none) :
    ∀ (k : Nat) (t : Trx), ts[k]? = some t → ¬ (t.addr = a ∧ t.basePort = p ∧ t.childIdx = i) := by
  intro k t ht hc
  have := List.findIdx?_eq_none_iff.mp h t (List.mem_of_getElem? ht)
  simp [hc.1, hc.2.1, hc.2.2] at this

theorem findTrx_some {ts : List Trx} {a p i k : Nat} (h : findTrx ts a p i = some k) :
    ∃ t, ts[k]? = some t ∧ t.addr = a ∧ t.basePort = p ∧ t.childIdx = i := by
  obtain ⟨hk, hp, -⟩ := List.findIdx?_eq_some_iff_getElem.mp h
  exact ⟨ts[k], List.getElem?_eq_getElem hk, by simpa [and_assoc] using hp⟩

theorem isSome_eq_false {α} {o : Option α} (h : ¬ o.isSome = true) : o = none := by
  cases o with
  | none => rfl
  | some x => exact absurd rfl h

/-! ### `Application.__init__`, transceiver by transceiver -/

/-- the transceiver `append_trx` appends -/
def parentTrx (a p : Nat) (m : Bool) : Trx :=
  { addr := a, basePort := p, childIdx := 0, childMgt := m, hasClock := true }

/-- the transceiver `append_child_trx` appends for a child index > 0 -/
def childTrx (a p c : Nat) : Trx :=
  { addr := a, basePort := p, childIdx := c, childMgt := true, hasClock := false }

/-- `child_trx_list.add_trx(child)` -/
def addChild (ci : Nat) (t : Trx) : Trx := { t with children := t.children ++ [ci] }

/-- BTS and MS, which every application starts with -/
def heads : List Trx :=
  [parentTrx addrBts btsPort Gen.World.btsChildMgt, parentTrx addrBb bbPort Gen.World.msChildMgt]

theorem appendTrx_ok {ts ts' : List Trx} {a p c : Nat} {m : Bool} (h : appendTrx ts a p c m = .ok ts') :
    c = 0 ∧ findTrx ts a p c = none ∧
    ts' = ts ++ [{ addr := a, basePort := p, childIdx := c, childMgt := m, hasClock := true }] := by
  unfold appendTrx at h
  split at h
  · cases h
  · split at h
    · cases h
    next h1 h2 => cases h; exact ⟨Nat.eq_zero_of_not_pos h1, isSome_eq_false h2, rfl⟩

theorem appendChildTrx_ok {ts ts' : List Trx} {a p c : Nat} (h : appendChildTrx ts a p c = .ok ts') :
    (c = 0 ∧ findTrx ts a p 0 = none ∧ ts' = ts ++ [parentTrx a p true]) ∨
    (0 < c ∧ ∃ q, findTrx ts a p 0 = some q ∧ findTrx ts a p c = none ∧
      ts' = (ts ++ [childTrx a p c]).modify q (addChild ts.length)) := by
  unfold appendChildTrx at h
  split at h
  next hc => subst hc; obtain ⟨-, hf, rfl⟩ := appendTrx_ok h; exact .inl ⟨rfl, hf, rfl⟩
  next hc =>
    split at h
    · cases h
    next q hq =>
      split at h
      · cases h
      next hf => cases h; exact .inr ⟨Nat.pos_of_ne_zero hc, q, hq, isSome_eq_false hf, rfl⟩

/-- **Induction over `Application.__init__`.**  `P ds ts`: a property of the transceiver list `ts` after
the `--trx` definitions `ds`.  It holds of the built application if it holds of BTS and MS alone and is
preserved by appending a parent with a fresh key and by appending a child with a fresh key to its parent. -/
theorem build_induction {P : List (Nat × Nat × Nat) → List Trx → Prop} (base : P [] heads)
    (parent : ∀ ds ts a p, P ds ts → findTrx ts a p 0 = none →
      P (ds ++ [(a, p, 0)]) (ts ++ [parentTrx a p true]))
    (child : ∀ ds ts a p c q, P ds ts → 0 < c → findTrx ts a p 0 = some q → findTrx ts a p c = none →
      P (ds ++ [(a, p, c)]) ((ts ++ [childTrx a p c]).modify q (addChild ts.length)))
    {seed : Nat} {extra : List (Nat × Nat × Nat)} {w : World} (h : build seed extra = .ok w) :
    P extra w.trxs ∧ w = { trxs := w.trxs, seed := seed } := by
  have hb : build seed extra = (do
      let ts ← extra.foldlM (fun ts (x : Nat × Nat × Nat) => appendChildTrx ts x.1 x.2.1 x.2.2) heads
      pure { trxs := ts, seed := seed }) := rfl
  rw [hb] at h
  obtain ⟨ts', hf, h⟩ := bind_ok h
  cases h
  refine ⟨?_, rfl⟩
  have key : ∀ (rest ds : List (Nat × Nat × Nat)) (ts : List Trx), P ds ts →
      rest.foldlM (fun ts (x : Nat × Nat × Nat) => appendChildTrx ts x.1 x.2.1 x.2.2) ts = .ok ts' →
      P (ds ++ rest) ts' := by
    intro rest
    induction rest with
    | nil => intro ds ts hP hf; cases hf; rw [List.append_nil]; exact hP
    | cons x rest ih =>
      intro ds ts hP hf
      obtain ⟨a, p, c⟩ := x
      rw [List.foldlM_cons] at hf
      obtain ⟨ts1, h1, hf1⟩ := bind_ok hf
      rw [List.append_cons]
      refine ih _ ts1 ?_ hf1
      rcases appendChildTrx_ok h1 with ⟨rfl, hn, rfl⟩ | ⟨hc, q, hq, hn, rfl⟩
      · exact parent ds ts a p hP hn
      · exact child ds ts a p c q hP hc hq hn
  exact key extra [] heads base hf

/-! ### the invariant of `Application.__init__` while it appends transceivers -/

/-- wiring invariant without the BTS/MS positions, plus the initial power state -/
structure WFC (ts : List Trx) : Prop where
  child_ok : ∀ (i : Nat) (t : Trx), ts[i]? = some t → ∀ c ∈ t.children, ∃ tc, ts[c]? = some tc ∧
    0 < tc.childIdx ∧ tc.hasClock = false ∧ tc.addr = t.addr ∧ tc.basePort = t.basePort
  parent_ok : ∀ (i : Nat) (t : Trx), ts[i]? = some t → t.children ≠ [] → t.childIdx = 0 ∧ t.hasClock = true
  clock_iff : ∀ (i : Nat) (t : Trx), ts[i]? = some t → (t.hasClock = true ↔ t.childIdx = 0)
  child_has_parent : ∀ (c : Nat) (tc : Trx), ts[c]? = some tc → 0 < tc.childIdx →
    ∃ (p : Nat) (tp : Trx), ts[p]? = some tp ∧ c ∈ tp.children ∧ tp.childIdx = 0 ∧
      tp.addr = tc.addr ∧ tp.basePort = tc.basePort
  one_parent : ∀ (i j : Nat) (ti tj : Trx), ts[i]? = some ti → ts[j]? = some tj →
    ∀ c ∈ ti.children, c ∈ tj.children → i = j
  children_nodup : ∀ (i : Nat) (t : Trx), ts[i]? = some t → t.children.Nodup
  distinct : ∀ (i j : Nat) (ti tj : Trx), ts[i]? = some ti → ts[j]? = some tj →
    ti.addr = tj.addr → ti.basePort = tj.basePort → ti.childIdx = tj.childIdx → i = j
  init : ∀ (i : Nat) (t : Trx), ts[i]? = some t → t.running = false ∧ t.txQueue = [] ∧ t.fh = none

theorem WFC.nil : WFC [] := by
  constructor <;> intros <;> simp_all

theorem WFC.child_lt {ts : List Trx} (wf : WFC ts) {i : Nat} {t : Trx} (ht : ts[i]? = some t)
    {c : Nat} (hc : c ∈ t.children) : c < ts.length := by
  obtain ⟨tc, htc, -⟩ := wf.child_ok i t ht c hc
  exact lt_of_getElem? htc

/-- what appending a transceiver makes of the old entry at `i`: the parent `p` of a child gets the
new index `n` in its child list -/
def up (p n i : Nat) (t : Trx) : Trx := { t with children := if p = i then t.children ++ [n] else t.children }

theorem mem_up (p n i : Nat) (t : Trx) (c : Nat) :
    c ∈ (up p n i t).children ↔ c ∈ t.children ∨ (p = i ∧ c = n) := by
  show c ∈ ite _ _ _ ↔ _
  split
  next hp => simp only [List.mem_append, List.mem_singleton, hp, true_and]
  next hp => simp only [hp, false_and, or_false]

theorem getElem?_snoc_modify (ts : List Trx) (x : Trx) {p : Nat} (hpn : p ≠ ts.length) (i : Nat) :
    ((ts ++ [x]).modify p (addChild ts.length))[i]? =
      if i = ts.length then some x else (ts[i]?).map (up p ts.length i) := by
  rw [List.getElem?_modify]
  by_cases he : i = ts.length
  · rw [he, List.getElem?_concat_length, if_pos rfl]; exact congrArg some (if_neg hpn)
  · rw [if_neg he, List.getElem?_append]
    by_cases hi : i < ts.length
    · rw [if_pos hi]
      exact congrArg (Option.map · _) (funext fun t => by unfold up addChild; split <;> rfl)
    · rw [if_neg hi, List.getElem?_eq_none (Nat.le_of_not_lt hi),
        List.getElem?_eq_none (by simp only [List.length_singleton]; omega)]
      rfl

/-- Appending `x` with a fresh key: as a parent (`p` beyond the list: no child list changes), or as a
child that is entered in the child list of its parent `p`. -/
theorem WFC.snoc {ts : List Trx} (wf : WFC ts) (p : Nat) (x : Trx) (hch : x.children = [])
    (hinit : x.running = false ∧ x.txQueue = [] ∧ x.fh = none)
    (fresh : ∀ (k : Nat) (t : Trx), ts[k]? = some t →
      ¬ (t.addr = x.addr ∧ t.basePort = x.basePort ∧ t.childIdx = x.childIdx))
    (hx : (ts.length < p ∧ x.childIdx = 0 ∧ x.hasClock = true) ∨
      ∃ tp, ts[p]? = some tp ∧ tp.childIdx = 0 ∧ 0 < x.childIdx ∧ x.hasClock = false ∧
        x.addr = tp.addr ∧ x.basePort = tp.basePort) :
    WFC ((ts ++ [x]).modify p (addChild ts.length)) := by
  have hget := getElem?_snoc_modify ts x (p := p) (by
    rcases hx with ⟨h, -⟩ | ⟨tp, htp, -⟩
    · exact Nat.ne_of_gt h
    · exact Nat.ne_of_lt (lt_of_getElem? htp))
  generalize (ts ++ [x]).modify p (addChild ts.length) = ts' at hget ⊢
  have old : ∀ {i : Nat} {t : Trx}, ts[i]? = some t → ts'[i]? = some (up p ts.length i t) :=
    fun {i t} h => by rw [hget, if_neg (Nat.ne_of_lt (lt_of_getElem? h)), h]; rfl
  have new : ts'[ts.length]? = some x := by rw [hget, if_pos rfl]
  have view : ∀ {i : Nat} {t' : Trx}, ts'[i]? = some t' →
      (∃ t, ts[i]? = some t ∧ t' = up p ts.length i t) ∨ (i = ts.length ∧ t' = x) := by
    intro i t' h
    rw [hget] at h
    split at h
    next he => exact .inr ⟨he, (Option.some.inj h).symm⟩
    · obtain ⟨t, ht, e⟩ := Option.map_eq_some_iff.mp h
      exact .inl ⟨t, ht, e.symm⟩
  have kids := mem_up p ts.length
  -- an old entry at `p` is the parent of the child `x`
  have par : ∀ {t : Trx}, ts[p]? = some t → t.childIdx = 0 ∧ 0 < x.childIdx ∧ x.hasClock = false ∧
      x.addr = t.addr ∧ x.basePort = t.basePort := by
    intro t ht
    rcases hx with ⟨h, -⟩ | ⟨tp, htp, h⟩
    · exact absurd (lt_of_getElem? ht) (Nat.lt_asymm h)
    · cases ht.symm.trans htp; exact h
  constructor
  · -- child_ok
    intro i t' ht' c hc
    rcases view ht' with ⟨t, ht, rfl⟩ | ⟨-, rfl⟩
    · rcases (kids i t c).mp hc with hc | ⟨rfl, rfl⟩
      · obtain ⟨tc, htc, h⟩ := wf.child_ok i t ht c hc
        exact ⟨_, old htc, h⟩
      · exact ⟨x, new, (par ht).2⟩
    · rw [hch] at hc; cases hc
  · -- parent_ok
    intro i t' ht' hne
    rcases view ht' with ⟨t, ht, rfl⟩ | ⟨-, rfl⟩
    · by_cases hp : p = i
      · subst hp; exact ⟨(par ht).1, (wf.clock_iff p t ht).mpr (par ht).1⟩
      · exact wf.parent_ok i t ht (by rwa [up, if_neg hp] at hne)
    · exact absurd hch hne
  · -- clock_iff
    intro i t' ht'
    rcases view ht' with ⟨t, ht, rfl⟩ | ⟨-, rfl⟩
    · exact wf.clock_iff i t ht
    · rcases hx with ⟨-, h1, h2⟩ | ⟨tp, -, -, h1, h2, -⟩
      · simp only [h1, h2]
      · simp only [h2, Bool.false_eq_true, false_iff]; exact Nat.ne_of_gt h1
  · -- child_has_parent
    intro c tc' htc' hpos
    rcases view htc' with ⟨tc, htc, rfl⟩ | ⟨rfl, rfl⟩
    · obtain ⟨q, tq, htq, h1, h⟩ := wf.child_has_parent c tc htc hpos
      exact ⟨q, _, old htq, (kids q tq c).mpr (.inl h1), h⟩
    · rcases hx with ⟨-, h1, -⟩ | ⟨tp, htp, h0, -, -, h3, h4⟩
      · exact absurd h1 (Nat.ne_of_gt hpos)
      · exact ⟨p, _, old htp, (kids p tp _).mpr (.inr ⟨rfl, rfl⟩), h0, h3.symm, h4.symm⟩
  · -- one_parent
    intro i j ti' tj' hti' htj' c hc1 hc2
    rcases view hti' with ⟨ti, hti, rfl⟩ | ⟨-, rfl⟩
    · rcases view htj' with ⟨tj, htj, rfl⟩ | ⟨-, rfl⟩
      · rcases (kids i ti c).mp hc1 with hc1 | ⟨rfl, rfl⟩
        · rcases (kids j tj c).mp hc2 with hc2 | ⟨rfl, rfl⟩
          · exact wf.one_parent i j ti tj hti htj c hc1 hc2
          · exact absurd (wf.child_lt hti hc1) (Nat.lt_irrefl _)
        · rcases (kids j tj _).mp hc2 with hc2 | ⟨rfl, -⟩
          · exact absurd (wf.child_lt htj hc2) (Nat.lt_irrefl _)
          · rfl
      · rw [hch] at hc2; cases hc2
    · rw [hch] at hc1; cases hc1
  · -- children_nodup
    intro i t' ht'
    rcases view ht' with ⟨t, ht, rfl⟩ | ⟨-, rfl⟩
    · show List.Nodup (ite _ _ _)
      split
      · refine List.nodup_append.mpr ⟨wf.children_nodup i t ht, by simp, fun a ha b hb => ?_⟩
        cases List.mem_singleton.mp hb
        exact Nat.ne_of_lt (wf.child_lt ht ha)
      · exact wf.children_nodup i t ht
    · rw [hch]; exact List.nodup_nil
  · -- distinct
    intro i j ti' tj' hti' htj' h1 h2 h3
    rcases view hti' with ⟨ti, hti, rfl⟩ | ⟨hi, rfl⟩
    · rcases view htj' with ⟨tj, htj, rfl⟩ | ⟨-, rfl⟩
      · exact wf.distinct i j ti tj hti htj h1 h2 h3
      · exact absurd ⟨h1, h2, h3⟩ (fresh i ti hti)
    · rcases view htj' with ⟨tj, htj, rfl⟩ | ⟨hj, -⟩
      · exact absurd ⟨h1.symm, h2.symm, h3.symm⟩ (fresh j tj htj)
      · exact hi.trans hj.symm
  · -- init
    intro i t' ht'
    rcases view ht' with ⟨t, ht, rfl⟩ | ⟨-, rfl⟩
    · exact wf.init i t ht
    · exact hinit

theorem WFC.snoc_parent {ts : List Trx} (wf : WFC ts) (a p : Nat) (m : Bool)
    (fresh : ∀ (k : Nat) (t : Trx), ts[k]? = some t → ¬ (t.addr = a ∧ t.basePort = p ∧ t.childIdx = 0)) :
    WFC (ts ++ [parentTrx a p m]) := by
  have := wf.snoc (ts.length + 1) (parentTrx a p m) rfl ⟨rfl, rfl, rfl⟩ fresh (.inl ⟨Nat.lt_succ_self _, rfl, rfl⟩)
  rwa [List.modify_eq_self (by simp)] at this

/-! ### what `Application.__init__` builds -/

/-- the part of the wiring that no later `append_child_trx` touches -/
def coreWiring (t : Trx) : Nat × Nat × Nat × Bool × Bool := (t.addr, t.basePort, t.childIdx, t.childMgt, t.hasClock)

theorem build_wf {seed : Nat} {extra : List (Nat × Nat × Nat)} {w : World}
    (h : build seed extra = .ok w) : WF w ∧ Initial w := by
  have hbase : WFC heads :=
    (WFC.nil.snoc_parent addrBts btsPort Gen.World.btsChildMgt (fun k t ht => by simp at ht)).snoc_parent addrBb bbPort
      Gen.World.msChildMgt (fun k t ht hk => by
        obtain _ | k := k
        · cases ht; exact absurd hk.1 (by decide)
        · cases ht)
  obtain ⟨⟨wfc, hd⟩, hw⟩ := build_induction
    (P := fun _ ts => WFC ts ∧ heads.map coreWiring <+: ts.map coreWiring)
    ⟨hbase, List.prefix_refl _⟩
    (fun ds ts a p ⟨wf, hd⟩ hn => ⟨wf.snoc_parent a p true (findTrx_none hn),
      hd.trans (by rw [List.map_append]; exact List.prefix_append _ _)⟩)
    (fun ds ts a p c q ⟨wf, hd⟩ hc hq hn => by
      obtain ⟨tq, htq, h1, h2, h3⟩ := findTrx_some hq
      refine ⟨wf.snoc q (childTrx a p c) rfl ⟨rfl, rfl, rfl⟩ (findTrx_none hn)
        (.inr ⟨tq, htq, h3, hc, rfl, h1.symm, h2.symm⟩), hd.trans ?_⟩
      rw [map_modify_eq coreWiring (addChild ts.length) (fun _ => rfl), List.map_append]
      exact List.prefix_append _ _) h
  -- BTS and MS are still the first two transceivers
  have head : ∀ (k : Nat) (t0 : Trx), heads[k]? = some t0 → ∃ t, w.trxs[k]? = some t ∧ coreWiring t = coreWiring t0 := by
    intro k t0 h0
    obtain ⟨r, hr⟩ := hd
    have : (w.trxs.map coreWiring)[k]? = some (coreWiring t0) := by
      rw [← hr, List.getElem?_append_left (by simpa using lt_of_getElem? h0), List.getElem?_map, h0]; rfl
    rw [List.getElem?_map] at this
    obtain ⟨t, ht, e⟩ := Option.map_eq_some_iff.mp this
    exact ⟨t, ht, e⟩
  obtain ⟨t0, ht0, e0⟩ := head 0 _ rfl
  obtain ⟨t1, ht1, e1⟩ := head 1 _ rfl
  simp only [coreWiring, Prod.mk.injEq] at e0 e1
  refine ⟨⟨fun i _ t ht c hc => wfc.child_ok i t ht c hc, fun i _ t ht => wfc.parent_ok i t ht,
    fun i _ t ht => wfc.clock_iff i t ht, fun c _ tc htc hpos => ?_,
    fun i _ j _ ti hti tj htj c hc1 hc2 => wfc.one_parent i j ti tj hti htj c hc1 hc2,
    fun i _ t ht => wfc.children_nodup i t ht, fun i _ j _ ti hti tj htj => wfc.distinct i j ti tj hti htj,
    ⟨t0, ht0, e0.1, e0.2.1, e0.2.2.1, e0.2.2.2.1, e0.2.2.2.2⟩,
    ⟨t1, ht1, e1.1, e1.2.1, e1.2.2.1, e1.2.2.2.1, e1.2.2.2.2⟩⟩,
    ⟨fun i _ t ht => wfc.init i t ht, by rw [hw], by rw [hw], by rw [hw]⟩⟩
  obtain ⟨p, tp, htp, h⟩ := wfc.child_has_parent c tc htc hpos
  exact ⟨p, lt_of_getElem? htp, tp, htp, h⟩

end OsmoVerif.WorldPower
