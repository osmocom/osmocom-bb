/-
Lemmas about `OsmoVerif.Model.TrxdRand` (the message generators of data_msg.py).  A generator ends normally
between two states of the random source exactly when certain calls were made in between (`Took`); one such
characterisation per generator, with the LITERAL sizes of the sets asked for, so a changed bound in the tree
breaks a proof here.  Used by `Props/C13Rand.lean`.
-/
import OsmoVerif.Model.TrxdRand
import OsmoVerif.Lemmas.Trxd

namespace OsmoVerif.TrxdRand
open OsmoVerif OsmoVerif.Trxd OsmoVerif.Spec.TrxdRanges

/-! ### the monad -/

@[simp] theorem pure_run {α : Type} (a : α) (s : Src) : (pure a : Rand α) s = (.ok a, s) := rfl

theorem bind_run {α β : Type} (x : Rand α) (f : α → Rand β) (s : Src) :
    (x >>= f) s = match x s with
      | (.ok a, s') => f a s'
      | (.fail e, s') => (.fail e, s') := rfl

@[simp] theorem raise_run {α : Type} (e : Fail) (s : Src) : (raise e : Rand α) s = (.fail e, s) := rfl

theorem bind_ok_iff {α β : Type} (x : Rand α) (f : α → Rand β) (s s' : Src) (b : β) :
    (x >>= f) s = (.ok b, s') ↔ ∃ a s1, x s = (.ok a, s1) ∧ f a s1 = (.ok b, s') := by
  rw [bind_run]
  rcases hx : x s with ⟨r, s1⟩
  cases r with
  | ok a =>
    exact ⟨fun h => ⟨a, s1, rfl, h⟩, fun h => by obtain ⟨a', s1', h1, h2⟩ := h; cases h1; exact h2⟩
  | fail e =>
    exact ⟨fun h => (by cases h), fun h => by obtain ⟨a', s1', h1, _⟩ := h; cases h1⟩

theorem pure_ok_iff {α : Type} (a r : α) (s s' : Src) : (pure a : Rand α) s = (.ok r, s') ↔ a = r ∧ s = s' := by
  rw [pure_run, Prod.mk.injEq, Res.ok.injEq]

@[simp] theorem below_cons (n k : Nat) (rest : List Nat) (log : List Draw) :
    below n ⟨k :: rest, log⟩ = (.ok k, ⟨rest, log ++ [⟨n, k⟩]⟩) := rfl

@[simp] theorem below_nil (n : Nat) (log : List Draw) : below n ⟨[], log⟩ = (.fail .dry, ⟨[], log⟩) := rfl

theorem conforms_nil (st : List Nat) : (⟨st, []⟩ : Src).Conforms := by
  intro d hd; cases hd

/-! ### the calls made between two states of the source -/

/-- between `s` and `s'` exactly the calls `ds` were made, in this order: their answers were taken off the
stream, the calls were appended to the log -/
def Took (s : Src) (ds : List Draw) (s' : Src) : Prop :=
  s.stream = ds.map (·.k) ++ s'.stream ∧ s'.log = s.log ++ ds

theorem Took.refl (s : Src) : Took s [] s := ⟨rfl, (List.append_nil _).symm⟩

theorem Took.trans {s s1 s2 : Src} {d1 d2 : List Draw} (h1 : Took s d1 s1) (h2 : Took s1 d2 s2) :
    Took s (d1 ++ d2) s2 :=
  ⟨by rw [h1.1, h2.1, List.map_append, List.append_assoc], by rw [h2.2, h1.2, List.append_assoc]⟩

theorem Took.split {s s' : Src} {d1 d2 : List Draw} (h : Took s (d1 ++ d2) s') :
    ∃ s1, Took s d1 s1 ∧ Took s1 d2 s' :=
  ⟨⟨d2.map (·.k) ++ s'.stream, s.log ++ d1⟩,
    ⟨by rw [h.1, List.map_append, List.append_assoc], rfl⟩, ⟨rfl, by rw [h.2, List.append_assoc]⟩⟩

/-- the state behind the first call -/
theorem Took.cons {s s' : Src} {d : Draw} {ds : List Draw} (h : Took s (d :: ds) s') :
    ∃ s1, Took s [d] s1 ∧ Took s1 ds s' := Took.split (d1 := [d]) h

/-- from a fresh source: the stream begins with the answers, and the run conforms iff every call was answered
within its range -/
theorem Took.start {stream : List Nat} {ds : List Draw} {s' : Src} (h : Took (Src.start stream) ds s') :
    stream = ds.map (·.k) ++ s'.stream ∧ (s'.Conforms ↔ ∀ d ∈ ds, d.Ok) := by
  refine ⟨h.1, ?_⟩
  unfold Src.Conforms
  rw [h.2]
  exact Iff.rfl

theorem took_start {stream rest : List Nat} {ds : List Draw} (h : stream = ds.map (·.k) ++ rest) :
    Took (Src.start stream) ds ⟨rest, ds⟩ := ⟨h, rfl⟩

theorem map_k_mk (n : Nat) (ks : List Nat) : (ks.map fun k => (⟨n, k⟩ : Draw)).map (·.k) = ks := by
  rw [List.map_map]
  exact List.map_id ks

theorem below_ok_iff (n k : Nat) (s s' : Src) : below n s = (.ok k, s') ↔ Took s [⟨n, k⟩] s' := by
  rcases s with ⟨st, log⟩
  rcases s' with ⟨st', log'⟩
  cases st with
  | nil => simp only [below_nil, Prod.mk.injEq, reduceCtorEq, false_and, Took, List.map_cons, List.map_nil,
      List.cons_append, List.nil_append]
  | cons k0 rest =>
    simp only [below_cons, Prod.mk.injEq, Res.ok.injEq, Src.mk.injEq, Took, List.map_cons, List.map_nil,
      List.cons_append, List.nil_append, List.cons.injEq]
    exact ⟨fun ⟨h1, h2, h3⟩ => ⟨⟨h1, h2⟩, h1 ▸ h3.symm⟩, fun ⟨⟨h1, h2⟩, h3⟩ => ⟨h1, h2, h1 ▸ h3.symm⟩⟩

/-! ### randint / choice -/

theorem randint_ok_iff (a b v : Int) (s s' : Src) :
    randint a b s = (.ok v, s') ↔ a ≤ b ∧ ∃ k : Nat, a + (k : Int) = v ∧ Took s [⟨(b - a + 1).toNat, k⟩] s' := by
  unfold randint
  by_cases h : b < a
  · simp only [h, if_true, raise_run, Prod.mk.injEq, reduceCtorEq, false_and, false_iff]
    omega
  · simp only [h, if_false, bind_ok_iff, below_ok_iff, pure_ok_iff, show a ≤ b by omega, true_and]
    exact ⟨fun ⟨k, s1, t, hv, hs⟩ => ⟨k, hv, hs ▸ t⟩, fun ⟨k, hv, t⟩ => ⟨k, s', t, hv, rfl⟩⟩

theorem randint_empty (a b : Int) (h : b < a) (s : Src) : randint a b s = (.fail .valueError, s) := by
  simp only [randint, h, if_true, raise_run]

theorem choice_ok_iff {α : Type} (seq : List α) (x : α) (s s' : Src) :
    choice seq s = (.ok x, s') ↔ ∃ k : Nat, seq[k]? = some x ∧ Took s [⟨seq.length, k⟩] s' := by
  unfold choice
  cases seq with
  | nil => simp only [List.isEmpty_nil, if_true, raise_run, Prod.mk.injEq, reduceCtorEq, false_and,
      List.getElem?_nil, exists_false]
  | cons y ys =>
    simp only [List.isEmpty_cons, Bool.false_eq_true, if_false, bind_ok_iff, below_ok_iff]
    constructor
    · rintro ⟨k, s1, t, h⟩
      cases hk : (y :: ys)[k]? with
      | none => simp only [hk, raise_run, Prod.mk.injEq, reduceCtorEq, false_and] at h
      | some z =>
        simp only [hk, pure_ok_iff] at h
        exact ⟨k, h.1 ▸ hk, h.2 ▸ t⟩
    · rintro ⟨k, hk, t⟩
      exact ⟨k, s', t, by simp only [hk, pure_run]⟩

/-! ### the value generators, with the literal sizes of the sets they ask for -/

theorem argOr_none (d : Int) : argOr none d = d := rfl
theorem argOr_some (v d : Int) : argOr (some v) d = v := rfl

theorem randint_ok_of {a b : Int} {n : Nat} (hab : a ≤ b) (hn : (b - a + 1).toNat = n) {v : Int} {s s' : Src} :
    randint a b s = (.ok v, s') ↔ ∃ k : Nat, a + (k : Int) = v ∧ Took s [⟨n, k⟩] s' := by
  rw [randint_ok_iff, hn]
  exact and_iff_right hab

theorem randFn_ok_iff (v : Int) (s s' : Src) :
    randFn s = (.ok v, s') ↔ ∃ k : Nat, 0 + (k : Int) = v ∧ Took s [⟨2715648, k⟩] s' :=
  randint_ok_of (by decide) (by decide)

theorem randTn_ok_iff (v : Int) (s s' : Src) :
    randTn s = (.ok v, s') ↔ ∃ k : Nat, 0 + (k : Int) = v ∧ Took s [⟨8, k⟩] s' :=
  randint_ok_of (by decide) (by decide)

theorem randPwr_ok_iff (v : Int) (s s' : Src) :
    randPwr none none s = (.ok v, s') ↔ ∃ k : Nat, 0 + (k : Int) = v ∧ Took s [⟨256, k⟩] s' :=
  randint_ok_of (by decide) (by decide)

theorem randRssi_ok_iff (v : Int) (s s' : Src) :
    randRssi none none s = (.ok v, s') ↔ ∃ k : Nat, -120 + (k : Int) = v ∧ Took s [⟨74, k⟩] s' :=
  randint_ok_of (by decide) (by decide)

theorem randToa256_ok_iff (v : Int) (s s' : Src) :
    randToa256 none none s = (.ok v, s') ↔ ∃ k : Nat, -32768 + (k : Int) = v ∧ Took s [⟨65536, k⟩] s' :=
  randint_ok_of (by decide) (by decide)

theorem randCi_ok_iff (v : Int) (s s' : Src) :
    randint Gen.Trxd.ciMin Gen.Trxd.ciMax s = (.ok v, s') ↔
      ∃ k : Nat, -1280 + (k : Int) = v ∧ Took s [⟨2561, k⟩] s' :=
  randint_ok_of (by decide) (by decide)

theorem randSet_ok_iff (mod : Modulation) (v : Int) (s s' : Src) :
    (if mod = Modulation.gmsk then randint 0 3 else randint 0 1) s = (.ok v, s') ↔
      ∃ k : Nat, 0 + (k : Int) = v ∧ Took s [⟨if mod = Modulation.gmsk then 4 else 2, k⟩] s' := by
  split
  · exact randint_ok_of (by decide) (by decide)
  · exact randint_ok_of (by decide) (by decide)

/-- `random.choice(list(Modulation))`: the answer is the member's number -/
theorem choice_mods_ok_iff (mod : Modulation) (s s' : Src) :
    choice Modulation.all s = (.ok mod, s') ↔ Took s [⟨6, mod.val⟩] s' := by
  have hl : Modulation.all.length = 6 := by decide
  rw [choice_ok_iff, hl]
  constructor
  · rintro ⟨k, hk, t⟩
    have : k = mod.val := by
      obtain ⟨hlt, he⟩ := List.getElem?_eq_some_iff.mp hk
      simp only [Modulation.all, List.getElem_finRange] at he
      exact congrArg Fin.val he
    exact this ▸ t
  · intro t
    exact ⟨mod.val, List.getElem?_eq_some_iff.mpr ⟨by rw [hl]; exact mod.isLt,
      by simp only [Modulation.all, List.getElem_finRange]; rfl⟩, t⟩

/-- `random.choice(self.TSC_RANGE)`: the answer is the value -/
theorem choice_tsc_ok_iff (v : Int) (s s' : Src) :
    choice Gen.Trxd.tscRange s = (.ok v, s') ↔ ∃ k : Nat, k < 8 ∧ (k : Int) = v ∧ Took s [⟨8, k⟩] s' := by
  have hl : Gen.Trxd.tscRange.length = 8 := by decide
  have hget : ∀ k : Fin 8, Gen.Trxd.tscRange[k.val]? = some (k.val : Int) := by decide
  rw [choice_ok_iff, hl]
  constructor
  · rintro ⟨k, hk, t⟩
    have hlt : k < 8 := hl ▸ (List.getElem?_eq_some_iff.mp hk).1
    rw [hget ⟨k, hlt⟩] at hk
    exact ⟨k, hlt, Option.some.inj hk, t⟩
  · rintro ⟨k, hlt, rfl, t⟩
    exact ⟨k, hget ⟨k, hlt⟩, t⟩

/-! ### `[random.randint(a, b) for _ in range(n)]` -/

theorem randints_ok_iff (a b : Int) (h : a ≤ b) : ∀ (n : Nat) (l : List Int) (s s' : Src),
    randints a b n s = (.ok l, s') ↔ ∃ ks : List Nat, ks.length = n ∧ ks.map (fun (k : Nat) => a + (k : Int)) = l ∧
      Took s (ks.map fun k => ⟨(b - a + 1).toNat, k⟩) s'
  | 0, l, s, s' => by
    simp only [randints, pure_ok_iff, List.length_eq_zero_iff]
    constructor
    · rintro ⟨rfl, rfl⟩; exact ⟨[], rfl, rfl, Took.refl s⟩
    · rintro ⟨ks, rfl, rfl, t⟩
      exact ⟨rfl, by rcases s with ⟨_, _⟩; rcases s' with ⟨_, _⟩; obtain ⟨h1, h2⟩ := t; simp at h1 h2; simp [h1, h2]⟩
  | n + 1, l, s, s' => by
    simp only [randints, bind_ok_iff, randint_ok_iff, randints_ok_iff a b h n, pure_ok_iff, h, true_and]
    constructor
    · rintro ⟨v, s1, ⟨k, rfl, t1⟩, vs, s2, ⟨ks, hl, rfl, t2⟩, rfl, rfl⟩
      exact ⟨k :: ks, by rw [List.length_cons, hl], rfl, t1.trans t2⟩
    · rintro ⟨ks, hl, rfl, t⟩
      match ks, hl with
      | k :: ks, hl =>
        obtain ⟨s1, t1, t2⟩ := t.cons
        exact ⟨_, s1, ⟨k, rfl, t1⟩, _, s', ⟨ks, by simpa using hl, rfl, t2⟩, rfl, rfl⟩

/-! ### the message generators: which calls they make and what they leave in the object -/

theorem TxMsg.randHdr_ok_iff (m m' : TxMsg) (s s' : Src) :
    m.randHdr s = (.ok m', s') ↔ ∃ k1 k2 k3 : Nat,
      m' = { m with fn := some (k1 : Int), tn := some (k2 : Int), pwr := some (k3 : Int) } ∧
      Took s [⟨2715648, k1⟩, ⟨8, k2⟩, ⟨256, k3⟩] s' := by
  simp only [TxMsg.randHdr, bind_ok_iff, randFn_ok_iff, randTn_ok_iff, randPwr_ok_iff, pure_ok_iff, Int.zero_add]
  constructor
  · rintro ⟨_, s1, ⟨k1, rfl, t1⟩, _, s2, ⟨k2, rfl, t2⟩, _, s3, ⟨k3, rfl, t3⟩, rfl, rfl⟩
    exact ⟨k1, k2, k3, rfl, (t1.trans t2).trans t3⟩
  · rintro ⟨k1, k2, k3, rfl, t⟩
    obtain ⟨s1, t1, t⟩ := t.cons
    obtain ⟨s2, t2, t3⟩ := t.cons
    exact ⟨_, s1, ⟨k1, rfl, t1⟩, _, s2, ⟨k2, rfl, t2⟩, _, s', ⟨k3, rfl, t3⟩, rfl, rfl⟩

theorem map_toNat_cast (ks : List Nat) : (ks.map fun (k : Nat) => (0 : Int) + (k : Int)).map Int.toNat = ks := by
  induction ks with
  | nil => rfl
  | cons k ks ih => rw [List.map_cons, List.map_cons, ih, Int.zero_add, Int.toNat_natCast]

theorem all_byte_iff (ks : List Nat) :
    ((ks.map fun (k : Nat) => (0 : Int) + (k : Int)).all fun v => decide (0 ≤ v ∧ v < 256)) = true ↔
      ∀ k ∈ ks, k < 256 := by
  simp only [List.all_eq_true, List.mem_map, decide_eq_true_eq, forall_exists_index, and_imp,
    forall_apply_eq_imp_iff₂]
  exact ⟨fun h k hk => by have := h k hk; omega, fun h k hk => by have := h k hk; omega⟩

theorem all_soft_iff (ks : List Nat) :
    ((ks.map fun (k : Nat) => (-127 : Int) + (k : Int)).all fun v => decide (-128 ≤ v ∧ v ≤ 127)) = true
      ↔ ∀ k ∈ ks, k < 255 := by
  simp only [List.all_eq_true, List.mem_map, decide_eq_true_eq, forall_exists_index, and_imp,
    forall_apply_eq_imp_iff₂]
  exact ⟨fun h k hk => by have := h k hk; omega, fun h k hk => by have := h k hk; omega⟩

/-- `bytearray([..])` of the drawn values: ValueError unless every answer is an octet -/
theorem TxMsg.randBurst_ok_iff (m m' : TxMsg) (length : Int) (s s' : Src) :
    m.randBurst length s = (.ok m', s') ↔ ∃ ks : List Nat, ks.length = length.toNat ∧ (∀ k ∈ ks, k < 256) ∧
      m' = { m with burst := some ks } ∧ Took s (ks.map fun k => ⟨2, k⟩) s' := by
  simp only [TxMsg.randBurst, bind_ok_iff, randints_ok_iff 0 1 (by decide)]
  constructor
  · rintro ⟨_, s1, ⟨ks, hl, rfl, t⟩, h⟩
    split at h
    · rename_i hall
      rw [pure_ok_iff, map_toNat_cast] at h
      exact ⟨ks, hl, (all_byte_iff ks).mp hall, h.1.symm, h.2 ▸ t⟩
    · cases h
  · rintro ⟨ks, hl, hb, rfl, t⟩
    exact ⟨_, s', ⟨ks, hl, rfl, t⟩, by rw [if_pos ((all_byte_iff ks).mpr hb), map_toNat_cast]; rfl⟩

/-- the length `rand_burst(length)` works with: the argument, or the length of the modulation left in the object -/
def rxLen (m : RxMsg) : Option Int → Option Int
  | some l => some l
  | none => m.modType.map fun mod => (mod.bl : Int)

theorem rxLen_none (m : RxMsg) (L : Int) :
    rxLen m none = some L ↔ ∃ mod, m.modType = some mod ∧ (mod.bl : Int) = L := by
  unfold rxLen
  cases m.modType <;> simp only [Option.map_none, Option.map_some, reduceCtorEq, false_and, exists_false,
    Option.some.injEq, exists_eq_left']

theorem RxMsg.burstLength_ok_iff (m : RxMsg) (length : Option Int) (L : Int) (s s' : Src) :
    m.burstLength length s = (.ok L, s') ↔ rxLen m length = some L ∧ s = s' := by
  cases length with
  | some l => simp only [RxMsg.burstLength, rxLen, pure_ok_iff, Option.some.injEq]
  | none =>
    cases hm : m.modType with
    | some mod => simp only [RxMsg.burstLength, rxLen, hm, Option.map_some, pure_ok_iff, Option.some.injEq]
    | none => simp only [RxMsg.burstLength, rxLen, hm, Option.map_none, raise_run, Prod.mk.injEq, reduceCtorEq,
        false_and]

/-- `array('b', [..])` of the drawn values: OverflowError unless every answer gives a signed char -/
theorem RxMsg.randBurst_ok_iff (m m' : RxMsg) (length : Option Int) (s s' : Src) :
    m.randBurst length s = (.ok m', s') ↔ ∃ (L : Int) (ks : List Nat), rxLen m length = some L ∧
      ks.length = L.toNat ∧ (∀ k ∈ ks, k < 255) ∧
      m' = { m with burst := some (ks.map fun (k : Nat) => (-127 : Int) + (k : Int)) } ∧
      Took s (ks.map fun k => ⟨255, k⟩) s' := by
  simp only [RxMsg.randBurst, bind_ok_iff, RxMsg.burstLength_ok_iff, randints_ok_iff (-127) 127 (by decide)]
  constructor
  · rintro ⟨L, _, ⟨hL, rfl⟩, _, s1, ⟨ks, hl, rfl, t⟩, h⟩
    split at h
    · rename_i hall
      rw [pure_ok_iff] at h
      exact ⟨L, ks, hL, hl, (all_soft_iff ks).mp hall, h.1.symm, h.2 ▸ t⟩
    · cases h
  · rintro ⟨L, ks, hL, hl, hb, rfl, t⟩
    exact ⟨L, s, ⟨hL, rfl⟩, _, s', ⟨ks, hl, rfl, t⟩, by rw [if_pos ((all_soft_iff ks).mpr hb)]; rfl⟩

theorem RxMsg.randHdr_v0_ok_iff {m m' : RxMsg} (hv : ¬ m.ver ≥ 1) {s s' : Src} :
    m.randHdr s = (.ok m', s') ↔ ∃ k1 k2 k3 k4 : Nat,
      m' = { m with fn := some (k1 : Int), tn := some (k2 : Int), rssi := some (-120 + (k3 : Int)),
                    toa256 := some (-32768 + (k4 : Int)) } ∧
      Took s [⟨2715648, k1⟩, ⟨8, k2⟩, ⟨74, k3⟩, ⟨65536, k4⟩] s' := by
  simp only [RxMsg.randHdr, bind_ok_iff, randFn_ok_iff, randTn_ok_iff, randRssi_ok_iff, randToa256_ok_iff, hv,
    if_false, pure_ok_iff, Int.zero_add]
  constructor
  · rintro ⟨_, s1, ⟨k1, rfl, t1⟩, _, s2, ⟨k2, rfl, t2⟩, _, s3, ⟨k3, rfl, t3⟩, _, s4, ⟨k4, rfl, t4⟩, rfl, rfl⟩
    exact ⟨k1, k2, k3, k4, rfl, ((t1.trans t2).trans t3).trans t4⟩
  · rintro ⟨k1, k2, k3, k4, rfl, t⟩
    obtain ⟨s1, t1, t⟩ := t.cons
    obtain ⟨s2, t2, t⟩ := t.cons
    obtain ⟨s3, t3, t4⟩ := t.cons
    exact ⟨_, s1, ⟨k1, rfl, t1⟩, _, s2, ⟨k2, rfl, t2⟩, _, s3, ⟨k3, rfl, t3⟩, _, s', ⟨k4, rfl, t4⟩, rfl, rfl⟩

theorem RxMsg.randHdr_v1_ok_iff {m m' : RxMsg} (hv : m.ver ≥ 1) {s s' : Src} :
    m.randHdr s = (.ok m', s') ↔ ∃ (k1 k2 k3 k4 : Nat) (mod : Modulation) (k6 k7 k8 : Nat), k7 < 8 ∧
      m' = { m with fn := some (k1 : Int), tn := some (k2 : Int), rssi := some (-120 + (k3 : Int)),
                    toa256 := some (-32768 + (k4 : Int)), modType := some mod, tscSet := some (k6 : Int),
                    tsc := some (k7 : Int), ci := some (-1280 + (k8 : Int)) } ∧
      Took s [⟨2715648, k1⟩, ⟨8, k2⟩, ⟨74, k3⟩, ⟨65536, k4⟩, ⟨6, mod.val⟩,
              ⟨if mod = Modulation.gmsk then 4 else 2, k6⟩, ⟨8, k7⟩, ⟨2561, k8⟩] s' := by
  simp only [RxMsg.randHdr, bind_ok_iff, randFn_ok_iff, randTn_ok_iff, randRssi_ok_iff, randToa256_ok_iff, hv,
    if_true, choice_mods_ok_iff, randSet_ok_iff, choice_tsc_ok_iff, randCi_ok_iff, pure_ok_iff, Int.zero_add]
  constructor
  · rintro ⟨_, s1, ⟨k1, rfl, t1⟩, _, s2, ⟨k2, rfl, t2⟩, _, s3, ⟨k3, rfl, t3⟩, _, s4, ⟨k4, rfl, t4⟩,
      mod, s5, t5, _, s6, ⟨k6, rfl, t6⟩, _, s7, ⟨k7, h7, rfl, t7⟩, _, s8, ⟨k8, rfl, t8⟩, rfl, rfl⟩
    exact ⟨k1, k2, k3, k4, mod, k6, k7, k8, h7, rfl,
      ((((((t1.trans t2).trans t3).trans t4).trans t5).trans t6).trans t7).trans t8⟩
  · rintro ⟨k1, k2, k3, k4, mod, k6, k7, k8, h7, rfl, t⟩
    obtain ⟨s1, t1, t⟩ := t.cons
    obtain ⟨s2, t2, t⟩ := t.cons
    obtain ⟨s3, t3, t⟩ := t.cons
    obtain ⟨s4, t4, t⟩ := t.cons
    obtain ⟨s5, t5, t⟩ := t.cons
    obtain ⟨s6, t6, t⟩ := t.cons
    obtain ⟨s7, t7, t8⟩ := t.cons
    exact ⟨_, s1, ⟨k1, rfl, t1⟩, _, s2, ⟨k2, rfl, t2⟩, _, s3, ⟨k3, rfl, t3⟩, _, s4, ⟨k4, rfl, t4⟩,
      mod, s5, t5, _, s6, ⟨k6, rfl, t6⟩, _, s7, ⟨k7, h7, rfl, t7⟩, _, s', ⟨k8, rfl, t8⟩, rfl, rfl⟩

/-! ### `msg.rand_hdr(); msg.rand_burst(length)` - how the toolkit's tests prepare a message -/

theorem TxMsg.randMsg_ok_iff (m m' : TxMsg) (len : Int) (s s' : Src) :
    m.randMsg len s = (.ok m', s') ↔ ∃ (k1 k2 k3 : Nat) (ks : List Nat), ks.length = len.toNat ∧
      (∀ k ∈ ks, k < 256) ∧
      m' = { m with fn := some (k1 : Int), tn := some (k2 : Int), pwr := some (k3 : Int), burst := some ks } ∧
      Took s ([⟨2715648, k1⟩, ⟨8, k2⟩, ⟨256, k3⟩] ++ ks.map fun k => ⟨2, k⟩) s' := by
  simp only [TxMsg.randMsg, bind_ok_iff, TxMsg.randHdr_ok_iff, TxMsg.randBurst_ok_iff]
  constructor
  · rintro ⟨_, s1, ⟨k1, k2, k3, rfl, t1⟩, ks, hl, hb, rfl, t2⟩
    exact ⟨k1, k2, k3, ks, hl, hb, rfl, t1.trans t2⟩
  · rintro ⟨k1, k2, k3, ks, hl, hb, rfl, t⟩
    obtain ⟨s1, t1, t2⟩ := t.split
    exact ⟨_, s1, ⟨k1, k2, k3, rfl, t1⟩, ks, hl, hb, rfl, t2⟩

theorem RxMsg.randMsg_v0_ok_iff {m m' : RxMsg} (hv : ¬ m.ver ≥ 1) {length : Option Int} {s s' : Src} :
    m.randMsg length s = (.ok m', s') ↔ ∃ (k1 k2 k3 k4 : Nat) (L : Int) (ks : List Nat),
      rxLen m length = some L ∧ ks.length = L.toNat ∧ (∀ k ∈ ks, k < 255) ∧
      m' = { m with fn := some (k1 : Int), tn := some (k2 : Int), rssi := some (-120 + (k3 : Int)),
                    toa256 := some (-32768 + (k4 : Int)),
                    burst := some (ks.map fun (k : Nat) => (-127 : Int) + (k : Int)) } ∧
      Took s ([⟨2715648, k1⟩, ⟨8, k2⟩, ⟨74, k3⟩, ⟨65536, k4⟩] ++ ks.map fun k => ⟨255, k⟩) s' := by
  simp only [RxMsg.randMsg, bind_ok_iff, RxMsg.randHdr_v0_ok_iff hv, RxMsg.randBurst_ok_iff]
  constructor
  · rintro ⟨_, s1, ⟨k1, k2, k3, k4, rfl, t1⟩, L, ks, hL, hl, hb, rfl, t2⟩
    exact ⟨k1, k2, k3, k4, L, ks, by rw [← hL]; cases length <;> rfl, hl, hb, rfl, t1.trans t2⟩
  · rintro ⟨k1, k2, k3, k4, L, ks, hL, hl, hb, rfl, t⟩
    obtain ⟨s1, t1, t2⟩ := t.split
    exact ⟨_, s1, ⟨k1, k2, k3, k4, rfl, t1⟩, L, ks, by rw [← hL]; cases length <;> rfl, hl, hb, rfl, t2⟩

/-- the length `rand_burst(length)` works with after `rand_hdr()` drew modulation `mod` -/
def lenAfter (mod : Modulation) : Option Int → Int
  | some l => l
  | none => (mod.bl : Int)

theorem RxMsg.randMsg_v1_ok_iff {m m' : RxMsg} (hv : m.ver ≥ 1) {length : Option Int} {s s' : Src} :
    m.randMsg length s = (.ok m', s') ↔ ∃ (k1 k2 k3 k4 : Nat) (mod : Modulation) (k6 k7 k8 : Nat) (ks : List Nat),
      k7 < 8 ∧ ks.length = (lenAfter mod length).toNat ∧ (∀ k ∈ ks, k < 255) ∧
      m' = { m with fn := some (k1 : Int), tn := some (k2 : Int), rssi := some (-120 + (k3 : Int)),
                    toa256 := some (-32768 + (k4 : Int)), modType := some mod, tscSet := some (k6 : Int),
                    tsc := some (k7 : Int), ci := some (-1280 + (k8 : Int)),
                    burst := some (ks.map fun (k : Nat) => (-127 : Int) + (k : Int)) } ∧
      Took s ([⟨2715648, k1⟩, ⟨8, k2⟩, ⟨74, k3⟩, ⟨65536, k4⟩, ⟨6, mod.val⟩,
               ⟨if mod = Modulation.gmsk then 4 else 2, k6⟩, ⟨8, k7⟩, ⟨2561, k8⟩] ++ ks.map fun k => ⟨255, k⟩) s' := by
  simp only [RxMsg.randMsg, bind_ok_iff, RxMsg.randHdr_v1_ok_iff hv, RxMsg.randBurst_ok_iff]
  constructor
  · rintro ⟨_, s1, ⟨k1, k2, k3, k4, mod, k6, k7, k8, h7, rfl, t1⟩, L, ks, hL, hl, hb, rfl, t2⟩
    have : L = lenAfter mod length := by cases length <;> exact (Option.some.inj hL).symm
    exact ⟨k1, k2, k3, k4, mod, k6, k7, k8, ks, h7, this ▸ hl, hb, rfl, t1.trans t2⟩
  · rintro ⟨k1, k2, k3, k4, mod, k6, k7, k8, ks, h7, hl, hb, rfl, t⟩
    obtain ⟨s1, t1, t2⟩ := t.split
    exact ⟨_, s1, ⟨k1, k2, k3, k4, mod, k6, k7, k8, h7, rfl, t1⟩, lenAfter mod length, ks,
      by cases length <;> rfl, hl, hb, rfl, t2⟩

/-! ### the order of test_data_msg.test_rand_hdr_burst: `msg.rand_burst(); msg.rand_hdr()` -/

theorem TxMsg.burstHdr_ok {m m' : TxMsg} {s s' : Src} (h : m.randOps [.burst none, .hdr] s = (.ok m', s')) :
    ∃ (ks : List Nat) (k1 k2 k3 : Nat), ks.length = 148 ∧
      m' = { m with fn := some (k1 : Int), tn := some (k2 : Int), pwr := some (k3 : Int), burst := some ks } ∧
      Took s ((ks.map fun k => ⟨2, k⟩) ++ [⟨2715648, k1⟩, ⟨8, k2⟩, ⟨256, k3⟩]) s' := by
  simp only [TxMsg.randOps, TxMsg.randOp, bind_ok_iff, TxMsg.randHdr_ok_iff, TxMsg.randBurst_ok_iff,
    pure_ok_iff] at h
  obtain ⟨_, s1, ⟨ks, hl, -, rfl, t1⟩, _, s2, ⟨k1, k2, k3, rfl, t2⟩, rfl, rfl⟩ := h
  exact ⟨ks, k1, k2, k3, hl, rfl, t1.trans t2⟩

/-- Rx, below version 1: the burst has the length of the modulation left in the object -/
theorem RxMsg.burstHdr_v0_ok {m m' : RxMsg} (hv : ¬ m.ver ≥ 1) {s s' : Src}
    (h : m.randOps [.burst none, .hdr] s = (.ok m', s')) :
    ∃ (mod0 : Modulation) (ks : List Nat) (k1 k2 k3 k4 : Nat), m.modType = some mod0 ∧ ks.length = mod0.bl ∧
      m' = { m with fn := some (k1 : Int), tn := some (k2 : Int), rssi := some (-120 + (k3 : Int)),
                    toa256 := some (-32768 + (k4 : Int)),
                    burst := some (ks.map fun (k : Nat) => (-127 : Int) + (k : Int)) } ∧
      Took s ((ks.map fun k => ⟨255, k⟩) ++ [⟨2715648, k1⟩, ⟨8, k2⟩, ⟨74, k3⟩, ⟨65536, k4⟩]) s' := by
  simp only [RxMsg.randOps, RxMsg.randOp, bind_ok_iff, RxMsg.randBurst_ok_iff, pure_ok_iff] at h
  obtain ⟨_, s1, ⟨L, ks, hL, hl, -, rfl, t1⟩, _, s2, h2, rfl, rfl⟩ := h
  obtain ⟨k1, k2, k3, k4, rfl, t2⟩ := (RxMsg.randHdr_v0_ok_iff (m := { m with burst := some (ks.map fun (k : Nat) => (-127 : Int) + (k : Int)) }) hv).mp h2
  obtain ⟨mod0, hm0, rfl⟩ := (rxLen_none m L).mp hL
  exact ⟨mod0, ks, k1, k2, k3, k4, hm0, by simpa using hl, rfl, t1.trans t2⟩

/-- Rx, from version 1 on: the burst has the length of the modulation left in the object, the header draws a new one -/
theorem RxMsg.burstHdr_v1_ok {m m' : RxMsg} (hv : m.ver ≥ 1) {s s' : Src}
    (h : m.randOps [.burst none, .hdr] s = (.ok m', s')) :
    ∃ (mod0 : Modulation) (ks : List Nat) (k1 k2 k3 k4 : Nat) (mod : Modulation) (k6 k7 k8 : Nat),
      m.modType = some mod0 ∧ ks.length = mod0.bl ∧ k7 < 8 ∧
      m' = { m with fn := some (k1 : Int), tn := some (k2 : Int), rssi := some (-120 + (k3 : Int)),
                    toa256 := some (-32768 + (k4 : Int)), modType := some mod, tscSet := some (k6 : Int),
                    tsc := some (k7 : Int), ci := some (-1280 + (k8 : Int)),
                    burst := some (ks.map fun (k : Nat) => (-127 : Int) + (k : Int)) } ∧
      Took s ((ks.map fun k => ⟨255, k⟩) ++ [⟨2715648, k1⟩, ⟨8, k2⟩, ⟨74, k3⟩, ⟨65536, k4⟩, ⟨6, mod.val⟩,
               ⟨if mod = Modulation.gmsk then 4 else 2, k6⟩, ⟨8, k7⟩, ⟨2561, k8⟩]) s' := by
  simp only [RxMsg.randOps, RxMsg.randOp, bind_ok_iff, RxMsg.randBurst_ok_iff, pure_ok_iff] at h
  obtain ⟨_, s1, ⟨L, ks, hL, hl, -, rfl, t1⟩, _, s2, h2, rfl, rfl⟩ := h
  obtain ⟨k1, k2, k3, k4, mod, k6, k7, k8, h7, rfl, t2⟩ := (RxMsg.randHdr_v1_ok_iff (m := { m with burst := some (ks.map fun (k : Nat) => (-127 : Int) + (k : Int)) }) hv).mp h2
  obtain ⟨mod0, hm0, rfl⟩ := (rxLen_none m L).mp hL
  exact ⟨mod0, ks, k1, k2, k3, k4, mod, k6, k7, k8, hm0, by simpa using hl, h7, rfl, t1.trans t2⟩

/-! ### runs from a fresh source with conforming answers (`Yields`) -/

theorem ok_of_mem_map {ks : List Nat} {n : Nat} :
    (∀ d ∈ ks.map (fun k => (⟨n, k⟩ : Draw)), d.Ok) ↔ ∀ k ∈ ks, k < n := by
  simp only [List.mem_map, forall_exists_index, and_imp, forall_apply_eq_imp_iff₂, Draw.Ok]

/-- the answer that makes `randint(lo, hi)` return `x`, among the `n` possible ones -/
theorem draw_of_val (lo hi x : Int) (h : lo ≤ x ∧ x ≤ hi) (n : Nat) (hn : (hi - lo + 1).toNat = n) :
    lo + (((x - lo).toNat : Nat) : Int) = x ∧ (x - lo).toNat < n := by omega

theorem randint_values (a b v : Int) : (∃ stream, Yields (randint a b) stream v) ↔ a ≤ v ∧ v ≤ b := by
  constructor
  · rintro ⟨stream, s', hr, hc⟩
    obtain ⟨hab, k, rfl, t⟩ := (randint_ok_iff ..).mp hr
    have hk := t.start.2.mp hc
    simp only [List.forall_mem_cons, Draw.Ok] at hk
    omega
  · rintro ⟨h1, h2⟩
    have t : Took (Src.start [(v - a).toNat]) [⟨(b - a + 1).toNat, (v - a).toNat⟩] _ := took_start rfl
    refine ⟨_, _, (randint_ok_iff ..).mpr ⟨by omega, (v - a).toNat, by omega, t⟩, t.start.2.mpr ?_⟩
    simp only [List.forall_mem_cons, Draw.Ok]
    exact ⟨by omega, fun _ h => nomatch h⟩

/-- the TSC set drawn for a modulation is one the protocol allows for it -/
theorem tscset_ok (mod : Modulation) (k6 : Nat) (h6 : k6 < (if mod = Modulation.gmsk then 4 else 2)) :
    (if mod.coding = 0 then 0 ≤ (k6 : Int) ∧ (k6 : Int) ≤ 3 else 0 ≤ (k6 : Int) ∧ (k6 : Int) ≤ 1) := by
  by_cases hg : mod = Modulation.gmsk
  · rw [if_pos hg] at h6; rw [if_pos ((gmsk_iff_coding _).mp hg)]; omega
  · rw [if_neg hg] at h6; rw [if_neg (fun hc => hg ((gmsk_iff_coding _).mpr hc))]; omega

/-! ### validity of a message whose header was drawn by `rand_hdr()` on conforming answers

What is left to check is what `rand_hdr` does not draw: the version, and the burst `B` the object ends up with. -/

theorem inRange_hdr_tx {m : TxMsg} {k1 k2 k3 : Nat} {B : Option Bytes}
    (hk : ∀ d ∈ [(⟨2715648, k1⟩ : Draw), ⟨8, k2⟩, ⟨256, k3⟩], d.Ok) :
    InRangeTx { m with fn := some (k1 : Int), tn := some (k2 : Int), pwr := some (k3 : Int), burst := B } ↔
      knownVersion m.ver ∧ burstLen148or444 B := by
  simp only [List.forall_mem_cons, Draw.Ok] at hk
  have a1 : within 0 2715647 (some (k1 : Int)) := ⟨by omega, by omega⟩
  have a2 : within 0 7 (some (k2 : Int)) := ⟨by omega, by omega⟩
  have a3 : within 0 255 (some (k3 : Int)) := ⟨by omega, by omega⟩
  simp only [InRangeTx, a1, a2, a3, true_and]

theorem hdr_ranges (k1 k2 k3 k4 : Nat) (h1 : k1 < 2715648) (h2 : k2 < 8) (h3 : k3 < 74) (h4 : k4 < 65536) :
    within 0 2715647 (some (k1 : Int)) ∧ within 0 7 (some (k2 : Int)) ∧
    within (-120) (-47) (some (-120 + (k3 : Int))) ∧ within (-32768) 32767 (some (-32768 + (k4 : Int))) := by
  simp only [within]
  omega

theorem inRange_hdr_v0 {m : RxMsg} (hv : ¬ m.ver ≥ 1) {k1 k2 k3 k4 : Nat} {B : Option (List Int)}
    (hk : ∀ d ∈ [(⟨2715648, k1⟩ : Draw), ⟨8, k2⟩, ⟨74, k3⟩, ⟨65536, k4⟩], d.Ok) :
    InRangeRx { m with fn := some (k1 : Int), tn := some (k2 : Int), rssi := some (-120 + (k3 : Int)),
                       toa256 := some (-32768 + (k4 : Int)), burst := B } ↔
      knownVersion m.ver ∧ (m.ver = 0 → burstLen148or444 B) := by
  simp only [List.forall_mem_cons, Draw.Ok] at hk
  obtain ⟨a1, a2, a3, a4⟩ := hdr_ranges k1 k2 k3 k4 hk.1 hk.2.1 hk.2.2.1 hk.2.2.2.1
  have hn1 : ¬ m.ver = 1 := by omega
  simp only [InRangeRx, a1, a2, a3, a4, true_and, hn1, false_imp_iff, and_true]

theorem inRange_hdr_v1 {m : RxMsg} (hv : m.ver ≥ 1) {k1 k2 k3 k4 : Nat} {mod : Modulation} {k6 k7 k8 : Nat}
    {B : Option (List Int)}
    (hk : ∀ d ∈ [(⟨2715648, k1⟩ : Draw), ⟨8, k2⟩, ⟨74, k3⟩, ⟨65536, k4⟩, ⟨6, mod.val⟩,
                 ⟨if mod = Modulation.gmsk then 4 else 2, k6⟩, ⟨8, k7⟩, ⟨2561, k8⟩], d.Ok) :
    InRangeRx { m with fn := some (k1 : Int), tn := some (k2 : Int), rssi := some (-120 + (k3 : Int)),
                       toa256 := some (-32768 + (k4 : Int)), modType := some mod, tscSet := some (k6 : Int),
                       tsc := some (k7 : Int), ci := some (-1280 + (k8 : Int)), burst := B } ↔
      knownVersion m.ver ∧ (m.ver = 1 → if m.nopeInd then B = none else burstLenOfMod mod.coding B) := by
  simp only [List.forall_mem_cons, Draw.Ok] at hk
  obtain ⟨h1, h2, h3, h4, -, h6, h7, h8, -⟩ := hk
  obtain ⟨a1, a2, a3, a4⟩ := hdr_ranges k1 k2 k3 k4 h1 h2 h3 h4
  have b1 : (if mod.coding = 0 then within 0 3 (some (k6 : Int)) else within 0 1 (some (k6 : Int))) :=
    tscset_ok mod k6 h6
  have b2 : within 0 7 (some (k7 : Int)) := ⟨by omega, by omega⟩
  have b3 : within (-1280) 1280 (some (-1280 + (k8 : Int))) := ⟨by omega, by omega⟩
  have hn0 : ¬ m.ver = 0 := by omega
  simp only [InRangeRx, InRangeMts, a1, a2, a3, a4, b1, b2, b3, true_and, hn0, false_imp_iff]

end OsmoVerif.TrxdRand
