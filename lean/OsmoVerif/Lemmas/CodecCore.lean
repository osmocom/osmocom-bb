/- What the base-class protocol of `Field`, the envelope loop, the tail check and `inRangeField(s)` compute,
one characterisation per definition (C16). -/
import OsmoVerif.Lemmas.CodecVals
namespace OsmoVerif.Codec

/-! ## `Field.from_bytes` / `Field.to_bytes` of the base class -/

section core
variable {pres : Pres} {glen : Vals → Nat → Except Err Nat} {body : Vals → List Nat → Except Err Vals}
  {pre v' : Vals} {data : List Nat} {k : Nat} {e : Err}

theorem fieldFromCore_absent (hp : getPres pres pre = .ok false) :
    fieldFromCore pres glen body pre data = .ok (pre, 0) := by
  simp only [fieldFromCore, hp]

theorem fieldFromCore_present (hp : getPres pres pre = .ok true) :
    fieldFromCore pres glen body pre data = .ok (v', k) ↔
      glen pre data.length = .ok k ∧ k ≤ data.length ∧ body pre (data.take k) = .ok v' := by
  simp only [fieldFromCore, hp]
  cases hg : glen pre data.length with
  | error e => simp
  | ok n =>
    simp only [Except.ok.injEq]
    by_cases hlt : data.length < n
    · rw [if_pos hlt]
      exact ⟨fun h => (nomatch h), fun ⟨h1, h2, _⟩ => by omega⟩
    · rw [if_neg hlt]
      cases hb : body pre (List.take n data) with
      | error e =>
        exact ⟨fun h => (nomatch h), fun ⟨h1, _, h3⟩ => by subst h1; rw [hb] at h3; cases h3⟩
      | ok v =>
        simp only [Except.ok.injEq, Prod.mk.injEq]
        exact ⟨fun ⟨h1, h2⟩ => by subst h1 h2; exact ⟨rfl, by omega, hb⟩,
          fun ⟨h1, _, h3⟩ => by subst h1; rw [hb] at h3; cases h3; exact ⟨rfl, rfl⟩⟩

theorem fieldFromCore_ok (h : fieldFromCore pres glen body pre data = .ok (v', k)) :
    (getPres pres pre = .ok false ∧ v' = pre ∧ k = 0) ∨ getPres pres pre = .ok true := by
  cases hp : getPres pres pre with
  | error e => simp [fieldFromCore, hp] at h
  | ok b =>
    cases b with
    | false => rw [fieldFromCore_absent hp] at h; cases h; exact .inl ⟨rfl, rfl, rfl⟩
    | true => exact .inr rfl

theorem fieldFromCore_body_error {n : Nat} (hp : getPres pres pre = .ok true)
    (hg : glen pre data.length = .ok n) (hn : n ≤ data.length) (hb : body pre (data.take n) = .error e) :
    fieldFromCore pres glen body pre data = .error e := by
  simp only [fieldFromCore, hp, hg]
  rw [if_neg (by omega)]
  simp only [hb]

/-- Every error of the base-class decoder is the `KeyError` of the presence callback, an error of the length
callback, `DecodeError('Short read')` or an error of the body. -/
theorem fieldFromCore_error {P : Err → Prop} (hk : P .key) (hd : P .decode)
    (hg : ∀ n e, glen pre n = .error e → P e) (hb : ∀ d e, body pre d = .error e → P e)
    (h : fieldFromCore pres glen body pre data = .error e) : P e := by
  simp only [fieldFromCore] at h
  cases hp : getPres pres pre with
  | error e' => simp only [hp, Except.error.injEq] at h; subst h; exact getPres_error hp ▸ hk
  | ok b =>
    cases b with
    | false => simp [hp] at h
    | true =>
      simp only [hp] at h
      cases hl : glen pre data.length with
      | error e' => simp only [hl, Except.error.injEq] at h; subst h; exact hg _ _ hl
      | ok n =>
        simp only [hl] at h
        split at h
        · cases h; exact hd
        · cases hbb : body pre (List.take n data) with
          | error e' => simp only [hbb, Except.error.injEq] at h; subst h; exact hb _ _ hbb
          | ok v => simp [hbb] at h

end core

section core
variable {pres : Pres} {selfLen : Nat} {body : Vals → Except Err (List Nat)} {v : Vals} {data : List Nat} {e : Err}

theorem fieldToCore_present (hp : getPres pres v = .ok true) (hb : body v = .ok data)
    (hl : selfLen > 0 → data.length = selfLen) : fieldToCore pres selfLen body v = .ok data := by
  simp only [fieldToCore, hp, hb]
  rw [if_neg]; intro ⟨h1, h2⟩; exact h2 (hl h1)

theorem fieldToCore_absent (hp : getPres pres v = .ok false) : fieldToCore pres selfLen body v = .ok [] := by
  simp only [fieldToCore, hp]

/-- Every error of the base-class encoder is the `KeyError` of the presence callback, an error of the body or
`EncodeError('Field length mismatch')`. -/
theorem fieldToCore_error {P : Err → Prop} (hk : P .key) (he : P .encode) (hb : ∀ e, body v = .error e → P e)
    (h : fieldToCore pres selfLen body v = .error e) : P e := by
  simp only [fieldToCore] at h
  cases hp : getPres pres v with
  | error e' => simp only [hp, Except.error.injEq] at h; subst h; exact getPres_error hp ▸ hk
  | ok b =>
    cases b with
    | false => simp [hp] at h
    | true =>
      simp only [hp] at h
      cases hbb : body v with
      | error e' => simp only [hbb, Except.error.injEq] at h; subst h; exact hb _ hbb
      | ok d =>
        simp only [hbb] at h
        split at h
        · cases h; exact he
        · cases h

end core

theorem wfField_bits_derive {pres len little fs} (h : wfField (.bits pres len little fs) = true) :
    ∃ l offs, bitsDerive len little fs = .ok (l, offs) := by
  rw [wfField, Bool.and_eq_true] at h
  cases hd : bitsDerive len little fs with
  | error e => simp [hd] at h
  | ok r => exact ⟨r.1, r.2, rfl⟩

theorem field_absent (f : FDef) (hw : wfField f = true) (pre : Vals) (v : Vals) (data : List Nat)
    (hp : getPres f.pres pre = .ok false) (hv : getPres f.pres v = .ok false) :
    fieldTo f v = .ok [] ∧ fieldFrom f pre data = .ok (pre, 0) := by
  cases f with
  | bits pres len little fs =>
    obtain ⟨l, offs, hd⟩ := wfField_bits_derive hw
    simp only [fieldTo, fieldFrom, hd]
    exact ⟨fieldToCore_absent hv, fieldFromCore_absent hp⟩
  | _ =>
    rw [fieldTo, fieldFrom]
    exact ⟨fieldToCore_absent hv, fieldFromCore_absent hp⟩

theorem fieldFrom_pres (f : FDef) {pre v' : Vals} {data : List Nat} {k : Nat}
    (h : fieldFrom f pre data = .ok (v', k)) :
    (getPres f.pres pre = .ok false ∧ v' = pre ∧ k = 0) ∨ getPres f.pres pre = .ok true := by
  cases f with
  | bits pres len little fs =>
    rw [fieldFrom] at h
    cases hd : bitsDerive len little fs with
    | error e => simp [hd] at h
    | ok r => simp only [hd] at h; exact fieldFromCore_ok h
  | _ => rw [fieldFrom] at h; exact fieldFromCore_ok h

/-! ## the tail check -/

theorem tailCheck_ok_iff {cl : Bool} {dlen : Nat} {r : Except Err (Vals × Nat)} {v : Vals} {n : Nat} :
    tailCheck cl dlen r = .ok (v, n) ↔ r = .ok (v, n) ∧ (cl = true → dlen = n) := by
  unfold tailCheck
  cases r with
  | error e => simp
  | ok p =>
    obtain ⟨v', n'⟩ := p
    simp only
    by_cases hc : cl = true ∧ dlen ≠ n'
    · rw [if_pos hc]
      exact ⟨fun h => (nomatch h), fun ⟨h1, h2⟩ => by cases h1; exact absurd (h2 hc.1) hc.2⟩
    · rw [if_neg hc]
      exact ⟨fun h => ⟨h, fun hcl => by cases h; exact Decidable.not_not.1 (fun hne => hc ⟨hcl, hne⟩)⟩, fun h => h.1⟩

theorem tailCheck_error {cl : Bool} {dlen : Nat} {r : Except Err (Vals × Nat)} {e : Err}
    (h : tailCheck cl dlen r = .error e) : r = .error e ∨ e = .decode := by
  unfold tailCheck at h
  cases r with
  | error e' => exact .inl h
  | ok p =>
    simp only at h
    split at h
    · cases h; exact .inr rfl
    · cases h

theorem fromBytes_ok_iff {d : EnvDef} {b : List Nat} {v : Vals} {n : Nat} :
    fromBytes d b = .ok (v, n) ↔ envFrom d.fs [] b 0 = .ok (v, n) ∧ (d.checkLen = true → b.length = n) :=
  tailCheck_ok_iff

/-! ## the envelope loop -/

theorem envFrom_shift (fs : List FDef) (vals : Vals) (data : List Nat) (off : Nat) :
    envFrom fs vals data off =
      match envFrom fs vals (data.drop off) 0 with
      | .error e => .error e
      | .ok (v, k) => .ok (v, off + k) := by
  induction fs generalizing vals data off with
  | nil => simp [envFrom]
  | cons f fs ih =>
    simp only [envFrom, List.drop_zero]
    cases hf : fieldFrom f vals (List.drop off data) with
    | error e => simp
    | ok r =>
      obtain ⟨v', k⟩ := r
      simp only
      rw [ih v' data (off + k), ih v' (List.drop off data) (0 + k)]
      simp only [List.drop_drop, Nat.zero_add]
      cases envFrom fs v' (List.drop (off + k) data) 0 with
      | error e => simp
      | ok r => simp [Nat.add_assoc]

theorem envFrom_cons (f : FDef) (fs : List FDef) (vals : Vals) (data : List Nat) :
    envFrom (f :: fs) vals data 0 =
      match fieldFrom f vals data with
      | .error e => .error (wrapDec e)
      | .ok (v', k) =>
        match envFrom fs v' (data.drop k) 0 with
        | .error e => .error e
        | .ok (v'', k') => .ok (v'', k + k') := by
  simp only [envFrom, List.drop_zero]
  cases hf : fieldFrom f vals data with
  | error e => rfl
  | ok r =>
    obtain ⟨v', k⟩ := r
    simp only
    rw [envFrom_shift fs v' data (0 + k)]
    simp [Nat.zero_add]

theorem envFrom_cons_ok {f : FDef} {fs : List FDef} {pre v' : Vals} {data : List Nat} {n : Nat}
    (h : envFrom (f :: fs) pre data 0 = .ok (v', n)) :
    ∃ p1 k k', fieldFrom f pre data = .ok (p1, k) ∧ envFrom fs p1 (data.drop k) 0 = .ok (v', k') ∧ n = k + k' := by
  rw [envFrom_cons] at h
  cases hf : fieldFrom f pre data with
  | error e => rw [hf] at h; cases h
  | ok r =>
    obtain ⟨p1, k⟩ := r
    simp only [hf] at h
    cases hrest : envFrom fs p1 (List.drop k data) 0 with
    | error e => rw [hrest] at h; cases h
    | ok r2 =>
      obtain ⟨v2, k'⟩ := r2
      simp only [hrest, Except.ok.injEq, Prod.mk.injEq] at h
      exact ⟨p1, k, k', rfl, by rw [hrest, h.1], h.2.symm⟩

theorem envTo_nil (v : Vals) : envTo [] v = .ok [] := by rw [envTo]

theorem envTo_cons_ok {f : FDef} {fs : List FDef} {v : Vals} {a b : List Nat}
    (hf : fieldTo f v = .ok a) (hr : envTo fs v = .ok b) : envTo (f :: fs) v = .ok (a ++ b) := by
  rw [envTo, hf, hr]

/-- the same for a dict given as what precedes the field's entries, those entries, and the rest -/
theorem envTo_cons_of {f : FDef} {fs : List FDef} {pre c rst : Vals} {a b : List Nat}
    (hf : fieldTo f (pre ++ c ++ rst) = .ok a) (hr : envTo fs (pre ++ c ++ rst) = .ok b) :
    envTo (f :: fs) (pre ++ (c ++ rst)) = .ok (a ++ b) := by
  rw [← List.append_assoc]; exact envTo_cons_ok hf hr

theorem namesOf_cons (f : FDef) (fs : List FDef) : namesOf (f :: fs) = f.storedNames ++ namesOf fs :=
  List.flatMap_cons

/-! ## the sequence loop -/

section seq
variable {proc : List Nat → Except Err (Vals × Nat)} {fuel off : Nat} {data : List Nat} {acc : List Val}

theorem seqLoop_done (h : data.length ≤ off) : seqLoop proc fuel data off acc = .ok acc := by
  unfold seqLoop; exact if_neg (Nat.not_lt.2 h)

theorem seqLoop_zero (h : off < data.length) : seqLoop proc 0 data off acc = .error .unmodelled := by
  rw [seqLoop, if_pos h]

theorem seqLoop_step (h : off < data.length) :
    seqLoop proc (fuel + 1) data off acc =
      match proc (data.drop off) with
      | .error e => .error e
      | .ok (v, k) => if k = 0 then .error .hang else seqLoop proc fuel data (off + k) (acc ++ [.dict v]) := by
  rw [seqLoop, if_pos h]; rfl

end seq

/-! ## what `inRangeField` asks of each field kind -/

section inRange
variable {name : String} {pres : Pres} {ld : LenD} {pre c : Vals} {rest L : Nat}

theorem inRangeField_int {len bo sg off mult} :
    inRangeField (.int name pres len bo sg off mult) pre c rest = some L ↔
    ∃ x, c = [(name, .int x)] ∧ name ∉ pre.keys ∧ Int.fdiv (x - off) mult * mult + off = x
      ∧ fitsInt len sg (Int.fdiv (x - off) mult) = true ∧ L = len := by
  simp only [inRangeField]
  constructor
  · intro h
    split at h
    · split at h
      · rename_i k x hc
        obtain ⟨rfl, h2, h3, h4⟩ := hc
        cases h
        exact ⟨x, rfl, h2, h3, h4, rfl⟩
      · cases h
    · cases h
  · rintro ⟨x, rfl, h2, h3, h4, rfl⟩
    simp only
    rw [if_pos ⟨trivial, h2, h3, h4⟩]

theorem inRangeField_buf :
    inRangeField (.buf name pres ld) pre c rest = some L ↔
    ∃ b, c = [(name, .bytes b)] ∧ name ∉ pre.keys ∧ isBytes b = true
      ∧ getLen ld pre (b.length + rest) = .ok b.length ∧ L = b.length := by
  simp only [inRangeField]
  constructor
  · intro h
    split at h
    · split at h
      · rename_i k b hc
        obtain ⟨rfl, h2, h3, h4⟩ := hc
        cases h
        exact ⟨b, rfl, h2, h3, (lenOK_iff _ _ _ _).1 h4, rfl⟩
      · cases h
    · cases h
  · rintro ⟨b, rfl, h2, h3, h4, rfl⟩
    simp only
    rw [if_pos ⟨trivial, h2, h3, (lenOK_iff _ _ _ _).2 h4⟩]

theorem inRangeField_spare {filler} :
    inRangeField (.spare name pres ld filler) pre c rest = some L ↔
    c = [] ∧ getLen ld pre 0 = .ok L ∧ getLen ld pre (L + rest) = .ok L := by
  simp only [inRangeField]
  constructor
  · intro h
    split at h
    · rename_i l hg
      split at h
      · rename_i hc
        cases h
        exact ⟨rfl, hg, (lenOK_iff _ _ _ _).1 hc⟩
      · cases h
    · cases h
  · rintro ⟨rfl, h1, h2⟩
    simp only [h1]
    rw [if_pos ((lenOK_iff _ _ _ _).2 h2)]

theorem inRangeField_bits {len little fs} :
    inRangeField (.bits pres len little fs) pre c rest = some L ↔
    ∃ offs, bitsDerive len little fs = .ok (L, offs) ∧ inRangeBits offs pre c = true := by
  simp only [inRangeField]
  constructor
  · intro h
    split at h
    · rename_i l offs hd
      split at h
      · cases h; exact ⟨offs, hd, ‹_›⟩
      · cases h
    · cases h
  · rintro ⟨offs, hd, hr⟩
    simp only [hd, hr, if_true]

theorem inRangeField_env {cl fs} :
    inRangeField (.env name pres ld cl fs) pre c rest = some L ↔
    ∃ inner, c = [(name, .dict inner)] ∧ name ∉ pre.keys ∧ inRangeFields fs [] inner 0 = some L
      ∧ getLen ld pre (L + rest) = .ok L := by
  simp only [inRangeField]
  constructor
  · intro h
    split at h
    · rename_i k inner
      split at h
      · rename_i l hi
        split at h
        · rename_i hc
          obtain ⟨rfl, h2, h3⟩ := hc
          cases h
          exact ⟨inner, rfl, h2, hi, (lenOK_iff _ _ _ _).1 h3⟩
        · cases h
      · cases h
    · cases h
  · rintro ⟨inner, rfl, h2, h3, h4⟩
    simp only [h3]
    rw [if_pos ⟨trivial, h2, (lenOK_iff _ _ _ _).2 h4⟩]

theorem inRangeField_seq {item} :
    inRangeField (.seq name pres ld item) pre c rest = some L ↔
    ∃ items, c = [(name, .list items)] ∧ name ∉ pre.keys
      ∧ inRangeItems (fun iv r => inRangeFields item [] iv r) items = some L
      ∧ getLen ld pre (L + rest) = .ok L := by
  simp only [inRangeField]
  constructor
  · intro h
    split at h
    · rename_i k items
      split at h
      · rename_i l hi
        split at h
        · rename_i hc
          obtain ⟨rfl, h2, h3⟩ := hc
          cases h
          exact ⟨items, rfl, h2, hi, (lenOK_iff _ _ _ _).1 h3⟩
        · cases h
      · cases h
    · cases h
  · rintro ⟨items, rfl, h2, h3, h4⟩
    simp only [h3]
    rw [if_pos ⟨trivial, h2, (lenOK_iff _ _ _ _).2 h4⟩]

end inRange

/-- the items of a sequence value are dicts; each is checked with the length of those after it following -/
theorem inRangeItems_cons {chk : Vals → Nat → Option Nat} {it : Val} {rest : List Val} {L : Nat} :
    inRangeItems chk (it :: rest) = some L ↔
    ∃ iv lr l, it = .dict iv ∧ inRangeItems chk rest = some lr ∧ chk iv lr = some l ∧ 1 ≤ l ∧ L = l + lr := by
  constructor
  · intro h
    cases it with
    | dict iv =>
      simp only [inRangeItems] at h
      split at h
      · cases h
      · split at h
        · cases h
        · split at h
          · cases h; exact ⟨iv, _, _, rfl, ‹_›, ‹_›, ‹_›, rfl⟩
          · cases h
    | _ => cases h
  · rintro ⟨iv, lr, l, rfl, hr, hc, hl, rfl⟩
    simp only [inRangeItems, hr, hc]
    rw [if_pos hl]

theorem inRangeFields_nil {pre rst : Vals} {R L : Nat} :
    inRangeFields [] pre rst R = some L ↔ rst = [] ∧ L = 0 := by
  rw [inRangeFields]
  cases rst <;> simp [eq_comm]

theorem inRangeFields_cons_absent {f : FDef} {fs : List FDef} {pre rst : Vals} {R : Nat}
    (hp : getPres f.pres pre = .ok false) : inRangeFields (f :: fs) pre rst R = inRangeFields fs pre rst R := by
  rw [inRangeFields, hp]

theorem inRangeFields_cons_present {f : FDef} {fs : List FDef} {pre rst : Vals} {R L : Nat}
    (hp : getPres f.pres pre = .ok true) :
    inRangeFields (f :: fs) pre rst R = some L ↔
    ∃ l lr, inRangeFields fs (pre ++ rst.take f.nStored) (rst.drop f.nStored) R = some lr
      ∧ inRangeField f pre (rst.take f.nStored) (lr + R) = some l ∧ L = l + lr := by
  rw [inRangeFields, hp]
  simp only
  cases inRangeFields fs (pre ++ List.take f.nStored rst) (List.drop f.nStored rst) R with
  | none => simp
  | some lr =>
    simp only [Option.some.injEq, exists_eq_left']
    cases inRangeField f pre (List.take f.nStored rst) (lr + R) with
    | none => simp
    | some l => simp [eq_comm]

theorem inRangeFields_cons_absent_of {f : FDef} {fs : List FDef} {pre rst : Vals} {R L : Nat}
    (hp : getPres f.pres pre = .ok false) (hr : inRangeFields fs pre rst R = some L) :
    inRangeFields (f :: fs) pre rst R = some L := by
  rw [inRangeFields_cons_absent hp]; exact hr

theorem inRangeFields_cons_of {f : FDef} {fs : List FDef} {pre c rst : Vals} {R l lr : Nat}
    (hp : getPres f.pres pre = .ok true) (hf : inRangeField f pre c (lr + R) = some l)
    (hc : c.length = f.nStored) (hr : inRangeFields fs (pre ++ c) rst R = some lr) :
    inRangeFields (f :: fs) pre (c ++ rst) R = some (l + lr) := by
  rw [inRangeFields_cons_present hp, ← hc, List.take_left, List.drop_left]
  exact ⟨l, lr, hr, hf, rfl⟩

end OsmoVerif.Codec
