/-
Executable model of the TRXD capture files
  src/target/trx_toolkit/data_dump.py   (classes DATADump, DATADumpFile)
statement for statement, on top of `OsmoVerif.Model.Trxd`.  The tags and the header length come from
`OsmoVerif.Gen.Trxd` (regenerated).  No Mathlib.

The capture file is a byte list with a cursor (`File`), with the semantics of `io.BytesIO` / a binary
file object: `read(n)` returns what is left (possibly fewer than n octets, nothing when the cursor is
at or past the end) and advances the cursor by what it returned; `seek(0)`, `seek(n, 1)` (may move
past the end), `seek(0, 2)` (to the end); `write(b)` writes at the cursor (zero filling a gap,
overwriting what is there).

API (namespace `OsmoVerif.TrxdDump`)
  Msg                          a message object: `.tx TxMsg` | `.rx RxMsg`
  File, File.read/seek0/seekCur/seekEnd/write
  dumpMsg m                    `DATADump.dump_msg(msg)`                        : Except Exc Bytes
  parseHdr hdr                 `DATADump.parse_hdr(hdr)`; `none` = `False`     : Except Exc (Option (Kind × Nat))
  seek2msg f idx               `_seek2msg(idx)`                                : Except Exc (Bool × File)
  Res                          result of `_parse_msg`: `.none` (None), `.false` (False), `.msg m`
  parseOne f                   `_parse_msg()`                                  : Except Exc (Res × File)
  parseMsg f idx               `parse_msg(idx)`                                : Except Exc (Res × File)
  parseAll f skip count        `parse_all(skip, count)`; `none` = `False`      : Except Exc (Option (List Msg) × File)
  appendMsg f m, appendAll f ms  `append_msg`, `append_all`                    : Except Exc File
`Except` carries exceptions that would leave the method (`struct.error` of `parse_hdr` on a short
header - unreachable, the callers check the length - and whatever `gen_msg` raises in `dump_msg`);
the bare `except:` around `msg.parse_msg` turns every exception into `False`.
-/
import OsmoVerif.Model.Trxd

namespace OsmoVerif.TrxdDump
open OsmoVerif OsmoVerif.Trxd

/-- a message object handed to / returned by the capture API -/
inductive Msg
  | tx (m : TxMsg)
  | rx (m : RxMsg)
deriving DecidableEq, Repr

inductive Kind
  | tx | rx
deriving DecidableEq, Repr

/-- `struct.pack(">H", x)` -/
def packBE16u (x : Nat) : Except Exc Bytes :=
  if x < 65536 then .ok [x / 256 % 256, x % 256] else .error .structError

/-- `struct.unpack(">H", b)[0]` -/
def unpackBE16u : Bytes → Except Exc Nat
  | [a, b] => .ok (a * 256 + b)
  | _ => .error .structError

/-- `DATADump.dump_msg(msg)` -/
def dumpMsg (m : Msg) : Except Exc Bytes := do
  let tag := match m with
    | .tx _ => Gen.Trxd.dumpTagTx
    | .rx _ => Gen.Trxd.dumpTagRx
  let raw ← match m with
    | .tx t => t.genMsg
    | .rx r => r.genMsg
  let len ← packBE16u raw.length
  pure (tag ++ len ++ raw)

/-- `DATADump.parse_hdr(hdr)`; `none` is the `False` of an unknown tag -/
def parseHdr (hdr : Bytes) : Except Exc (Option (Kind × Nat)) := do
  let len ← unpackBE16u (slice hdr 1 3)
  let tag := hdr.take 1
  if tag = Gen.Trxd.dumpTagTx then pure (some (.tx, len))
  else if tag = Gen.Trxd.dumpTagRx then pure (some (.rx, len))
  else pure none

/-! ### the file object -/

structure File where
  data : Bytes
  pos : Nat
deriving DecidableEq, Repr

namespace File
/-- `f.read(n)` -/
def read (f : File) (n : Nat) : Bytes × File :=
  let c := (f.data.drop f.pos).take n
  (c, { f with pos := f.pos + c.length })
/-- `f.seek(0)` -/
def seek0 (f : File) : File := { f with pos := 0 }
/-- `f.seek(n, 1)` -/
def seekCur (f : File) (n : Nat) : File := { f with pos := f.pos + n }
/-- `f.seek(0, 2)` -/
def seekEnd (f : File) : File := { f with pos := f.data.length }
/-- `f.write(b)` -/
def write (f : File) (b : Bytes) : File :=
  { data := f.data.take f.pos ++ List.replicate (f.pos - f.data.length) 0 ++ b ++ f.data.drop (f.pos + b.length),
    pos := f.pos + b.length }
end File

/-! ### DATADumpFile -/

/-- the loop of `_seek2msg` -/
def seekLoop : Nat → File → Except Exc (Bool × File)
  | 0, f => .ok (true, f)
  | n + 1, f => do
    let (hdr, f) := f.read Gen.Trxd.dumpHdrLength
    if hdr.length ≠ Gen.Trxd.dumpHdrLength then return (false, f)
    match ← parseHdr hdr with
    | none => return (false, f)
    | some (_, len) => seekLoop n (f.seekCur len)

/-- `_seek2msg(idx)` -/
def seek2msg (f : File) (idx : Nat) : Except Exc (Bool × File) := seekLoop idx f.seek0

/-- what `_parse_msg` returns -/
inductive Res
  | none | false | msg (m : Msg)
deriving DecidableEq, Repr

/-- `msg.parse_msg(bytearray(msg_raw))` inside `try: ... except: return False`, on the fresh object
made by `parse_hdr` -/
def parseRaw (k : Kind) (raw : Bytes) : Res :=
  match k with
  | .tx => match TxMsg.parseMsg raw with
    | .ok m => .msg (.tx m)
    | .error _ => .false
  | .rx => match RxMsg.parseMsg raw with
    | .ok m => .msg (.rx m)
    | .error _ => .false

/-- `_parse_msg()` -/
def parseOne (f : File) : Except Exc (Res × File) := do
  let (hdr, f) := f.read Gen.Trxd.dumpHdrLength
  if hdr.length ≠ Gen.Trxd.dumpHdrLength then return (.none, f)
  match ← parseHdr hdr with
  | none => return (.none, f)
  | some (k, len) =>
    let (raw, f) := f.read len
    if raw.length ≠ len then return (.none, f)
    return (parseRaw k raw, f)

/-- `parse_msg(idx)` -/
def parseMsg (f : File) (idx : Nat) : Except Exc (Res × File) := do
  let (rc, f) ← seek2msg f idx
  if ¬ rc then return (.none, f)
  parseOne f

/-- a `_parse_msg()` that did not return `None` consumed at least the header: the `while True` loop
of `parse_all` terminates -/
theorem parseOne_progress (f f' : File) (r : Res) (h : parseOne f = .ok (r, f')) (hr : r ≠ .none) :
    f'.data.length - f'.pos < f.data.length - f.pos := by
  have h3 : Gen.Trxd.dumpHdrLength = 3 := by decide
  unfold parseOne at h
  simp only [File.read, h3, bind, Except.bind, pure, Except.pure] at h
  -- every way out but the last returns `None`
  split at h
  · cases h; exact absurd rfl hr
  · rename_i hl
    split at h
    · cases h
    · split at h
      · cases h; exact absurd rfl hr
      · split at h
        · cases h; exact absurd rfl hr
        · cases h
          -- the three header octets were there
          have ha := Decidable.not_not.mp hl
          have hle := List.length_take_le' 3 (f.data.drop f.pos)
          rw [ha, List.length_drop] at hle
          simp only [ha]
          omega

/-- the `while True` loop of `parse_all` (`result` is the list built so far) -/
def parseLoop (count : Option Nat) (f : File) (result : List Msg) : Except Exc (List Msg × File) :=
  match h : parseOne f with
  | .error e => .error e
  | .ok (r, f') =>
    match hr : r with
    | .none => .ok (result, f')                  -- EOF or broken header: break
    | .false =>                                  -- unparsed message: continue
      have : f'.data.length - f'.pos < f.data.length - f.pos :=
        parseOne_progress f f' r (hr ▸ h) (by rw [hr]; exact fun h => by cases h)
      parseLoop count f' result
    | .msg m =>
      let result := result ++ [m]
      if count = some result.length then .ok (result, f')    -- count limitation: break
      else
        have : f'.data.length - f'.pos < f.data.length - f.pos :=
          parseOne_progress f f' r (hr ▸ h) (by rw [hr]; exact fun h => by cases h)
        parseLoop count f' result
termination_by f.data.length - f.pos

/-- `parse_all(skip, count)`; `none` = `False` (range error) -/
def parseAll (f : File) (skip count : Option Nat) : Except Exc (Option (List Msg) × File) := do
  let (rc, f) ← match skip with
    | none => pure (true, f.seek0)
    | some s => seek2msg f s
  if ¬ rc then return (none, f)
  let (res, f) ← parseLoop count f []
  return (some res, f)

/-- `append_msg(msg)`: seek to the end, generate the record, write it -/
def appendMsg (f : File) (m : Msg) : Except Exc File := do
  let f := f.seekEnd
  let raw ← dumpMsg m
  pure (f.write raw)

/-- `append_all(msgs)` -/
def appendAll (f : File) : List Msg → Except Exc File
  | [] => .ok f
  | m :: ms => do
    let f ← appendMsg f m
    appendAll f ms

end OsmoVerif.TrxdDump
