/-
C14 (parser half) — whatever octets arrive on a data socket or are found in a capture file, the TRXD
message parser, the receiving half of the TRXD interface and the capture reader return normally:
the parser signals nothing but `ValueError`, `recv_tx_msg` / `recv_rx_msg` turn every rejected datagram
and every version mismatch into `None`, the capture reader returns its documented `None` / `False` /
list results, and none of them keeps anything from one datagram / read to the next.  Property theorems only.

Models: `OsmoVerif.Model.Trxd` (TxMsg / RxMsg.parse_msg, failure tagged: every `b[i]`, every
`struct.unpack` on a slice, the `HDR_LEN` property and the table lookups of `bytes.translate` are partial
and carry the Python exception class), `OsmoVerif.Model.TrxdIf` (DATAInterface.recv_tx_msg / recv_rx_msg),
`OsmoVerif.Model.TrxdDump` / `TrxdDumpHist` (DATADumpFile).  Helper lemmas: `Lemmas/TrxdParse`,
`Lemmas/TrxdIf`, `Lemmas/TrxdDumpHist`.

"Functional model" and what it means for the code: `TxMsg.parseMsg b` / `RxMsg.parseMsg b` are the calls
`TxMsg().parse_msg(b)` / `RxMsg().parse_msg(b)` on a FRESH object; in the model their result is a function
of `b` and of the regenerated class constants (header lengths, known versions, Modulation enum, soft-bit
table) alone.  For the code this says: `parse_msg` reads nothing but its argument, the new object and these
class-level constants, and writes nothing but the new object - no module or class level state survives a
parse, failed or not.  That part is tied differentially (sequences of parses in ONE interpreter, each
answered by the model independently).  Where the code does keep an object across calls - the interface
(`_hdr_ver`) and the capture reader (file content and cursor) - the models thread that object through
every call and the theorems below are about it.
-/
import OsmoVerif.Lemmas.TrxdParse
import OsmoVerif.Lemmas.TrxdIf

namespace OsmoVerif.Props.C14Parsers
open OsmoVerif OsmoVerif.Trxd OsmoVerif.TrxdIf OsmoVerif.TrxdDump

/-- an octet string (element type invariant of `bytes` / `bytearray`) -/
def Octets (b : Bytes) : Prop := ∀ x ∈ b, x < 256
instance (b : Bytes) : Decidable (Octets b) := by unfold Octets; infer_instance

/-! ### (a) the message parser signals only ValueError -/

/-- `TxMsg().parse_msg(b)` on ANY list of numbers: a message or `ValueError` - never the IndexError of
`msg[0]` / `hdr[5]` / `HDR_LEN`, never the struct.error of `struct.unpack(">L", msg[1:5])`. -/
theorem parse_only_valueerror_tx (b : Bytes) :
    (∃ m, TxMsg.parseMsg b = .ok m) ∨ TxMsg.parseMsg b = .error .valueError  :=
  ok_or_valueError _ (TxMsg.parseMsg_err b)

/-- `RxMsg().parse_msg(b)` on ANY octet string: a message or `ValueError` - never the IndexError of
`hdr[5]` / `hdr[8]` / `HDR_LEN` / the translation table, never the struct.error of the three `unpack`s. -/
theorem parse_only_valueerror_rx (b : Bytes) (hb : Octets b) :
    (∃ m, RxMsg.parseMsg b = .ok m) ∨ RxMsg.parseMsg b = .error .valueError  :=
  ok_or_valueError _ (RxMsg.parseMsgFrom_err RxMsg.fresh b hb)

/-- the same for `parse_msg` on an `RxMsg` object that was used before (any attribute values) -/
theorem reparse_only_valueerror_rx (self : RxMsg) (b : Bytes) (hb : Octets b) :
    (∃ m, self.parseMsgFrom b = .ok m) ∨ self.parseMsgFrom b = .error .valueError  :=
  ok_or_valueError _ (RxMsg.parseMsgFrom_err self b hb)

/-- exactly which Tx datagrams are rejected (numbers of the TRXD layout): fewer than the 6 header octets, or
a version nibble other than 0 / 1.  Everything else - any TN bit pattern, any FN, any attenuation, any
burst length - is parsed. -/
theorem parse_tx_rejects_iff (b : Bytes) :
    TxMsg.parseMsg b = .error .valueError ↔ (b.length < 6 ∨ ∀ v ∈ verNibble b, ¬ v < 2) := by
  rcases TxMsg.parseMsg_cases b with ⟨h, hm⟩ | ⟨m, h, hm, _⟩
  · exact ⟨fun _ => hm, fun _ => h⟩
  · exact ⟨fun h' => (by rw [h] at h'; cases h'), fun h' => absurd h' hm⟩

/-- exactly which Rx datagrams are rejected: fewer than 8 octets, a version nibble other than 0 / 1,
version 1 with fewer than 11 octets, or version 0 (no modulation field: the modulation is guessed from the
length) with a burst of a length other than 148, 296, 444, 592, 740 (+2 legacy octets).  Every MTS octet
(reserved modulation codings included) is parsed. -/
theorem parse_rx_rejects_iff (b : Bytes) (hb : Octets b) :
    RxMsg.parseMsg b = .error .valueError ↔
      (b.length < 8 ∨ (∀ v ∈ verNibble b, ¬ v < 2) ∨ (verNibble b = some 1 ∧ b.length < 11) ∨
       (verNibble b = some 0 ∧ 8 < b.length ∧
        b.length - 8 ∉ [148, 150, 296, 298, 444, 446, 592, 594, 740, 742])) := by
  -- with the list of lengths read as `guessMod _ = none` the right side is `RxMalformed b` written out
  rw [← guessMod_none_iff]
  rcases RxMsg.parseMsgFrom_cases RxMsg.fresh b hb with ⟨h, hm⟩ | ⟨m, h, hm, _⟩
  · exact ⟨fun _ => hm, fun _ => h⟩
  · exact ⟨fun h' => (by rw [RxMsg.parseMsg, h] at h'; cases h'), fun h' => absurd h' hm⟩

/-- whether an Rx datagram is accepted does not depend on the object it is parsed into -/
theorem reparse_outcome_independent (self : RxMsg) (b : Bytes) (hb : Octets b) :
    (∃ m, self.parseMsgFrom b = .ok m) ↔ (∃ m, RxMsg.parseMsg b = .ok m) := by
  rcases RxMsg.parseMsgFrom_cases self b hb with ⟨h1, m1⟩ | ⟨x, h1, m1, _⟩ <;>
  rcases RxMsg.parseMsgFrom_cases RxMsg.fresh b hb with ⟨h2, m2⟩ | ⟨y, h2, m2, _⟩
  · simp only [RxMsg.parseMsg, h1, h2, reduceCtorEq, exists_false]
  · exact absurd m1 m2
  · exact absurd m2 m1
  · exact ⟨fun _ => ⟨y, h2⟩, fun _ => ⟨x, h1⟩⟩

/-- a parsed message carries the version of its first octet, and that version is 0 or 1 -/
theorem parsed_version_tx (b : Bytes) (m : TxMsg) (h : TxMsg.parseMsg b = .ok m) :
    verNibble b = some m.ver.toNat ∧ (m.ver = 0 ∨ m.ver = 1) := by
  rcases TxMsg.parseMsg_cases b with ⟨he, _⟩ | ⟨m', hm, _, hv, hk⟩
  · rw [he] at h; cases h
  · rw [hm] at h; cases h; exact ⟨hv, hk⟩

theorem parsed_version_rx (b : Bytes) (hb : Octets b) (m : RxMsg) (h : RxMsg.parseMsg b = .ok m) :
    verNibble b = some m.ver.toNat ∧ (m.ver = 0 ∨ m.ver = 1) := by
  rcases RxMsg.parseMsgFrom_cases RxMsg.fresh b hb with ⟨he, _⟩ | ⟨m', hm, _, hv, hk⟩
  · rw [RxMsg.parseMsg, he] at h; cases h
  · rw [RxMsg.parseMsg, hm] at h; cases h; exact ⟨hv, hk⟩

/-! ### (b) recv_tx_msg / recv_rx_msg swallow what the parser rejects -/

/-- `recv_tx_msg()` for ANY datagram and negotiated version: never raises; `None` for every datagram the
parser rejects and for a header version other than the negotiated one, the parsed message otherwise; the
interface object is left as it was. -/
theorem recv_swallows_tx (s : DataIf) (d : Bytes) :
    (recvTxMsg s d).2 = s ∧
    (∃ r, (recvTxMsg s d).1 = .ok r) ∧
    ((∃ e, TxMsg.parseMsg (d.take Gen.TrxdIf.txRecvSize) = .error e) → (recvTxMsg s d).1 = .ok none) ∧
    (∀ m, TxMsg.parseMsg (d.take Gen.TrxdIf.txRecvSize) = .ok m →
      (recvTxMsg s d).1 = .ok (if m.ver = s.hdrVer then some m else none))  :=
  recvTxMsg_spec s d

/-- `recv_rx_msg()`, the same (datagrams are octet strings) -/
theorem recv_swallows_rx (s : DataIf) (d : Bytes) (hd : Octets d) :
    (recvRxMsg s d).2 = s ∧
    (∃ r, (recvRxMsg s d).1 = .ok r) ∧
    ((∃ e, RxMsg.parseMsg (d.take Gen.TrxdIf.rxRecvSize) = .error e) → (recvRxMsg s d).1 = .ok none) ∧
    (∀ m, RxMsg.parseMsg (d.take Gen.TrxdIf.rxRecvSize) = .ok m →
      (recvRxMsg s d).1 = .ok (if m.ver = s.hdrVer then some m else none))  :=
  recvRxMsg_spec s d hd

/-- a version mismatch is `None`: a datagram whose version nibble is not the negotiated version is never
handed on, whatever else it contains -/
theorem recv_version_mismatch_tx (s : DataIf) (d : Bytes)
    (h : verNibble (d.take Gen.TrxdIf.txRecvSize) ≠ some s.hdrVer.toNat) : (recvTxMsg s d).1 = .ok none  :=
  (recvTxMsg_spec s d).mismatch fun m hp he => h (by rw [(parsed_version_tx _ m hp).1, he])

theorem recv_version_mismatch_rx (s : DataIf) (d : Bytes) (hd : Octets d)
    (h : verNibble (d.take Gen.TrxdIf.rxRecvSize) ≠ some s.hdrVer.toNat) : (recvRxMsg s d).1 = .ok none  :=
  (recvRxMsg_spec s d hd).mismatch fun m hp he =>
    h (by rw [(parsed_version_rx _ (octets_take d _ hd) m hp).1, he])

/-! ### (c) the capture reader is total -/

/-- `parse_msg(idx)` on ANY file content, cursor and index: never raises, returns a message, `None` or
`False`, leaves the content alone, and its answer does not depend on the cursor it starts from. -/
theorem dump_reader_total_msg (d : Bytes) (pos idx : Nat) :
    ∃ r f', parseMsg ⟨d, pos⟩ idx = .ok (r, f') ∧ f'.data = d ∧ parseMsg ⟨d, 0⟩ idx = .ok (r, f') := by
  obtain ⟨r, f', h, hd⟩ := parseMsg_total ⟨d, pos⟩ idx
  exact ⟨r, f', h, hd, h⟩

/-- `parse_all(skip, count)` on ANY file content, cursor, skip and count: never raises, returns a list of
messages or `False`; `False` (the range error) only when a `skip` was given; leaves the content alone; the
answer does not depend on the cursor it starts from. -/
theorem dump_reader_total_all (d : Bytes) (pos : Nat) (skip count : Option Nat) :
    ∃ r f', parseAll ⟨d, pos⟩ skip count = .ok (r, f') ∧ f'.data = d ∧
      parseAll ⟨d, 0⟩ skip count = .ok (r, f') ∧ (skip = none → ∃ ms, r = some ms) := by
  obtain ⟨r, f', h, hd⟩ := parseAll_total ⟨d, pos⟩ skip count
  refine ⟨r, f', h, hd, by rw [← parseAll_cursor d pos]; exact h, ?_⟩
  rintro rfl
  obtain ⟨res, f2, h2, _⟩ := parseLoop_total count _ (File.seek0 ⟨d, pos⟩) [] (Nat.lt_succ_self _)
  simp only [parseAll, bind, Except.bind, pure, Except.pure, h2, not_true_eq_false, if_false, Except.ok.injEq,
    Prod.mk.injEq] at h
  exact ⟨res, h.1.symm⟩

/-- `False` from `_parse_msg()` means: a complete record was there and the message parser rejected its
payload (with `ValueError`, by (a)) - the only way a parser failure shows in the reader. -/
theorem dump_false_is_rejected_payload (k : Kind) (raw : Bytes) (hraw : Octets raw) :
    parseRaw k raw = .false ↔
      (match k with
       | .tx => TxMsg.parseMsg raw = .error .valueError
       | .rx => RxMsg.parseMsg raw = .error .valueError) := by
  cases k with
  | tx =>
    rcases TxMsg.parseMsg_cases raw with ⟨h, _⟩ | ⟨m, h, _⟩ <;> simp only [parseRaw, h, reduceCtorEq]
  | rx =>
    rcases RxMsg.parseMsgFrom_cases RxMsg.fresh raw hraw with ⟨h, _⟩ | ⟨m, h, _⟩ <;>
      simp only [parseRaw, RxMsg.parseMsg, h, reduceCtorEq]

/-! ### (d) nothing is left behind -/

/-- Datagrams leave nothing behind in the interface: after ANY sequence of received datagrams (rejected,
of the wrong version, or accepted) the object is as before, none of them raised, and every later operation
answers exactly as it would have without them. -/
theorem parser_no_state_if (s : DataIf) (pre ops : List TrxdIf.Op) (hpre : ∀ op ∈ pre, op.IsRecv) :
    (runIf s pre).2 = s ∧
    (runIf s (pre ++ ops)).1.drop pre.length = (runIf s ops).1 ∧
    (runIf s (pre ++ ops)).2 = (runIf s ops).2 := by
  have hs := runIf_recv_state s pre hpre
  rw [runIf_append, hs]
  refine ⟨rfl, ?_, rfl⟩
  rw [← runIf_length s pre, List.drop_left]

/-- no operation of ANY history on an interface object raises (datagrams being octet strings) -/
theorem if_history_never_raises (s : DataIf) (ops : List TrxdIf.Op) (h : ∀ op ∈ ops, op.Octets) :
    ∀ a ∈ (runIf s ops).1, a.Returned := by
  induction ops generalizing s with
  | nil => intro a ha; cases ha
  | cons op ops ih =>
    intro a ha
    simp only [runIf, List.mem_cons] at ha
    rcases ha with rfl | ha
    · exact step_returned s op (h op (List.mem_cons_self ..))
    · exact ih _ (fun o ho => h o (List.mem_cons_of_mem _ ho)) a ha

/-- Reads leave nothing behind in the capture reader: after ANY sequence of `parse_msg` / `parse_all`
calls (any index, skip, count; on any content and from any cursor) none of which raised, the content is
as before and every later operation - reads of records that are there, appends - answers exactly as on a
new reader opened on the same content. -/
theorem parser_no_state_dump (f : File) (pre ops : List TrxdDump.Op) (hpre : ∀ op ∈ pre, op.IsRead) :
    ∃ fe, runHist f (pre ++ ops) = ((specHist f.data pre).1 ++ (specHist f.data ops).1, some fe) ∧
      fe.data = (specHist f.data ops).2 ∧
      (∀ a ∈ (specHist f.data pre).1, ∀ e, a ≠ .raised e) ∧
      (∃ f0, runHist ⟨f.data, 0⟩ ops = ((specHist f.data ops).1, some f0)) := by
  obtain ⟨fe, h1, h2⟩ := runHist_spec (pre ++ ops) f
  obtain ⟨hd, hr⟩ := specHist_reads f.data pre hpre
  obtain ⟨f0, h0, _⟩ := runHist_spec ops ⟨f.data, 0⟩
  rw [specHist_append, hd] at h1 h2
  exact ⟨fe, h1, h2, hr, f0, h0⟩

/-! ### non-vacuity -/

/-- rejected: empty, cut inside the common header, cut before the attenuation octet, version nibble 2 and 15 -/
example : TxMsg.parseMsg [] = .error .valueError ∧ TxMsg.parseMsg [0, 0, 0, 0] = .error .valueError ∧
    TxMsg.parseMsg [0x13, 0, 0, 0, 1] = .error .valueError ∧
    TxMsg.parseMsg [0x20, 0, 0, 0, 1, 0, 1, 0] = .error .valueError ∧
    TxMsg.parseMsg [0xf7, 0, 0, 0, 1, 0] = .error .valueError := by decide

/-- accepted: header only (no burst), TN bit 3 set (ignored), a burst of 3 bits -/
example : TxMsg.parseMsg [0x1b, 0, 0x29, 0x70, 0x3f, 0xff] = .ok ⟨1, some 2715711, some 3, some 255, none⟩ ∧
    TxMsg.parseMsg [0x00, 0, 0, 0, 0, 7, 1, 0, 1] = .ok ⟨0, some 0, some 0, some 7, some [1, 0, 1]⟩ := by decide

/-- Rx: rejected - 7 octets, version 1 cut inside C/I, version 0 with a 5 octet burst, version 3;
accepted - a version 1 header with the modulation coding 0b1110 no modulation has (`mod_type` None), a NOPE indication -/
example : RxMsg.parseMsg [0, 0, 0, 0, 0, 60, 0] = .error .valueError ∧
    RxMsg.parseMsg [0x10, 0, 0, 0, 0, 60, 0, 0, 0, 0] = .error .valueError ∧
    RxMsg.parseMsg [0, 0, 0, 0, 0, 60, 0, 0, 1, 2, 3, 4, 5] = .error .valueError ∧
    RxMsg.parseMsg [0x30, 0, 0, 0, 0, 60, 0, 0, 0, 0, 0] = .error .valueError ∧
    (RxMsg.parseMsg [0x10, 0, 0, 0, 0, 60, 0, 0, 0x75, 0, 0]).map (fun m => (m.modType, m.tsc)) =
      .ok (none, some 5) ∧
    (RxMsg.parseMsg [0x10, 0, 0, 0, 0, 60, 0xff, 0xff, 0x80, 0xff, 0]).map (fun m => (m.nopeInd, m.toa256, m.ci)) =
      .ok (true, some (-1), some (-256)) := by
  decide

/-- the hypothesis `Octets` of the Rx theorems is needed by the MODEL only (a `List Nat` can hold 256, a
`bytes` object cannot): there the table lookup of `translate` fails with the IndexError tag -/
example : RxMsg.parseMsg ([0x10, 0, 0, 0, 0, 60, 0, 0, 0, 0, 0, 256]) = .error .indexError := by decide +kernel

/-- recv: a rejected datagram and a version 1 datagram on a version 0 interface give `None`, the same
version 1 datagram after `set_hdr_ver(1)` is handed on; the datagram is cut at the receive size -/
example : (recvTxMsg DataIf.init [0xff]).1 = .ok none ∧
    (recvTxMsg DataIf.init [0x10, 0, 0, 0, 0, 9]).1 = .ok none ∧
    (recvTxMsg (setHdrVer DataIf.init 1).2 [0x10, 0, 0, 0, 0, 9]).1 = .ok (some ⟨1, some 0, some 0, some 9, none⟩) ∧
    (setHdrVer DataIf.init 2).1 = false ∧
    ((recvTxMsg DataIf.init ([0, 0, 0, 0, 0, 9] ++ List.replicate 600 1)).1.map
        (fun r => r.map (fun m => m.burst.map (·.length)))) = .ok (some (some 444)) := by
  refine ⟨by decide, by decide, by decide, by decide, by decide +kernel⟩

/-- a history on one interface: garbage, a wrong version, then a valid datagram - answered as if alone -/
example : (runIf DataIf.init [.recvTx [], .recvRx [0xff, 1], .recvTx [0x10, 0, 0, 0, 0, 9], .recvTx [0, 0, 0, 0, 0, 9]]).1 =
    [.tx (.ok none), .rx (.ok none), .tx (.ok none), .tx (.ok (some ⟨0, some 0, some 0, some 9, none⟩))] := by
  decide

/-- capture reader on garbage: unknown tag, a length field beyond the file, a cut header, a record whose
payload the parser rejects followed by a good one, an index far beyond the content -/
example : (parseMsg ⟨[9, 0, 1, 0], 0⟩ 0).map (·.1) = .ok .none ∧
    (parseMsg ⟨[1, 0xff, 0xff, 0, 0], 0⟩ 0).map (·.1) = .ok .none ∧
    (parseMsg ⟨[1, 0], 0⟩ 0).map (·.1) = .ok .none ∧
    (parseMsg ⟨[1, 0, 1, 0x50, 1, 0, 6, 0, 0, 0, 0, 0, 9], 0⟩ 0).map (·.1) = .ok .false ∧
    (parseAll ⟨[1, 0, 1, 0x50, 1, 0, 6, 0, 0, 0, 0, 0, 9], 0⟩ none none).map (·.1) =
      .ok (some [.tx ⟨0, some 0, some 0, some 9, none⟩]) ∧
    (parseAll ⟨[1, 0, 1, 0x50, 1, 0, 6, 0, 0, 0, 0, 0, 9], 0⟩ (some 3) (some 1)).map (·.1) = .ok none ∧
    (parseMsg ⟨[1, 0, 1, 0x50], 0⟩ 1000000).map (·.1) = .ok .none := by
  refine ⟨by decide, by decide, by decide, by decide, ?_, ?_, by decide⟩ <;> decide +kernel

end OsmoVerif.Props.C14Parsers
