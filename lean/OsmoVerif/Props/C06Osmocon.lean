/-
C06, osmocon's host side of the serial link (src/host/osmocon/osmocon.c).  Property theorems only.
Model: `Model/Osmocon.lean` over the sercomm layer of `Model/Sercomm.lean` / `Model/SercommMsgb.lean`;
lemmas: `Lemmas/Osmocon.lean`; constants regenerated from the tree (`Gen/Osmocon.lean`).

One finding is pinned here (F23): `handle_sercomm_write` has pulled the octets out of the
transmitter before it calls `write()`, and a short (or failed) `write()` is only reported — the octets
the serial device did not take are gone.  The full statement "everything queued reaches the line" is
kept as `write_lossless_full`, its negation is proved with the witness that is replayed on the real
code, and `write_lossless_partial` has the excluded region (every `write()` complete) as hypothesis.
-/
import OsmoVerif.Lemmas.Osmocon
import OsmoVerif.Props.C06

namespace OsmoVerif.Props.C06Osmocon
open OsmoVerif OsmoVerif.Sercomm OsmoVerif.Osmocon OsmoVerif.Gen.Sercomm OsmoVerif.Gen.Osmocon
open OsmoVerif.Msgb OsmoVerif.SercommMsgb

/-- What the theorems below need of the constants of the current tree (regenerated on every run): every
length `hdlc_send_to_phone` accepts fits the tailroom of the buffer it allocates (so `msgb_put(msg, len)`
cannot abort), that allocation is one `sercomm_alloc_msgb` can serve, `handle_sercomm_write` offers at
least one octet per call, the window is as long as every prompt table, and the prompt that leaves HDLC mode
contains a zero octet (which the link never puts on the wire unescaped).  The values themselves (512, 512,
256, 7 today) are not pinned: a different chunk size or a larger bound with a matching allocation is the
same link. -/
theorem constants :
    sendMax ≤ sendAlloc ∧ 1 ≤ sendAlloc ∧ sendAlloc ≤ 65531 ∧ 1 ≤ writeBuf ∧ 1 ≤ window ∧
    [phonePrompt1, phonePrompt2, phoneAck, phoneNack, phoneNackMagic, ftmtool].all (·.length == window) = true ∧
    0 ∈ phonePrompt1 := by
  decide

/-! ## `handle_sercomm_write` -/

/-- **Chunking.** One call offers to `write()` exactly the next `sizeof(buffer)` octets of the pull stream
(fewer when the transmitter runs dry), the line gets the first `rc` of them, and the transmitter
afterwards is the same whatever `write()` returned. -/
theorem write_chunking (t : Tx) (wr : List Nat → Int) :
    (handleSercommWrite t wr).offered = (pullN writeBuf t).2 ∧
    (handleSercommWrite t wr).line = ((pullN writeBuf t).2).take (wr (pullN writeBuf t).2).toNat ∧
    (handleSercommWrite t wr).tx = (pullN writeBuf t).1 ∧
    (handleSercommWrite t wr).tx = (handleSercommWrite t wrAll).tx := by
  have h := fill_pullN writeBuf t
  unfold handleSercommWrite
  rcases hf : fill writeBuf t with ⟨t', buf, stop⟩
  rw [hf] at h
  cases buf with
  | nil => exact ⟨h.2, by rw [← h.2]; exact List.take_nil.symm, h.1, rfl⟩
  | cons x xs => exact ⟨h.2, by rw [← h.2]; rfl, h.1, rfl⟩

/-- **Complete writes are lossless** (partial: F23).  When every `write()` takes what it is offered, the
concatenation of the chunks written by `k` calls is exactly the first `k · sizeof(buffer)` octets of the pull
stream — nothing dropped, nothing duplicated, nothing reordered — and the transmitter is where that
many pulls leave it. -/
theorem write_lossless_partial (k : Nat) (t : Tx) :
    (writeCalls t (List.replicate k wrAll)).2 = (pullN (k * writeBuf) t).2 ∧
    (writeCalls t (List.replicate k wrAll)).1 = (pullN (k * writeBuf) t).1 := by
  induction k generalizing t with
  | zero => simp [writeCalls, pullN]
  | succ k ih =>
    have ha := pullN_add writeBuf (k * writeBuf) t
    obtain ⟨-, h3, h1, -⟩ := write_chunking t wrAll
    simp only [List.replicate_succ, writeCalls]
    rw [Nat.add_mul, Nat.one_mul, Nat.add_comm, h1, h3, (ih _).1, (ih _).2]
    exact ⟨by rw [ha.1]; simp [wrAll], ha.2.symm⟩

/-- … so the receiver at the other end sees what it would see if it were fed by `sercomm_drv_pull`
directly (the assumption of `end_to_end_partial`: every pulled octet reaches the receiver). -/
theorem write_then_receive (k : Nat) (t : Tx) (c : RxCfg) (r : Rx) :
    feed c r (writeCalls t (List.replicate k wrAll)).2 = feed c r (pullN (k * writeBuf) t).2 := by
  rw [(write_lossless_partial k t).1]

/-- a `write()` as the operating system can behave: −1, or between 0 and `count` -/
def WriteOk (wr : List Nat → Int) : Prop := ∀ b, -1 ≤ wr b ∧ wr b ≤ b.length

/-- The statement one wants: whatever `write()` does, the octets on the line followed by what can still
be pulled are the pull stream (nothing queued is lost). -/
def write_lossless_full : Prop :=
  ∀ (t : Tx) (wrs : List (List Nat → Int)), (∀ wr ∈ wrs, WriteOk wr) → ∀ N,
    (writeCalls t wrs).2 ++ (pullN N (writeCalls t wrs).1).2 = (pullN (wrs.length * writeBuf + N) t).2

/-- one message `41` on DLCI 5 waiting -/
def txOneMsg : Tx := { Tx.init nTxQueues with queues := (Tx.init nTxQueues).queues.modify 5 (· ++ [[5, hdlcCUi, 0x41]]) }

/-- `write()` takes two octets -/
def wrTwo : List Nat → Int := fun b => min 2 b.length

/-- **F23**: it fails.  One message, frame `7E 05 03 41 7E`; `write()` takes 2 of the 5 octets: the line
has `7E 05`, the transmitter is empty, `03 41 7E` are gone. -/
theorem write_lossless_full_fails : ¬ write_lossless_full := by
  intro h
  have := h txOneMsg [wrTwo] (by intro wr hwr b; simp only [List.mem_singleton] at hwr; subst hwr; simp only [wrTwo]; omega) 10
  revert this
  decide +kernel

/-- what the witness does on the line and in the transmitter -/
theorem short_write_witness :
    (sendmsg (Tx.init nTxQueues) 5 [0x41]).map (·.queues) = some txOneMsg.queues ∧
    (pullN 16 txOneMsg).2 = [0x7E, 0x05, 0x03, 0x41, 0x7E] ∧
    (handleSercommWrite txOneMsg wrTwo).offered = [0x7E, 0x05, 0x03, 0x41, 0x7E] ∧
    (handleSercommWrite txOneMsg wrTwo).line = [0x7E, 0x05] ∧
    (handleSercommWrite txOneMsg wrTwo).short = true ∧
    (handleSercommWrite (handleSercommWrite txOneMsg wrTwo).tx wrAll).offered = [] := by
  decide +kernel

/-- … and at the receiver: the truncated frame swallows the start of the next one.  A second message
`42` sent afterwards with complete writes arrives as `05 03 42` — one message lost, the next one
delivered with a wrong payload (the property demands identical payload, exactly once). -/
theorem short_write_corrupts_next :
    Sercomm.evDeliveries (feed ⟨rxMsgSizeTarget + allocSlack, nRxHandlers, fun d => d == 5⟩ Rx.init
      ([0x7E, 0x05] ++ [0x7E, 0x05, 0x03, 0x42, 0x7E])).2 = [(5, [0x05, 0x03, 0x42])] := by
  decide +kernel

/-! ## `hdlc_send_to_phone` -/

/-- **The exact bound** (`sendMax` = 512 in this tree). For `−2^31 ≤ len`: `len > 512` → the message is dropped (nothing allocated,
nothing queued, write not enabled); `0 ≤ len ≤ 512` (and that many octets in the caller's array, DLCI
inside the queue array) → queued without any msgb fault, as the abstract `sercomm_sendmsg` of
`data[0 .. len)`; `len < 0` → the `(int)` comparison in `msgb_put` lets it pass and the tail pointer
leaves the buffer (the callers in the tree pass a `uint16_t`).  Because `sercomm_alloc_msgb(512)` has
exactly 512 octets of tailroom plus 4 of headroom, the accepted bound is the allocation size itself,
not "512 minus headroom". -/
theorem hdlc_send_exact_bound {ct : CTx} {t : Tx} (hr : TxRel ct t) (dlci : Nat) (data : List Nat) (len : Int)
    (hlo : -2147483648 ≤ len) :
    (len > (sendMax : Int) → hdlcSendToPhone ct dlci data len = .tooMuch) ∧
    (len < 0 → hdlcSendToPhone ct dlci data len = .fault (.msgb .oob)) ∧
    (0 ≤ len → len ≤ (sendMax : Int) → len.toNat ≤ data.length → dlci < ct.queues.length →
      ∃ ct' t', hdlcSendToPhone ct dlci data len = .sent ct' ∧
        sendmsg t dlci (data.take len.toNat) = some t' ∧ TxRel ct' t') :=
by
  refine ⟨fun h => by simp [hdlcSendToPhone, h], fun h0 => ?_, fun h0 h1 hd hq => ?_⟩
  · -- converted to `unsigned int` a negative `len` is ≥ 2^31: `put_huge`
    have hn : ¬ len > (sendMax : Int) := by omega
    have hbig : ¬ (len % 4294967296).toNat < 2147483648 := by omega
    have hlt : (len % 4294967296).toNat < 4294967296 := by omega
    simp only [hdlcSendToPhone, hn, if_false, sercommAlloc_small sendAlloc_pos sendAlloc_le]
    rw [put_huge (scBuf_inv sendAlloc_le) hbig hlt]
  · obtain ⟨ct', t', a, b, c, -⟩ := hdlcSend_ok hr h0 h1 hd hq
    exact ⟨ct', t', a, b, c⟩

/-- What the bound does not tell: the firmware's receive buffer holds 256 octets, so a message of 256 to
512 octets is accepted by `hdlc_send_to_phone`, transmitted, and discarded by the receiver of the
target build (never delivered; from 257 on it also costs the frame that follows, `overlong_bounded`). -/
theorem hdlc_send_over_256_never_arrives_on_target (d : Nat) (p : List Nat)
    (ht : Spec.Sercomm.Transparent d) (hreg : Props.C06.cfgTarget.reg d = true) (hnh : d < Props.C06.cfgTarget.nh)
    (hl : Props.C06.cfgTarget.cap ≤ p.length) :
    Sercomm.evDeliveries (feed Props.C06.cfgTarget.toRxCfg Rx.init (Spec.Sercomm.frame ⟨d, p⟩)).2 = [] := by
  have h := (frame_outcome Props.C06.cfgTarget.toRxCfg (by decide) (by decide) (r0 := Rx.init) (ds := false) ⟨rfl, rfl⟩
    ⟨d, p⟩ ht hreg hnh).2
  rw [h]
  have : ¬ p.length < Props.C06.cfgTarget.cap := by omega
  simp [completeDelivers, this]

/-- osmocon's `hdlc_tool_cb` pushes a 2 octet length in front of a delivered buffer (`msgb_push(msg, 2)`):
the buffers `sercomm_drv_rx_char` hands to a handler always have the 4 octets of headroom for it. -/
theorem delivered_msgb_takes_push {size : Nat} {m : Msgb} (h : RxBuf size m) : ∃ m', pushBytes m [0, 0] = .ok m' :=
  ⟨_, pushBytes_fits h.inv (by rw [h.data]; decide)⟩

/-! ## the read side -/

/-- **The window is memory safe.** From a state in which `bufptr` points into `buffer[7]` (as after
start-up), `handle_buffer` reads into `buffer[bufptr .. bufptr + buf_left)` ⊆ `buffer[0 .. 7)`, and
`handle_read` leaves `bufptr` inside the window again — for every `read()` behaviour. -/
theorem window_memory_safe (c : Cfg) (h : Host) (fd : Fd) (ok : HostOk h) :
    (handleBuffer c h fd).1.oob = false ∧
    (handleBuffer c h fd).1.bufptr + ((handleBuffer c h fd).2.2).toNat ≤ window ∧
    HostOk (handleRead c h fd).1 ∧ HostOk (Host.init nTxQueues) :=
  ⟨(handleBuffer_ok c fd ok).2.1, (handleBuffer_ok c fd ok).2.2, handleRead_ok c fd ok,
   ⟨by decide, by decide, rfl⟩⟩

/-- frames of the link contain no zero octet (flags are 0x7E, everything between them is escaped) -/
theorem frames_zero_free (ms : List Spec.Sercomm.Msg) : ZeroFree (ms.flatMap Spec.Sercomm.frame) := by
  intro x hx
  simp only [List.mem_flatMap] at hx
  obtain ⟨m, _, hm⟩ := hx
  simp only [Spec.Sercomm.frame, List.mem_cons, List.mem_append, List.not_mem_nil, or_false] at hm
  rcases hm with (rfl | hm) | rfl
  · decide
  · exact (esc_clean _ x hm).2
  · decide

/-- **The read loop feeds every octet, once, in order.** In HDLC mode, with no zero octet in the window
and none in the readable stream (e.g. any sequence of frames, `frames_zero_free`), `serial_read` passes
every readable octet to `sercomm_drv_rx_char` exactly once and in order — independent of how `read()`
chunks them and of the sliding of the window —, ends on `EAGAIN` (`exit(2)` exactly on end of file),
stays in HDLC mode and keeps the window intact.  An octet for which `sercomm_drv_rx_char` returns 0
(receive buffer full) is reported and NOT retried: that is the overflow behaviour `overlong_bounded`
accounts for. -/
theorem read_loop_feeds_everything (c : Cfg) (h : Host) (fd : Fd) (ok : HostOk h) (hz : ZeroFree h.buffer)
    (hs : ZeroFree fd.avail) (he : h.expectHdlc = true) :
    (serialRead c h fd).1.w = fd.avail.foldl (World.rxOctet c) h.w ∧
    (serialRead c h fd).2.1.avail = [] ∧ (serialRead c h fd).2.2 = fd.eof ∧
    HostOk (serialRead c h fd).1 ∧ (serialRead c h fd).1.expectHdlc = true := by
  obtain ⟨j1, j2, j3, j4⟩ := readLoop_feeds c (fd.avail.length + 1) h fd ⟨ok, hz, he⟩ hs (Nat.lt_succ_self _)
  simp only [serialRead]
  refine ⟨j1, j2, ?_, j4.ok, j4.hdlc⟩
  rw [j3]
  cases fd.eof <;> rfl

/-- … which is the abstract `rx` operation of a history (`World.step c w (.rx octets)`). -/
theorem read_loop_is_rx_op (c : Cfg) (h : Host) (fd : Fd) (ok : HostOk h) (hz : ZeroFree h.buffer)
    (hs : ZeroFree fd.avail) (he : h.expectHdlc = true) :
    (serialRead c h fd).1.w = World.step c h.w (.rx fd.avail) :=
  (read_loop_feeds_everything c h fd ok hz hs he).1

/-- what happens without the zero-freeness: the octets of `phone_prompt1` in the stream switch HDLC
mode off, and what follows is not fed to the receiver (the phone has rebooted into its loader) -/
theorem prompt1_leaves_hdlc :
    let c := (HandlerTab.init nRxHandlers).cfg (rxMsgSizeHost + allocSlack)
    let h0 : Host := { Host.init nTxQueues with expectHdlc := true }
    (serialRead c h0 ⟨phonePrompt1 ++ [0x7E, 0x05, 0x03, 0x41, 0x7E], 0, false⟩).1.expectHdlc = false := by
  decide +kernel

/-! ### non-vacuity -/

example : WriteOk wrAll ∧ WriteOk wrTwo := by
  refine ⟨fun b => ?_, fun b => ?_⟩ <;> simp only [wrAll, wrTwo] <;> omega
example : (writeCalls txOneMsg [wrAll]).2 = [0x7E, 0x05, 0x03, 0x41, 0x7E] := by decide +kernel
example : TxRel (CWorld.init nTxQueues).tx (World.init nTxQueues).tx := (init_rel 0 nTxQueues).tx
example : ∃ ct, hdlcSendToPhone (CWorld.init nTxQueues).tx 5 [1, 2, 3] 3 = .sent ct := by
  obtain ⟨ct, _, h, _⟩ := hdlcSend_ok (init_rel 0 nTxQueues).tx (dlci := 5) (data := [1, 2, 3]) (len := 3)
    (by decide) (by decide) (by decide) (by simp [CWorld.init, CTx.init, nTxQueues])
  exact ⟨ct, h⟩
example : ZeroFree (Host.init nTxQueues |>.buffer) → False := by
  intro h; exact h 0 (by decide) rfl
/-- a window that has seen seven octets of frames, HDLC mode on: the hypotheses of `read_loop_feeds_everything` -/
example : let h : Host := { Host.init nTxQueues with buffer := [0x7E, 5, 3, 0x41, 0x7E, 0x7E, 5], bufptr := 7, expectHdlc := true }
    HostOk h ∧ ZeroFree h.buffer ∧ ZeroFree (Spec.Sercomm.frame ⟨5, [0x00, 0x7E]⟩) :=
  ⟨⟨by decide, by decide, rfl⟩, by decide, by decide⟩

end OsmoVerif.Props.C06Osmocon
