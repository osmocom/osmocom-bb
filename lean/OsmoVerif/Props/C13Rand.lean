/-
C13 / C01, part "rand" — the message generators of data_msg.py (`rand_fn`, `rand_tn`, `rand_hdr`, `rand_pwr`,
`rand_rssi`, `rand_toa256`, `rand_burst`) produce only valid messages.  Property theorems only.
Model: `OsmoVerif.Model.TrxdRand` (generators as functions of the random source), lemmas: `OsmoVerif.Lemmas.TrxdRand`;
validity is `OsmoVerif.Model.Trxd`'s `validate`, characterised by `Props.C13.validate_*_iff` as the literal protocol
ranges of `Spec/TrxdRanges`; the round trip is `Props.C01.tx_roundtrip / rx_roundtrip`.

Quantifier: EVERY stream of answers of the random source (`_randbelow`) that respects the ranges the code asks for
(`Yields`: the run ends normally and every logged call (n, k) has k < n, i.e. randint(a, b) ∈ [a, b], choice index in
range).  The sizes `n` in the run equations are literals, so a changed bound in the tree breaks a proof.
-/
import OsmoVerif.Lemmas.TrxdRand
import OsmoVerif.Props.C13
import OsmoVerif.Props.C01

namespace OsmoVerif.Props.C13Rand
open OsmoVerif OsmoVerif.Trxd OsmoVerif.TrxdRand OsmoVerif.Spec.TrxdRanges

/-! ### what `rand_hdr` assigns, from which draw, and what it leaves -/

/-- `TxMsg.rand_hdr()` takes three answers: fn (of 2715648 values), tn (of 8), pwr (of 256); `ver` and `burst` stay. -/
theorem rand_hdr_sets_tx (m : TxMsg) (k1 k2 k3 : Nat) (rest : List Nat) :
    m.randHdr (Src.start (k1 :: k2 :: k3 :: rest))
      = (.ok { m with fn := some (k1 : Int), tn := some (k2 : Int), pwr := some (k3 : Int) },
         ⟨rest, [⟨2715648, k1⟩, ⟨8, k2⟩, ⟨256, k3⟩]⟩)  :=
  (TxMsg.randHdr_ok_iff ..).mpr ⟨k1, k2, k3, rfl, took_start rfl⟩

/-- `RxMsg.rand_hdr()` below header version 1 takes four answers: fn, tn, rssi = -120 + k (of 74), toa256 = -32768 + k
(of 65536); `ver`, `mod_type`, `nope_ind`, `tsc_set`, `tsc`, `ci`, `burst` stay. -/
theorem rand_hdr_sets_rx_v0 (m : RxMsg) (hv : m.ver < 1) (k1 k2 k3 k4 : Nat) (rest : List Nat) :
    m.randHdr (Src.start (k1 :: k2 :: k3 :: k4 :: rest))
      = (.ok { m with fn := some (k1 : Int), tn := some (k2 : Int), rssi := some (-120 + (k3 : Int)),
                      toa256 := some (-32768 + (k4 : Int)) },
         ⟨rest, [⟨2715648, k1⟩, ⟨8, k2⟩, ⟨74, k3⟩, ⟨65536, k4⟩]⟩)  :=
  (RxMsg.randHdr_v0_ok_iff (by omega)).mpr ⟨k1, k2, k3, k4, rfl, took_start rfl⟩

/-- `RxMsg.rand_hdr()` from header version 1 on takes eight answers: fn, tn, rssi, toa256, the modulation (member
number k of the 6), the TSC set (of 4 for GMSK, of 2 otherwise), the TSC (of 8), ci = -1280 + k (of 2561); `ver`,
`nope_ind` and `burst` stay. -/
theorem rand_hdr_sets_rx_v1 (m : RxMsg) (hv : m.ver ≥ 1) (k1 k2 k3 k4 k5 k6 k7 k8 : Nat) (h5 : k5 < 6) (h7 : k7 < 8)
    (rest : List Nat) :
    m.randHdr (Src.start (k1 :: k2 :: k3 :: k4 :: k5 :: k6 :: k7 :: k8 :: rest))
      = (.ok { m with fn := some (k1 : Int), tn := some (k2 : Int), rssi := some (-120 + (k3 : Int)),
                      toa256 := some (-32768 + (k4 : Int)), modType := some ⟨k5, h5⟩, tscSet := some (k6 : Int),
                      tsc := some (k7 : Int), ci := some (-1280 + (k8 : Int)) },
         ⟨rest, [⟨2715648, k1⟩, ⟨8, k2⟩, ⟨74, k3⟩, ⟨65536, k4⟩, ⟨6, k5⟩,
                 ⟨if (⟨k5, h5⟩ : Modulation) = Modulation.gmsk then 4 else 2, k6⟩, ⟨8, k7⟩, ⟨2561, k8⟩]⟩)  :=
  (RxMsg.randHdr_v1_ok_iff hv).mpr ⟨k1, k2, k3, k4, ⟨k5, h5⟩, k6, k7, k8, h7, rfl, took_start rfl⟩

/-- whatever the stream: `rand_hdr` never changes `ver` or `burst` of a Tx message -/
theorem rand_hdr_leaves_tx (m m' : TxMsg) (s s' : Src) (h : m.randHdr s = (.ok m', s')) :
    m'.ver = m.ver ∧ m'.burst = m.burst  := by
  obtain ⟨k1, k2, k3, rfl, -⟩ := (TxMsg.randHdr_ok_iff ..).mp h
  exact ⟨rfl, rfl⟩

/-- whatever the stream: `rand_hdr` never changes `ver`, `nope_ind` or `burst` of an Rx message, and below
version 1 it leaves `mod_type`, `tsc_set`, `tsc`, `ci` as well -/
theorem rand_hdr_leaves_rx (m m' : RxMsg) (s s' : Src) (h : m.randHdr s = (.ok m', s')) :
    m'.ver = m.ver ∧ m'.nopeInd = m.nopeInd ∧ m'.burst = m.burst ∧
    (m.ver < 1 → m'.modType = m.modType ∧ m'.tscSet = m.tscSet ∧ m'.tsc = m.tsc ∧ m'.ci = m.ci)  := by
  by_cases hv : m.ver ≥ 1
  · obtain ⟨k1, k2, k3, k4, mod, k6, k7, k8, -, rfl, -⟩ := (RxMsg.randHdr_v1_ok_iff hv).mp h
    exact ⟨rfl, rfl, rfl, fun h => by omega⟩
  · obtain ⟨k1, k2, k3, k4, rfl, -⟩ := (RxMsg.randHdr_v0_ok_iff hv).mp h
    exact ⟨rfl, rfl, rfl, fun _ => ⟨rfl, rfl, rfl, rfl⟩⟩

/-! ### validity (`validate() = ok`) of what the generators leave in the object -/

/-- After `TxMsg.rand_hdr()` the message validates iff the header version set before is a known one and the burst
left in the object has 148 or 444 bits (`rand_hdr` touches neither). -/
theorem rand_hdr_valid_tx (m m' : TxMsg) (stream : List Nat) (h : Yields m.randHdr stream m') :
    m'.validate = .ok () ↔ knownVersion m.ver ∧ burstLen148or444 m.burst    := by
  obtain ⟨s', hr, hc⟩ := h
  obtain ⟨k1, k2, k3, rfl, t⟩ := (TxMsg.randHdr_ok_iff ..).mp hr
  rw [C13.validate_tx_iff, inRange_hdr_tx (t.start.2.mp hc)]

/-- After `msg.rand_hdr(); msg.rand_burst(length)` a Tx message validates iff the version is known and the length
is 148 or 444 (any other length - 0, a negative one, 296 - gives a message `validate()` refuses). -/
theorem rand_msg_valid_tx (m m' : TxMsg) (len : Int) (stream : List Nat) (h : Yields (m.randMsg len) stream m') :
    m'.validate = .ok () ↔ knownVersion m.ver ∧ (len = 148 ∨ len = 444)     := by
  obtain ⟨s', hr, hc⟩ := h
  obtain ⟨k1, k2, k3, ks, hlen, -, rfl, t⟩ := (TxMsg.randMsg_ok_iff ..).mp hr
  have e : (len.toNat = 148 ∨ len.toNat = 444) ↔ (len = 148 ∨ len = 444) := by omega
  rw [C13.validate_tx_iff, inRange_hdr_tx (List.forall_mem_append.mp (t.start.2.mp hc)).1,
    burstLen148or444, hlen, e]

/-- With the default length (`rand_burst()`: `GMSK_BURST_LEN`) the message validates iff the version is known. -/
theorem rand_msg_default_valid_tx (m m' : TxMsg) (stream : List Nat)
    (h : Yields (m.randMsg txBurstDefault) stream m') : m'.validate = .ok () ↔ knownVersion m.ver := by
  rw [rand_msg_valid_tx m m' _ stream h]
  exact ⟨fun h => h.1, fun h => ⟨h, Or.inl (by decide)⟩⟩

/-- The order of test_data_msg.test_rand_hdr_burst (`rand_burst(); rand_hdr()`) gives the same for a Tx message. -/
theorem rand_burst_then_hdr_valid_tx (m m' : TxMsg) (stream : List Nat)
    (h : Yields (m.randOps [.burst none, .hdr]) stream m') : m'.validate = .ok () ↔ knownVersion m.ver    := by
  obtain ⟨s', hr, hc⟩ := h
  obtain ⟨ks, k1, k2, k3, hlen, rfl, t⟩ := TxMsg.burstHdr_ok hr
  rw [C13.validate_tx_iff, inRange_hdr_tx (List.forall_mem_append.mp (t.start.2.mp hc)).2,
    burstLen148or444, hlen]
  exact and_iff_left (Or.inl rfl)

/-- After `RxMsg.rand_hdr()` alone the message validates iff the version set before is known and what `rand_hdr`
leaves untouched fits: version 0 - the burst in the object has 148 or 444 soft bits; version 1 - a NOPE object
(`nope_ind` set) has no burst, any other has a burst of the length of the modulation just drawn. -/
theorem rand_hdr_valid_rx (m m' : RxMsg) (stream : List Nat) (h : Yields m.randHdr stream m') :
    m'.validate = .ok () ↔ knownVersion m.ver ∧ (m.ver = 0 → burstLen148or444 m.burst) ∧
      (m.ver = 1 → if m.nopeInd then m.burst = none
                   else ∃ mod, m'.modType = some mod ∧ burstLenOfMod mod.coding m.burst)   := by
  rw [C13.validate_rx_iff]
  obtain ⟨s', hr, hc⟩ := h
  by_cases hv : m.ver ≥ 1
  · obtain ⟨k1, k2, k3, k4, mod, k6, k7, k8, h7, rfl, t⟩ := (RxMsg.randHdr_v1_ok_iff hv).mp hr
    have hn0 : ¬ m.ver = 0 := by omega
    rw [inRange_hdr_v1 hv (t.start.2.mp hc)]
    simp only [hn0, false_imp_iff, true_and, Option.some.injEq, exists_eq_left']
  · obtain ⟨k1, k2, k3, k4, rfl, t⟩ := (RxMsg.randHdr_v0_ok_iff hv).mp hr
    have hn1 : ¬ m.ver = 1 := by omega
    rw [inRange_hdr_v0 hv (t.start.2.mp hc)]
    simp only [hn1, false_imp_iff, and_true]

/-- After `msg.rand_hdr(); msg.rand_burst(length)` (length given or not) an Rx message validates iff the version set
before is known and: version 0 - the length used (the argument, or the length of the modulation LEFT in the object:
`rand_hdr` draws none below version 1) is 148 or 444; version 1 - the object is not a NOPE object (`rand_hdr` does
not reset `nope_ind`), and a length given explicitly is the length of the modulation just drawn. -/
theorem rand_msg_valid_rx (m m' : RxMsg) (length : Option Int) (stream : List Nat)
    (h : Yields (m.randMsg length) stream m') :
    m'.validate = .ok () ↔ knownVersion m.ver ∧
      (m.ver = 0 → ∃ L, rxLen m length = some L ∧ (L = 148 ∨ L = 444)) ∧
      (m.ver = 1 → m.nopeInd = false ∧
        ∀ l, length = some l → ∃ mod, m'.modType = some mod ∧ l = (mod.bl : Int))   := by
  rw [C13.validate_rx_iff]
  obtain ⟨s', hr, hc⟩ := h
  by_cases hv : m.ver ≥ 1
  · obtain ⟨k1, k2, k3, k4, mod, k6, k7, k8, ks, h7, hlen, -, rfl, t⟩ :=
      (RxMsg.randMsg_v1_ok_iff hv).mp hr
    have hn0 : ¬ m.ver = 0 := by omega
    have hbl : mod.bl = (lenAfter mod length).toNat ↔ ∀ l, length = some l → l = (mod.bl : Int) := by
      have hpos := bl_pos mod
      cases length with
      | none => simp only [lenAfter, Int.toNat_natCast, reduceCtorEq, false_imp_iff, implies_true]
      | some l => simp only [lenAfter, Option.some.injEq, forall_eq']; omega
    rw [inRange_hdr_v1 hv (List.forall_mem_append.mp (t.start.2.mp hc)).1]
    simp only [hn0, false_imp_iff, true_and, Option.some.injEq, exists_eq_left', burstLenOfMod, modLen_coding,
      List.length_map, hlen, reduceCtorEq, hbl]
    cases m.nopeInd <;>
      simp only [Bool.false_eq_true, Bool.true_eq_false, if_true, if_false, true_and, false_and, imp_false]
  · obtain ⟨k1, k2, k3, k4, L, ks, hL, hlen, -, rfl, t⟩ := (RxMsg.randMsg_v0_ok_iff hv).mp hr
    have hn1 : ¬ m.ver = 1 := by omega
    have e : (L.toNat = 148 ∨ L.toNat = 444) ↔ (L = 148 ∨ L = 444) := by omega
    rw [inRange_hdr_v0 hv (List.forall_mem_append.mp (t.start.2.mp hc)).1]
    simp only [hn1, false_imp_iff, and_true, burstLen148or444, List.length_map, hlen, hL, Option.some.injEq,
      exists_eq_left', e]

/-- `msg.rand_hdr(); msg.rand_burst()` - the call sequence of the toolkit's tests - validates iff the version is
known, and: version 0 - the modulation left in the object (ModGMSK in a fresh `RxMsg()`) has length 148 or 444;
version 1 - the object is not a NOPE object. -/
theorem rand_msg_default_valid_rx (m m' : RxMsg) (stream : List Nat) (h : Yields (m.randMsg none) stream m') :
    m'.validate = .ok () ↔ knownVersion m.ver ∧
      (m.ver = 0 → ∃ mod, m.modType = some mod ∧ (mod.bl = 148 ∨ mod.bl = 444)) ∧
      (m.ver = 1 → m.nopeInd = false) := by
  rw [rand_msg_valid_rx m m' none stream h]
  simp only [reduceCtorEq, false_imp_iff, implies_true, and_true, rxLen]
  refine and_congr_right fun _ => and_congr_left fun _ => imp_congr_right fun _ => ?_
  cases m.modType with
  | none => simp only [Option.map_none, reduceCtorEq, false_and, exists_false]
  | some mod =>
    simp only [Option.map_some, Option.some.injEq, exists_eq_left']
    omega

/-- The order of test_data_msg.test_rand_hdr_burst (`rand_burst(); rand_hdr()`) on an Rx message: the burst gets
the length of the modulation left in the object, THEN the header is drawn.  Version 0: valid iff that length is 148
or 444 (the test's fresh `RxMsg()`: ModGMSK).  Version 1: valid only if moreover the modulation drawn afterwards
happens to have the burst's length (and the object is not a NOPE object) - this order is not usable from version 1. -/
theorem rand_burst_then_hdr_valid_rx (m m' : RxMsg) (stream : List Nat)
    (h : Yields (m.randOps [.burst none, .hdr]) stream m') :
    m'.validate = .ok () ↔ knownVersion m.ver ∧ ∃ mod0, m.modType = some mod0 ∧
      (m.ver = 0 → mod0.bl = 148 ∨ mod0.bl = 444) ∧
      (m.ver = 1 → m.nopeInd = false ∧ ∃ mod, m'.modType = some mod ∧ mod.bl = mod0.bl)   := by
  rw [C13.validate_rx_iff]
  obtain ⟨s', hr, hc⟩ := h
  by_cases hv : m.ver ≥ 1
  · obtain ⟨mod0, ks, k1, k2, k3, k4, mod, k6, k7, k8, hm0, hlen, h7, rfl, t⟩ :=
      RxMsg.burstHdr_v1_ok hv hr
    have hn0 : ¬ m.ver = 0 := by omega
    rw [inRange_hdr_v1 hv (List.forall_mem_append.mp (t.start.2.mp hc)).2]
    simp only [hn0, false_imp_iff, true_and, Option.some.injEq, exists_eq_left', burstLenOfMod, modLen_coding,
      List.length_map, hlen, reduceCtorEq, hm0]
    cases m.nopeInd <;> simp
  · obtain ⟨mod0, ks, k1, k2, k3, k4, hm0, hlen, rfl, t⟩ := RxMsg.burstHdr_v0_ok hv hr
    have hn1 : ¬ m.ver = 1 := by omega
    rw [inRange_hdr_v0 hv (List.forall_mem_append.mp (t.start.2.mp hc)).2]
    simp only [hn1, false_imp_iff, and_true, burstLen148or444, List.length_map, hlen, hm0, Option.some.injEq,
      exists_eq_left']

/-! ### each `rand_*` value lies in, and covers, its protocol range -/

/-- `rand_fn()` returns, over the conforming answers, exactly the frame numbers 0..2715647 (not 2715648, the
value finding F2 is about). -/
theorem rand_ranges_fn (v : Int) : (∃ stream, Yields randFn stream v) ↔ within 0 2715647 (some v) := by
  unfold randFn
  rw [randint_values]
  rfl

theorem rand_ranges_tn (v : Int) : (∃ stream, Yields randTn stream v) ↔ within 0 7 (some v) := by
  unfold randTn
  rw [randint_values]
  rfl

/-- `rand_pwr()`, `rand_rssi()`, `rand_toa256()` without arguments: exactly the protocol range -/
theorem rand_ranges_pwr (v : Int) : (∃ stream, Yields (randPwr none none) stream v) ↔ within 0 255 (some v) := by
  unfold randPwr
  rw [randint_values]
  rfl

theorem rand_ranges_rssi (v : Int) : (∃ stream, Yields (randRssi none none) stream v) ↔ within (-120) (-47) (some v) := by
  unfold randRssi
  rw [randint_values]
  rfl

theorem rand_ranges_toa256 (v : Int) :
    (∃ stream, Yields (randToa256 none none) stream v) ↔ within (-32768) 32767 (some v) := by
  unfold randToa256
  rw [randint_values]
  rfl

/-- `min` / `max` given: the bounds are taken as they are (no clamping to the protocol range, no swap) -/
theorem rand_ranges_pwr_args (min max : Option Int) (v : Int) :
    (∃ stream, Yields (randPwr min max) stream v) ↔ argOr min 0 ≤ v ∧ v ≤ argOr max 255 := by
  unfold randPwr
  rw [randint_values]
  rfl

theorem rand_ranges_rssi_args (min max : Option Int) (v : Int) :
    (∃ stream, Yields (randRssi min max) stream v) ↔ argOr min (-120) ≤ v ∧ v ≤ argOr max (-47) := by
  unfold randRssi
  rw [randint_values]
  rfl

theorem rand_ranges_toa256_args (min max : Option Int) (v : Int) :
    (∃ stream, Yields (randToa256 min max) stream v) ↔ argOr min (-32768) ≤ v ∧ v ≤ argOr max 32767 := by
  unfold randToa256
  rw [randint_values]
  rfl

/-- ... and bounds in the wrong order raise ValueError before anything is drawn -/
theorem rand_args_reversed (min max : Option Int) (s : Src) :
    (argOr max 255 < argOr min 0 → randPwr min max s = (.fail .valueError, s)) ∧
    (argOr max (-47) < argOr min (-120) → randRssi min max s = (.fail .valueError, s)) ∧
    (argOr max 32767 < argOr min (-32768) → randToa256 min max s = (.fail .valueError, s)) :=
  ⟨fun h => randint_empty _ _ h s, fun h => randint_empty _ _ h s, fun h => randint_empty _ _ h s⟩

/-- so with arguments the value stays inside the protocol range, for every conforming stream, exactly when the
given window does (or is empty) -/
theorem rand_rssi_args_in_range_iff (min max : Option Int) :
    (∀ stream v, Yields (randRssi min max) stream v → within (-120) (-47) (some v)) ↔
      (argOr max (-47) < argOr min (-120) ∨ (-120 ≤ argOr min (-120) ∧ argOr max (-47) ≤ -47)) := by
  constructor
  · intro h
    by_cases hr : argOr max (-47) < argOr min (-120)
    · exact Or.inl hr
    · refine Or.inr ⟨?_, ?_⟩
      · obtain ⟨st, hy⟩ := (rand_ranges_rssi_args min max (argOr min (-120))).mpr ⟨by omega, by omega⟩
        have := h st _ hy
        simp only [within] at this
        exact this.1
      · obtain ⟨st, hy⟩ := (rand_ranges_rssi_args min max (argOr max (-47))).mpr ⟨by omega, by omega⟩
        have := h st _ hy
        simp only [within] at this
        exact this.2
  · intro h stream v hy
    have := (rand_ranges_rssi_args min max v).mp ⟨stream, hy⟩
    simp only [within]
    omega

/-! ### the whole product of header values is reachable (`rand_hdr` covers C01's quantifier) -/

/-- every in-range (fn, tn, pwr) is what `TxMsg.rand_hdr()` leaves for some conforming stream -/
theorem rand_hdr_onto_tx (m : TxMsg) (fn tn pwr : Int) (hfn : 0 ≤ fn ∧ fn ≤ 2715647) (htn : 0 ≤ tn ∧ tn ≤ 7)
    (hp : 0 ≤ pwr ∧ pwr ≤ 255) :
    ∃ stream, Yields m.randHdr stream { m with fn := some fn, tn := some tn, pwr := some pwr }   := by
  obtain ⟨e1, b1⟩ := draw_of_val 0 2715647 fn hfn 2715648 rfl
  obtain ⟨e2, b2⟩ := draw_of_val 0 7 tn htn 8 rfl
  obtain ⟨e3, b3⟩ := draw_of_val 0 255 pwr hp 256 rfl
  rw [Int.zero_add] at e1 e2 e3
  have t : Took (Src.start [(fn - 0).toNat, (tn - 0).toNat, (pwr - 0).toNat])
      [⟨2715648, (fn - 0).toNat⟩, ⟨8, (tn - 0).toNat⟩, ⟨256, (pwr - 0).toNat⟩] _ := took_start rfl
  refine ⟨_, _, (TxMsg.randHdr_ok_iff ..).mpr ⟨_, _, _, by rw [e1, e2, e3], t⟩, t.start.2.mpr ?_⟩
  simp only [List.forall_mem_cons, Draw.Ok]
  exact ⟨b1, b2, b3, fun _ h => nomatch h⟩

/-- every in-range (fn, tn, rssi, toa256, modulation, TSC set allowed for it, TSC, C/I) is what `RxMsg.rand_hdr()`
leaves for some conforming stream (header version 1); in particular ModGMSK_AB with TSC set 1 (finding F11a of C17) -/
theorem rand_hdr_onto_rx_v1 (m : RxMsg) (hv : m.ver ≥ 1) (fn tn rssi toa set tsc ci : Int) (mod : Modulation)
    (hfn : 0 ≤ fn ∧ fn ≤ 2715647) (htn : 0 ≤ tn ∧ tn ≤ 7) (hr : -120 ≤ rssi ∧ rssi ≤ -47)
    (ht : -32768 ≤ toa ∧ toa ≤ 32767) (hset : 0 ≤ set ∧ set ≤ (if mod.coding = 0 then 3 else 1))
    (htsc : 0 ≤ tsc ∧ tsc ≤ 7) (hci : -1280 ≤ ci ∧ ci ≤ 1280) :
    ∃ stream, Yields m.randHdr stream
      { m with fn := some fn, tn := some tn, rssi := some rssi, toa256 := some toa, modType := some mod,
               tscSet := some set, tsc := some tsc, ci := some ci }   := by
  obtain ⟨e1, b1⟩ := draw_of_val 0 2715647 fn hfn 2715648 rfl
  obtain ⟨e2, b2⟩ := draw_of_val 0 7 tn htn 8 rfl
  obtain ⟨e3, b3⟩ := draw_of_val (-120) (-47) rssi hr 74 rfl
  obtain ⟨e4, b4⟩ := draw_of_val (-32768) 32767 toa ht 65536 rfl
  obtain ⟨e6, b6⟩ : 0 + (((set - 0).toNat : Nat) : Int) = set ∧
      (set - 0).toNat < (if mod = Modulation.gmsk then 4 else 2) := by
    by_cases hg : mod = Modulation.gmsk
    · rw [if_pos hg]; rw [if_pos ((gmsk_iff_coding _).mp hg)] at hset; exact draw_of_val 0 3 set hset 4 rfl
    · rw [if_neg hg]; rw [if_neg (fun hc => hg ((gmsk_iff_coding _).mpr hc))] at hset
      exact draw_of_val 0 1 set hset 2 rfl
  obtain ⟨e7, b7⟩ := draw_of_val 0 7 tsc htsc 8 rfl
  obtain ⟨e8, b8⟩ := draw_of_val (-1280) 1280 ci hci 2561 rfl
  rw [Int.zero_add] at e1 e2 e6 e7
  have t : Took (Src.start [(fn - 0).toNat, (tn - 0).toNat, (rssi - -120).toNat, (toa - -32768).toNat, mod.val,
        (set - 0).toNat, (tsc - 0).toNat, (ci - -1280).toNat])
      [⟨2715648, (fn - 0).toNat⟩, ⟨8, (tn - 0).toNat⟩, ⟨74, (rssi - -120).toNat⟩, ⟨65536, (toa - -32768).toNat⟩,
       ⟨6, mod.val⟩, ⟨if mod = Modulation.gmsk then 4 else 2, (set - 0).toNat⟩, ⟨8, (tsc - 0).toNat⟩,
       ⟨2561, (ci - -1280).toNat⟩] _ := took_start rfl
  refine ⟨_, _, (RxMsg.randHdr_v1_ok_iff hv).mpr
    ⟨_, _, _, _, mod, _, _, _, b7, by rw [e1, e2, e3, e4, e6, e7, e8], t⟩, t.start.2.mpr ?_⟩
  simp only [List.forall_mem_cons, Draw.Ok]
  exact ⟨b1, b2, b3, b4, mod.isLt, b6, b7, b8, fun _ h => nomatch h⟩

/-! ### the bursts -/

/-- `TxMsg.rand_burst(length)`: `max(length, 0)` hard bits, each 0 or 1 -/
theorem rand_bits_tx (m m' : TxMsg) (len : Int) (stream : List Nat) (h : Yields (m.randBurst len) stream m') :
    ∃ b, m'.burst = some b ∧ b.length = len.toNat ∧ ∀ x ∈ b, x = 0 ∨ x = 1  := by
  obtain ⟨s', hr, hc⟩ := h
  obtain ⟨ks, hlen, -, rfl, t⟩ := (TxMsg.randBurst_ok_iff ..).mp hr
  have hks := ok_of_mem_map.mp (t.start.2.mp hc)
  exact ⟨ks, rfl, hlen, fun x hx => by have := hks x hx; omega⟩

/-- `RxMsg.rand_burst(length)`: soft bits in -127..127 (never -128: the domain of C01's quantifier), as many as the
argument says, or as the modulation in the object has; without either: AttributeError -/
theorem rand_soft_rx (m m' : RxMsg) (length : Option Int) (stream : List Nat)
    (h : Yields (m.randBurst length) stream m') :
    C01.SoftRange m' ∧ ∃ L b, rxLen m length = some L ∧ m'.burst = some b ∧ b.length = L.toNat  := by
  obtain ⟨s', hr, hc⟩ := h
  obtain ⟨L, ks, hL, hlen, hks, rfl, -⟩ := (RxMsg.randBurst_ok_iff ..).mp hr
  refine ⟨?_, L, _, hL, rfl, by rw [List.length_map]; exact hlen⟩
  intro b hb s hs
  cases hb
  obtain ⟨k, hk, rfl⟩ := List.mem_map.mp hs
  have := hks k hk
  omega

theorem rand_burst_no_modulation (m : RxMsg) (hm : m.modType = none) (s : Src) :
    m.randBurst none s = (.fail .attributeError, s) := by
  simp only [RxMsg.randBurst, bind_run, RxMsg.burstLength, hm, raise_run]

/-! ### the generated messages lie in C01's quantifier and survive gen_msg / parse_msg -/

/-- what `msg.rand_hdr(); msg.rand_burst(length)` builds has soft bits in -127..127, whatever the prior state -/
theorem rand_msg_soft_rx (m m' : RxMsg) (length : Option Int) (stream : List Nat)
    (h : Yields (m.randMsg length) stream m') : C01.SoftRange m'  := by
  obtain ⟨s', hr, -⟩ := h
  -- the burst is what `rand_burst` leaves, whatever `rand_hdr` did before
  simp only [RxMsg.randMsg, TrxdRand.bind_ok_iff, RxMsg.randBurst_ok_iff] at hr
  obtain ⟨mh, s1, -, L, ks, -, -, hks, rfl, -⟩ := hr
  intro b hb s hs
  cases hb
  obtain ⟨k, hk, rfl⟩ := List.mem_map.mp hs
  have := hks k hk
  omega

/-- A Tx message built by `rand_hdr(); rand_burst(148 | 444)` on an object of a known version is one of the
messages C01 quantifies over ... -/
theorem rand_in_c01_quantifier_tx (m m' : TxMsg) (len : Int) (stream : List Nat)
    (h : Yields (m.randMsg len) stream m') (hv : knownVersion m.ver) (hl : len = 148 ∨ len = 444) :
    C01.TxValid m' := (rand_msg_valid_tx m m' len stream h).mpr ⟨hv, hl⟩

/-- ... and therefore decodes from its own encoding to itself (corollary of `C01.tx_roundtrip`). -/
theorem rand_roundtrip_tx (m m' : TxMsg) (len : Int) (stream : List Nat) (h : Yields (m.randMsg len) stream m')
    (hv : knownVersion m.ver) (hl : len = 148 ∨ len = 444) (legacy : Bool) :
    (m'.genMsg legacy >>= TxMsg.parseMsg) = .ok m' :=
  C01.tx_roundtrip m' legacy (rand_in_c01_quantifier_tx m m' len stream h hv hl)

/-- An Rx message built by `rand_hdr(); rand_burst()` on an object of a known version (version 0: the modulation
left in the object has length 148 or 444 - true of a fresh `RxMsg()`; version 1: not a NOPE object) is one of the
messages C01 quantifies over: valid, soft bits in -127..127 ... -/
theorem rand_in_c01_quantifier_rx (m m' : RxMsg) (stream : List Nat) (h : Yields (m.randMsg none) stream m')
    (hv : knownVersion m.ver) (h0 : m.ver = 0 → ∃ mod, m.modType = some mod ∧ (mod.bl = 148 ∨ mod.bl = 444))
    (h1 : m.ver = 1 → m.nopeInd = false) :
    C01.RxValid m' ∧ C01.SoftRange m' :=
  ⟨(rand_msg_default_valid_rx m m' stream h).mpr ⟨hv, h0, h1⟩, rand_msg_soft_rx m m' none stream h⟩

/-- ... and therefore decodes from its own encoding to a message equal in every field its header version
transports (corollary of `C01.rx_roundtrip`).  The generators of the test-suite never leave C01's quantifier. -/
theorem rand_roundtrip_rx (m m' : RxMsg) (stream : List Nat) (h : Yields (m.randMsg none) stream m')
    (hv : knownVersion m.ver) (h0 : m.ver = 0 → ∃ mod, m.modType = some mod ∧ (mod.bl = 148 ∨ mod.bl = 444))
    (h1 : m.ver = 1 → m.nopeInd = false) (legacy : Bool) :
    (m'.genMsg legacy >>= RxMsg.parseMsg) = .ok (C01.carried m') :=
  C01.rx_roundtrip m' legacy (rand_in_c01_quantifier_rx m m' stream h hv h0 h1).1
    (rand_in_c01_quantifier_rx m m' stream h hv h0 h1).2

/-- More generally: whatever the prior state and the length argument, a generated Rx message that validates
round-trips (its soft bits are always in -127..127). -/
theorem rand_valid_roundtrip_rx (m m' : RxMsg) (length : Option Int) (stream : List Nat)
    (h : Yields (m.randMsg length) stream m') (hval : m'.validate = .ok ()) (legacy : Bool) :
    (m'.genMsg legacy >>= RxMsg.parseMsg) = .ok (C01.carried m') :=
  C01.rx_roundtrip m' legacy hval (rand_msg_soft_rx m m' length stream h)

/-! ### enough conforming answers: no exception, the stream does not run dry -/

theorem rand_total_tx (m : TxMsg) (len : Int) (k1 k2 k3 : Nat) (ks rest : List Nat)
    (hlen : ks.length = len.toNat) (hk1 : k1 < 2715648) (hk2 : k2 < 8) (hk3 : k3 < 256) (hks : ∀ k ∈ ks, k < 2) :
    Yields (m.randMsg len) (k1 :: k2 :: k3 :: (ks ++ rest))
      { m with fn := some (k1 : Int), tn := some (k2 : Int), pwr := some (k3 : Int), burst := some ks }  := by
  have t : Took (Src.start (k1 :: k2 :: k3 :: (ks ++ rest)))
      ([⟨2715648, k1⟩, ⟨8, k2⟩, ⟨256, k3⟩] ++ ks.map fun k => ⟨2, k⟩) _ :=
    took_start (by rw [List.map_append, map_k_mk]; rfl)
  refine ⟨_, (TxMsg.randMsg_ok_iff ..).mpr ⟨k1, k2, k3, ks, hlen, fun k hk => by have := hks k hk; omega, rfl, t⟩,
    t.start.2.mpr (List.forall_mem_append.mpr ⟨?_, ok_of_mem_map.mpr hks⟩)⟩
  simp only [List.forall_mem_cons, Draw.Ok]
  exact ⟨hk1, hk2, hk3, fun _ h => nomatch h⟩

theorem rand_total_rx_v0 (m : RxMsg) (hv : m.ver < 1) (length : Option Int) (L : Int) (k1 k2 k3 k4 : Nat)
    (ks rest : List Nat) (hL : rxLen m length = some L) (hlen : ks.length = L.toNat)
    (hk1 : k1 < 2715648) (hk2 : k2 < 8) (hk3 : k3 < 74) (hk4 : k4 < 65536) (hks : ∀ k ∈ ks, k < 255) :
    Yields (m.randMsg length) (k1 :: k2 :: k3 :: k4 :: (ks ++ rest))
      { m with fn := some (k1 : Int), tn := some (k2 : Int), rssi := some (-120 + (k3 : Int)),
               toa256 := some (-32768 + (k4 : Int)),
               burst := some (ks.map fun (k : Nat) => (-127 : Int) + (k : Int)) }  := by
  have t : Took (Src.start (k1 :: k2 :: k3 :: k4 :: (ks ++ rest)))
      ([⟨2715648, k1⟩, ⟨8, k2⟩, ⟨74, k3⟩, ⟨65536, k4⟩] ++ ks.map fun k => ⟨255, k⟩) _ :=
    took_start (by rw [List.map_append, map_k_mk]; rfl)
  refine ⟨_, (RxMsg.randMsg_v0_ok_iff (by omega)).mpr ⟨k1, k2, k3, k4, L, ks, hL, hlen, hks, rfl, t⟩,
    t.start.2.mpr (List.forall_mem_append.mpr ⟨?_, ok_of_mem_map.mpr hks⟩)⟩
  simp only [List.forall_mem_cons, Draw.Ok]
  exact ⟨hk1, hk2, hk3, hk4, fun _ h => nomatch h⟩

theorem rand_total_rx_v1 (m : RxMsg) (hv : m.ver ≥ 1) (length : Option Int) (k1 k2 k3 k4 k5 k6 k7 k8 : Nat)
    (h5 : k5 < 6) (ks rest : List Nat) (hlen : ks.length = (lenAfter ⟨k5, h5⟩ length).toNat)
    (hk1 : k1 < 2715648) (hk2 : k2 < 8) (hk3 : k3 < 74) (hk4 : k4 < 65536)
    (hk6 : k6 < (if (⟨k5, h5⟩ : Modulation) = Modulation.gmsk then 4 else 2)) (hk7 : k7 < 8) (hk8 : k8 < 2561)
    (hks : ∀ k ∈ ks, k < 255) :
    Yields (m.randMsg length) (k1 :: k2 :: k3 :: k4 :: k5 :: k6 :: k7 :: k8 :: (ks ++ rest))
      { m with fn := some (k1 : Int), tn := some (k2 : Int), rssi := some (-120 + (k3 : Int)),
               toa256 := some (-32768 + (k4 : Int)), modType := some ⟨k5, h5⟩, tscSet := some (k6 : Int),
               tsc := some (k7 : Int), ci := some (-1280 + (k8 : Int)),
               burst := some (ks.map fun (k : Nat) => (-127 : Int) + (k : Int)) }  := by
  have t : Took (Src.start (k1 :: k2 :: k3 :: k4 :: k5 :: k6 :: k7 :: k8 :: (ks ++ rest)))
      ([⟨2715648, k1⟩, ⟨8, k2⟩, ⟨74, k3⟩, ⟨65536, k4⟩, ⟨6, k5⟩,
        ⟨if (⟨k5, h5⟩ : Modulation) = Modulation.gmsk then 4 else 2, k6⟩, ⟨8, k7⟩, ⟨2561, k8⟩]
        ++ ks.map fun k => ⟨255, k⟩) _ :=
    took_start (by rw [List.map_append, map_k_mk]; rfl)
  refine ⟨_, (RxMsg.randMsg_v1_ok_iff hv).mpr
      ⟨k1, k2, k3, k4, ⟨k5, h5⟩, k6, k7, k8, ks, hk7, hlen, hks, rfl, t⟩,
    t.start.2.mpr (List.forall_mem_append.mpr ⟨?_, ok_of_mem_map.mpr hks⟩)⟩
  simp only [List.forall_mem_cons, Draw.Ok]
  exact ⟨hk1, hk2, hk3, hk4, h5, hk6, hk7, hk8, fun _ h => nomatch h⟩

/-! ### non-vacuity, boundaries, and the cases outside the hypotheses -/

/-- all answers at the upper end: FN 2715647 (not 2715648), TN 7, attenuation 255, bits 1; the message validates -/
example : (TxMsg.fresh.randMsg 148 (Src.start (2715647 :: 7 :: 255 :: List.replicate 148 1))).1
      = .ok ⟨0, some 2715647, some 7, some 255, some (List.replicate 148 1)⟩ ∧
    (TxMsg.fresh.randMsg 148 (Src.start (2715647 :: 7 :: 255 :: List.replicate 148 1))).2.Conforms ∧
    (⟨0, some 2715647, some 7, some 255, some (List.replicate 148 1)⟩ : TxMsg).validate = .ok () := by
  decide +kernel

/-- only a non-conforming answer (2715648 of 2715648) gives frame number 2715648, the value finding F2 is about -/
example : (TxMsg.fresh.randHdr (Src.start [2715648, 0, 0])).1 = .ok ⟨0, some 2715648, some 0, some 0, none⟩ ∧
    ¬ (TxMsg.fresh.randHdr (Src.start [2715648, 0, 0])).2.Conforms := by decide +kernel

/-- version 1, all answers at the upper end: ModAQPSK (last member), TSC set 1, TSC 7, C/I 1280, 296 soft bits 127 -/
example : ({ RxMsg.fresh with ver := 1 }.randMsg none
      (Src.start (2715647 :: 7 :: 73 :: 65535 :: 5 :: 1 :: 7 :: 2560 :: List.replicate 296 254))).1
      = .ok ⟨1, some 2715647, some 7, some (-47), some 32767, Modulation.ofName? "ModAQPSK", false, some 1, some 7,
          some 1280, some (List.replicate 296 127)⟩ := by decide +kernel

/-- F11a: the stream [.., 2, 1, ..] makes `RxMsg.rand_hdr()` draw ModGMSK_AB with TSC set 1; the message is valid for
`validate()` and round-trips (it is a finding of C17, not of this property) -/
example : ({ RxMsg.fresh with ver := 1 }.randMsg none
      (Src.start (0 :: 0 :: 0 :: 0 :: 2 :: 1 :: 0 :: 0 :: List.replicate 148 0))).1
      = .ok ⟨1, some 0, some 0, some (-120), some (-32768), Modulation.ofName? "ModGMSK_AB", false, some 1, some 0,
          some (-1280), some (List.replicate 148 (-127))⟩ ∧
    (⟨1, some 0, some 0, some (-120), some (-32768), Modulation.ofName? "ModGMSK_AB", false, some 1, some 0,
          some (-1280), some (List.replicate 148 (-127))⟩ : RxMsg).validate = .ok () := by decide +kernel

/-- the prior state matters: on an object left with Mod16QAM, version 0, `rand_hdr(); rand_burst()` builds a message
of 592 soft bits that `validate()` refuses ... -/
example : ({ RxMsg.fresh with modType := Modulation.ofName? "Mod16QAM" }.randMsg none
      (Src.start (0 :: 0 :: 0 :: 0 :: List.replicate 592 0))).1
      = .ok ⟨0, some 0, some 0, some (-120), some (-32768), Modulation.ofName? "Mod16QAM", false, none, none, none,
          some (List.replicate 592 (-127))⟩ ∧
    (⟨0, some 0, some 0, some (-120), some (-32768), Modulation.ofName? "Mod16QAM", false, none, none, none,
          some (List.replicate 592 (-127))⟩ : RxMsg).validate = .error .valueError := by decide +kernel

/-- ... and on a NOPE object of version 1 (`nope_ind` left set, e.g. by `TxMsg.trans()` of a burst-less message)
the generated burst makes the message invalid -/
example : ({ RxMsg.fresh with ver := 1, nopeInd := true }.randMsg none
      (Src.start (0 :: 0 :: 0 :: 0 :: 0 :: 0 :: 0 :: 0 :: List.replicate 148 0))).1
      = .ok ⟨1, some 0, some 0, some (-120), some (-32768), some Modulation.gmsk, true, some 0, some 0, some (-1280),
          some (List.replicate 148 (-127))⟩ ∧
    (⟨1, some 0, some 0, some (-120), some (-32768), some Modulation.gmsk, true, some 0, some 0, some (-1280),
          some (List.replicate 148 (-127))⟩ : RxMsg).validate = .error .valueError := by decide +kernel

/-- the order of test_rand_hdr_burst on a version-1 object: burst of the old modulation (148), then Mod8PSK drawn -/
example : ({ RxMsg.fresh with ver := 1 }.randOps [.burst none, .hdr]
      (Src.start (List.replicate 148 0 ++ [0, 0, 0, 0, 1, 0, 0, 0]))).1
      = .ok ⟨1, some 0, some 0, some (-120), some (-32768), Modulation.ofName? "Mod8PSK", false, some 0, some 0,
          some (-1280), some (List.replicate 148 (-127))⟩ ∧
    (⟨1, some 0, some 0, some (-120), some (-32768), Modulation.ofName? "Mod8PSK", false, some 0, some 0,
          some (-1280), some (List.replicate 148 (-127))⟩ : RxMsg).validate = .error .valueError := by decide +kernel

/-- explicit bounds are not clamped: `rand_rssi(min = -200)` can return -200 -/
example : (randRssi (some (-200)) none (Src.start [0])).1 = .ok (-200) := by decide +kernel
/-- reversed bounds: ValueError; a stream that runs dry: `dry`, never a default -/
example : (randPwr (some 5) (some 3) (Src.start [1])).1 = .fail .valueError := by decide +kernel
example : (TxMsg.fresh.randMsg 148 (Src.start (List.replicate 150 0))).1 = .fail .dry := by decide +kernel
/-- an answer outside the enum / a soft bit outside array('b'): the exception Python raises -/
example : ({ RxMsg.fresh with ver := 1 }.randHdr (Src.start [0, 0, 0, 0, 6, 0, 0, 0])).1 = .fail .indexError := by
  decide +kernel
example : (RxMsg.fresh.randBurst (some 2) (Src.start [0, 255])).1 = .fail .overflowError := by decide +kernel

end OsmoVerif.Props.C13Rand
