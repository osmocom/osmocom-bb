/-
C06 — Serial link framing (sercomm/HDLC) delivers every message intact.
Property theorems only.  Model: `OsmoVerif.Model.Sercomm` (transmitter, receiver, both with the
wire between them), specification: `OsmoVerif.Spec.Sercomm` (wire format, abstract link),
lemmas: `OsmoVerif.Lemmas.Sercomm`.  Constants come from the regenerated `Gen.Sercomm`.

Two recorded findings delimit the `_partial` theorems; for each the full statement is kept as a
`def`, its negation is proved with the concrete witness, and the excluded region is an explicit
hypothesis:
  F10  the transmitter escapes the address octet, the receiver does not un-escape it:
       DLCI 0x00 / 0x7D / 0x7E do not arrive (`Transparent`);
  F17  after an over-long frame the receiver is one flag ahead; flag-free noise arriving in that
       state is parsed as a frame (`desync` in `opOk`).
-/
import OsmoVerif.Lemmas.Sercomm

namespace OsmoVerif.Props.C06
open OsmoVerif OsmoVerif.Sercomm OsmoVerif.Gen.Sercomm OsmoVerif.Spec.Sercomm

/-! ## the regenerated constants -/

/-- The constants of the current tree are the ones the property speaks about: HDLC flag / escape /
UI octets, the escape bit on both sides, the receive buffer of the host and of the target build
(as `sercomm_alloc_msgb` makes it), 129 queues and handlers, headroom for the two header octets,
and a zeroed `sercomm` struct is in state `RX_ST_WAIT_START`. -/
theorem constants :
    hdlcFlag = 0x7E ∧ hdlcEscape = 0x7D ∧ hdlcCUi = 0x03 ∧ txEscXor = 0x20 ∧ rxEscXor = 0x20 ∧
    rxMsgSizeHost + allocSlack = 2048 ∧ rxMsgSizeTarget + allocSlack = 256 ∧
    nTxQueues = 129 ∧ nRxHandlers = 129 ∧ dlciMax = 129 ∧ dlciEcho = 128 ∧ 2 ≤ allocHeadroom ∧
    St.code .waitStart = 0 ∧
    [St.code .waitStart, St.code .addr, St.code .ctrl, St.code .data, St.code .escape].Nodup := by
  decide

/-! ## wire format -/

/-- Exactly which octets the frame format escapes, and how. -/
theorem escaped_octets (c : Nat) :
    esc1 c = if c = 0x7E ∨ c = 0x7D ∨ c = 0x00 then [0x7D, c ^^^ 0x20] else [c] := by
  by_cases h : special c = true
  · simp [esc1, h, (special_iff c).1 h]
  · have h' : special c = false := by simpa using h
    have := (special_false_iff c).1 h'
    simp [esc1, h', this]

/-- Between the flags a frame never contains a flag or a zero octet (whatever the payload and DLCI). -/
theorem frame_inside_clean (xs : List Nat) : ∀ c ∈ esc xs, c ≠ 0x7E ∧ c ≠ 0x00 := esc_clean xs

/-- One message queued on a freshly initialised transmitter: `sercomm_sendmsg` accepts it and pulling
(at least as many times as the frame is long) yields exactly
`0x7E :: esc (dlci :: 0x03 :: payload) ++ [0x7E]`; then the transmitter is idle again, all queues empty. -/
theorem frame_wire_format (nq : Nat) (m : Msg) (hd : m.dlci < nq) (n : Nat) (hn : (frame m).length ≤ n) :
    sendmsg (Tx.init nq) m.dlci m.payload = some (txOne nq m) ∧
    ∃ t', pullN n (txOne nq m) = (t', 0x7E :: esc (m.dlci :: 0x03 :: m.payload) ++ [0x7E]) ∧
      t'.msg = none ∧ ∀ q ∈ t'.queues, q = [] := by
  refine ⟨by simp [sendmsg, Tx.init, hd, txOne, txBody], ?_⟩
  have hq0 : QueuesMatch nq (txOne nq m).queues [m] := queues_send m (queues_init nq)
  obtain ⟨qs', hdq, hqm⟩ := dequeue_pick (m := m) (rest := []) hq0 (by simpa using hd)
    (by simp [pick, minDlci, removeFirst])
  have hempty := queues_empty hqm
  cases n with
  | zero => simp [frame] at hn
  | succ n =>
    obtain ⟨t', hp', hm', -, hq'⟩ := pullN_txwire _ n { txOne nq m with queues := qs', msg := some (txBody m) }
      (txBody_eq m ▸ txwire_start _ (txBody m) rfl (by simp [txOne])) hempty (by simp [frame] at hn ⊢; omega)
    exact ⟨t', by simp [pullN, pull_start (t := txOne nq m) rfl hdq, hp', body], hm', hq' ▸ hempty⟩

/-- In every history the octets on the line are whole frames in wire format, one after the other,
plus the part of the frame in transmission (so the previous theorem holds for every interleaving
of `sendmsg` and `pull`; `end_to_end_partial` ties the model's octets to this stream). -/
theorem wire_is_frames (cap : Nat) (ops : List Op) :
    ∃ part, (specRun cap Link.init ops).wire =
        (specRun cap Link.init ops).completed.flatMap frame ++ part ∧
      match (specRun cap Link.init ops).cur with
      | none => part = []
      | some (m, todo) => part ++ todo = frame m ∧ todo ≠ [] :=
  specRun_inv cap (fun _ _ h => h) (wireInv_octet cap) ops _ ⟨[], rfl, rfl⟩

/-! ## one frame through the receiver -/

/-- A frame with a transparent DLCI and a payload shorter than the buffer, fed octet by octet into
a receiver that waits for a frame: the handler table is consulted once with (dlci, payload) —
`dispatch` calls the handler iff one is registered — and the receiver waits for the next frame. -/
theorem rx_frame_partial (c : RxCfg) (hc : 0 < c.cap) (r : Rx) (hs : r.state = .waitStart) (hl : r.len = 0)
    (m : Msg) (ht : Transparent m.dlci) (hp : m.payload.length < c.cap) :
    feed c r (frame m) =
      ({ msg := none, state := .waitStart, dlci := m.dlci, ctrl := 0x03, abort := r.abort },
       dispatch c m.dlci m.payload) := by
  obtain ⟨hb, -⟩ := (rxAt_iff false r).2 ⟨hl, hs⟩
  obtain ⟨mb, st, d0, k0, a⟩ := r
  simp only at hs; subst hs
  rw [feed_frame_sync c m hc hb ht, feed_data_close c (b := []) m.payload hc (Nat.zero_le _),
    List.length_nil, Nat.zero_add, if_pos hp, List.nil_append]

/-- … with a handler registered: exactly one callback, identical DLCI and payload. -/
theorem rx_frame_delivers (c : RxCfg) (hc : 0 < c.cap) (r : Rx) (hs : r.state = .waitStart) (hl : r.len = 0)
    (m : Msg) (ht : Transparent m.dlci) (hp : m.payload.length < c.cap)
    (hnh : m.dlci < c.nh) (hreg : c.reg m.dlci = true) :
    (feed c r (frame m)).2 = [.deliver m.dlci m.payload] := by
  rw [rx_frame_partial c hc r hs hl m ht hp]
  have : ¬ (c.nh ≤ m.dlci) := by omega
  simp [dispatch, hreg, this]

/-- The statement of the property for one frame, any DLCI with a registered handler. -/
def rx_frame_full : Prop :=
  ∀ (c : RxCfg) (r : Rx) (m : Msg), 0 < c.cap → r.state = .waitStart → r.len = 0 →
    m.payload.length < c.cap → m.dlci < c.nh → c.reg m.dlci = true →
    (feed c r (frame m)).2 = [.deliver m.dlci m.payload]

/-- F10: it fails for DLCI 0x00 (host buffer size, every handler registered): the message sent
on DLCI 0 arrives on DLCI 0x7D with the control octet in front of the payload. -/
theorem rx_frame_full_fails : ¬ rx_frame_full := by
  intro h
  have := h ⟨rxMsgSizeHost + allocSlack, nRxHandlers, fun _ => true⟩ Rx.init ⟨0x00, [0x41]⟩
    (by decide) rfl rfl (by decide) (by decide) rfl
  revert this
  decide

/-- what the receiver does instead, for each of the three addresses -/
theorem nontransparent_dlci_arrives_on_0x7D :
    ∀ d ∈ [0x00, 0x7D, 0x7E],
      (feed ⟨rxMsgSizeHost + allocSlack, nRxHandlers, fun _ => true⟩ Rx.init (frame ⟨d, [0x41]⟩)).2
        = [.deliver 0x7D [0x03, 0x41]] := by
  decide

/-! ## memory safety of the receive buffer -/

/-- For every octet stream whatsoever (noise, truncated, over-long, malformed frames), starting
from the initial state: the number of stored octets never exceeds the capacity and `msgb_put` is
never reached without tailroom. -/
theorem rx_len_le_cap (c : RxCfg) (stream : List Nat) :
    (feed c Rx.init stream).1.len ≤ c.cap ∧ (feed c Rx.init stream).1.abort = false :=
  feed_inv c Rx.init stream (by simp [RxInv, Rx.init, Rx.len])

/-- … and it is an invariant of the single step, so it also holds after every prefix. -/
theorem rx_len_le_cap_step (c : RxCfg) (r : Rx) (ch : Nat) (h : r.len ≤ c.cap ∧ r.abort = false) :
    (rxChar c r ch).1.len ≤ c.cap ∧ (rxChar c r ch).1.abort = false :=
  rxChar_inv c r ch h

/-! ## over-long frames -/

/-- An over-long frame (payload ≥ capacity) is discarded; of the two valid frames that follow it
the second is always delivered, the first is lost exactly when the payload was longer than the
capacity; afterwards the receiver waits for a frame with an empty buffer.  (Memory safety during
all of this is `rx_len_le_cap`.) -/
theorem overlong_bounded (c : RxCfg) (hc : 0 < c.cap) (h7e : c.reg 0x7E = false)
    (r : Rx) (hs : r.state = .waitStart) (hl : r.len = 0)
    (o f1 f2 : Msg) (hto : Transparent o.dlci) (ht1 : Transparent f1.dlci) (ht2 : Transparent f2.dlci)
    (hro : c.reg o.dlci = true ∧ o.dlci < c.nh) (hr1 : c.reg f1.dlci = true ∧ f1.dlci < c.nh)
    (hr2 : c.reg f2.dlci = true ∧ f2.dlci < c.nh)
    (ho : o.payload.length ≥ c.cap) (h1 : f1.payload.length < c.cap) (h2 : f2.payload.length < c.cap) :
    let res := feed c r (frame o ++ frame f1 ++ frame f2)
    evDeliveries res.2 =
        (if o.payload.length = c.cap then [(f1.dlci, f1.payload), (f2.dlci, f2.payload)]
         else [(f2.dlci, f2.payload)]) ∧
      res.1.state = .waitStart ∧ res.1.len = 0 := by
  have hat : RxAt false r := (rxAt_iff false r).2 ⟨hl, hs⟩
  obtain ⟨a1, e1⟩ := frame_outcome c hc h7e hat o hto hro.1 hro.2
  obtain ⟨a2, e2⟩ := frame_outcome c hc h7e a1 f1 ht1 hr1.1 hr1.2
  obtain ⟨a3, e3⟩ := frame_outcome c hc h7e a2 f2 ht2 hr2.1 hr2.2
  -- alignment: lost by the over-long frame exactly when it is longer than the buffer, back after `f1`
  have d1 : completeDesync c.cap false o = decide (c.cap < o.payload.length) := by simp [completeDesync]
  rw [d1] at e2 a3 e3
  rw [completeDesync_of_lt h1] at a3 e3
  rw [completeDesync_of_lt h2] at a3
  simp only [feed_append, evDeliveries_append, e1, e2, e3]
  refine ⟨?_, a3.2, ((rxAt_iff _ _).1 a3).1⟩
  by_cases e : o.payload.length = c.cap
  · simp [completeDelivers, e, h1, h2]
  · have : c.cap < o.payload.length := by omega
    simp [completeDelivers, e, this, h2, Nat.not_lt.2 ho]

/-- In the abstract link (which `end_to_end_partial` shows the code to follow for over-long frames
anywhere in any history) a frame is lost only in these two ways: it does not fit the buffer, or
the frame completed just before it did not fit (`desync` is set by nothing else). -/
theorem loss_only_after_overlong (cap : Nat) (s : Link) (m : Msg) :
    ((Link.complete cap s m).desync = true → m.payload.length ≥ cap) ∧
    (s.desync = false → m.payload.length < cap →
      (Link.complete cap s m).delivered = s.delivered ++ [m] ∧ (Link.complete cap s m).desync = false) := by
  rw [complete_eq]
  constructor
  · simp only [completeDesync]
    cases s.desync <;> simp <;> omega
  · intro hd hl
    simp [completeDesync, completeDelivers, hd, hl, Nat.le_of_lt hl]

/-! ## end to end -/

/-- **End to end** (partial: F10, F17).  For every history of `sendmsg` on usable DLCIs (handler
registered, transparent), pulls whose octets reach the receiver, and flag-free foreign octets
between frames while the receiver is aligned — any interleaving, any payload octets, any payload
length including over-long ones anywhere —, starting from the initial state:
* no fault (queue index, `msgb_put` without tailroom), never more than `cap` octets stored;
* the callbacks made, in order, are exactly the messages the abstract link delivers (identical
  DLCI and payload, each once; lowest DLCI first at each frame start, FIFO within a DLCI:
  `Spec.pick`; the only losses are those of `loss_only_after_overlong`);
* the octets pulled are exactly the abstract link's frame stream (`wire_is_frames`). -/
theorem end_to_end_partial (c : Cfg) (nq : Nat) (ops : List Op) (hc : CfgOk c)
    (hops : opsOk c nq Link.init ops) :
    let w := World.run c (World.init nq) ops
    let s := specRun c.cap Link.init ops
    w.fault = false ∧ w.rx.abort = false ∧ w.rx.len ≤ c.cap ∧
    deliveries w.obs = s.delivered.map (fun m => (m.dlci, m.payload)) ∧
    pulledOctets w.obs = s.wire := by
  have h := sim_run hc (sim_init c nq) hops
  exact ⟨h.nofault, h.rxinv.2, h.rxinv.1, h.deliv, h.wire⟩

/-- What the abstract link guarantees when no message is over-long: at every moment and for every
DLCI, delivered ++ on the line ++ waiting is exactly what was sent on that DLCI, in the order sent
(nothing lost, nothing duplicated, FIFO per DLCI), and the receiver stays aligned. -/
theorem link_fifo_exactly_once (cap : Nat) (ops : List Op) (hs : allShort cap ops) :
    let s := specRun cap Link.init ops
    s.desync = false ∧ ∀ d, ofDlci d (s.delivered ++ s.inflight ++ s.pending) = ofDlci d (sentMsgs ops) := by
  have h := linkInv_run ops (linkInv_init cap) hs
  exact ⟨h.aligned, by simpa [Link.all] using h.fifo⟩

/-- Priority: the frame that starts is the oldest message of the lowest DLCI that has one waiting;
the other waiting messages keep their order. -/
theorem link_priority (pending : List Msg) (m : Msg) (rest : List Msg) (h : pick pending = some (m, rest)) :
    (∀ x ∈ pending, m.dlci ≤ x.dlci) ∧ m ∈ pending ∧
    ofDlci m.dlci pending = m :: ofDlci m.dlci rest ∧
    (∀ d, d ≠ m.dlci → ofDlci d rest = ofDlci d pending) :=
  let ⟨a, b, c, d, _⟩ := pick_spec h
  ⟨a, b, c, d⟩

/-- Progress: after any history, pulling as many octets as are still due empties the link — every
message queued has then gone over the line. -/
theorem link_drains (cap : Nat) (ops : List Op) (n : Nat)
    (hn : (specRun cap Link.init ops).remaining ≤ n) :
    let s := specRun cap Link.init (ops ++ List.replicate n Op.loop)
    s.cur = none ∧ s.pending = [] := by
  have hc : (specRun cap Link.init ops).curOk :=
    specRun_inv cap (fun _ _ h => h) (octet_curOk cap) ops _ (fun m todo h => nomatch h)
  have := drain cap hc hn
  simpa [specRun, List.foldl_append] using this

/-- Together: a history without over-long messages, then enough pulls: the callbacks of the model
are, per DLCI, exactly the messages sent on that DLCI, in order, each once. -/
theorem end_to_end_drained (c : Cfg) (nq : Nat) (ops : List Op) (n : Nat) (hc : CfgOk c)
    (hops : opsOk c nq Link.init (ops ++ List.replicate n Op.loop)) (hs : allShort c.cap ops)
    (hn : (specRun c.cap Link.init ops).remaining ≤ n) :
    let w := World.run c (World.init nq) (ops ++ List.replicate n Op.loop)
    ∀ d, (deliveries w.obs).filter (fun x => x.1 == d) =
      ((sentMsgs ops).filter (fun m => m.dlci == d)).map (fun m => (m.dlci, m.payload)) := by
  intro w d
  have he := (end_to_end_partial c nq _ hc hops).2.2.2.1
  -- the abstract link after the history and the pulls: nothing lost, nothing left
  have hf := (linkInv_loops (linkInv_run ops (linkInv_init c.cap) hs) n).fifo d
  obtain ⟨hcur, hpend⟩ := link_drains c.cap ops n hn
  simp only [specRun, List.foldl_append] at he hf hcur hpend
  simp only [Link.all, Link.inflight, hcur, hpend, List.append_nil, List.nil_append, ofDlci] at hf
  show List.filter _ (deliveries w.obs) = _
  rw [he, ← hf, List.filter_map]
  rfl

/-! ### the full statements and the two findings -/

/-- admissible operations without the two exclusions -/
def opOkFull (c : Cfg) (nq : Nat) (s : Link) : Op → Prop
  | .send d _ => d < nq ∧ d < c.nh ∧ c.reg d = true ∧ c.echo d = false
  | .pull => False
  | .loop => True
  | .rx ns => s.cur = none ∧ ∀ x ∈ ns, x ≠ 0x7E

def opsOkFull (c : Cfg) (nq : Nat) : Link → List Op → Prop
  | _, [] => True
  | s, op :: ops => opOkFull c nq s op ∧ opsOkFull c nq (specStep c.cap s op) ops

/-- The property as stated: any DLCI with a registered handler, flag-free noise between any two frames. -/
def end_to_end_full : Prop :=
  ∀ (c : Cfg) (nq : Nat) (ops : List Op), 0 < c.cap → opsOkFull c nq Link.init ops →
    deliveries (World.run c (World.init nq) ops).obs =
      (specRun c.cap Link.init ops).delivered.map (fun m => (m.dlci, m.payload))

/-- every `send` of the history is on a transparent DLCI -/
def sendsTransparent : List Op → Prop
  | [] => True
  | .send d _ :: ops => Transparent d ∧ sendsTransparent ops
  | _ :: ops => sendsTransparent ops

/-- … with only the alignment condition on noise dropped (DLCIs transparent as in the partial theorem) -/
def end_to_end_any_noise : Prop :=
  ∀ (c : Cfg) (nq : Nat) (ops : List Op), CfgOk c → opsOkFull c nq Link.init ops →
    sendsTransparent ops →
    deliveries (World.run c (World.init nq) ops).obs =
      (specRun c.cap Link.init ops).delivered.map (fun m => (m.dlci, m.payload))

/-- in-tree configuration: target buffer, user handlers on the DLCIs the code base registers -/
def cfgTarget : Cfg :=
  { cap := rxMsgSizeTarget + allocSlack, nh := nRxHandlers,
    reg := fun d => d == 4 || d == 5 || d == 9 || d == 10 || d == 128,
    echo := fun d => d == 128 }

/-- F10 witness as a history: DLCI 0 with a handler, one message, pulled completely. -/
def witnessF10 : List Op := [.send 0 [0x41]] ++ List.replicate 6 .loop

/-- F17 witness as a history (target buffer, 256): an over-long message (257 octets) on DLCI 4,
pulled completely; flag-free noise `05 03 61`; then three valid messages, pulled completely. -/
def witnessF17 : List Op :=
  [.send 4 (List.replicate 257 0x41)] ++ List.replicate 261 .loop ++ [.rx [0x05, 0x03, 0x61]] ++
  [.send 4 [0x01], .send 4 [0x02], .send 4 [0x03]] ++ List.replicate 15 .loop

instance (c : Cfg) (nq : Nat) (s : Link) (op : Op) : Decidable (opOkFull c nq s op) := by
  cases op <;> simp only [opOkFull] <;> infer_instance

instance decOpsOkFull (c : Cfg) (nq : Nat) : ∀ (s : Link) (ops : List Op), Decidable (opsOkFull c nq s ops)
  | _, [] => isTrue trivial
  | _, _ :: ops => @instDecidableAnd _ _ _ (decOpsOkFull c nq _ ops)

instance decSendsTransparent : ∀ ops : List Op, Decidable (sendsTransparent ops)
  | [] => isTrue trivial
  | .send _ _ :: ops => @instDecidableAnd _ _ _ (decSendsTransparent ops)
  | .pull :: ops | .loop :: ops | .rx _ :: ops => decSendsTransparent ops

instance decAllShort (cap : Nat) : ∀ ops : List Op, Decidable (allShort cap ops)
  | [] => isTrue trivial
  | .send _ p :: ops => by
    simp only [allShort]; exact @instDecidableAnd _ _ _ (decAllShort cap ops)
  | .pull :: ops => by simp only [allShort]; exact decAllShort cap ops
  | .loop :: ops => by simp only [allShort]; exact decAllShort cap ops
  | .rx _ :: ops => by simp only [allShort]; exact decAllShort cap ops

/-- host buffer, a user handler on DLCI 0 only -/
def cfgF10 : Cfg :=
  { cap := rxMsgSizeHost + allocSlack, nh := nRxHandlers, reg := fun d => d == 0, echo := fun _ => false }

/-- F10: the full statement fails -/
theorem end_to_end_full_fails : ¬ end_to_end_full := by
  intro h
  have := h cfgF10 nTxQueues witnessF10 (by decide) (by decide +kernel)
  revert this
  decide +kernel

/-- F17: with only the alignment condition on noise dropped the statement fails as well -/
theorem end_to_end_any_noise_fails : ¬ end_to_end_any_noise := by
  intro h
  have := h cfgTarget nTxQueues witnessF17 ⟨by decide, by decide⟩ (by decide +kernel) (by
    decide +kernel)
  revert this
  decide +kernel

/-! ### non-vacuity -/

instance (c : Cfg) (nq : Nat) (s : Link) (op : Op) : Decidable (opOk c nq s op) := by
  cases op <;> simp only [opOk] <;> infer_instance

instance decOpsOk (c : Cfg) (nq : Nat) : ∀ (s : Link) (ops : List Op), Decidable (opsOk c nq s ops)
  | _, [] => isTrue trivial
  | s, op :: ops => by
    simp only [opsOk]
    exact @instDecidableAnd _ _ _ (decOpsOk c nq _ ops)

/-- a history the partial theorem covers: interleaved sends on DLCI 5, 4 and 10 with payloads full of
flag / escape / zero octets, pulls in between, noise between frames, an over-long message -/
def sampleHistory : List Op :=
  [.send 5 [0x7E, 0x7D, 0x00, 0x41], .loop, .loop, .send 4 [0x00], .send 10 [], .send 4 [0x7D, 0x5E]] ++
  List.replicate 9 .loop ++ [.rx [0x00, 0x7D, 0x55]] ++ List.replicate 40 .loop ++
  [.send 4 (List.replicate 300 0x7E), .send 5 [1], .send 9 [2]] ++ List.replicate 620 .loop

/-- in-tree configuration with the host buffer -/
def cfgHost : Cfg := { cfgTarget with cap := rxMsgSizeHost + allocSlack }

example : CfgOk cfgTarget := ⟨by decide, by decide⟩
example : CfgOk cfgHost := ⟨by decide, by decide⟩
example : frame ⟨5, [0x7E, 0x00, 0x7D, 0x41]⟩ =
    [0x7E, 0x05, 0x03, 0x7D, 0x5E, 0x7D, 0x20, 0x7D, 0x5D, 0x41, 0x7E] := by decide
/-- the hypotheses of `rx_frame_delivers` / `overlong_bounded` at the target size -/
example : 0 < cfgTarget.cap ∧ cfgTarget.reg 0x7E = false ∧ Rx.init.state = .waitStart ∧ Rx.init.len = 0 ∧
    Transparent 4 ∧ cfgTarget.reg 4 = true ∧ 4 < cfgTarget.nh ∧
    (List.replicate 300 0x00).length ≥ cfgTarget.cap ∧ [0x7E, 0x00].length < cfgTarget.cap := by decide +kernel
example : opsOk cfgTarget nTxQueues Link.init sampleHistory := by decide +kernel
/-- … and what `end_to_end_partial` then says is delivered: DLCI 5 first (already on the line), then
the two DLCI 4 messages in order before DLCI 10; the over-long message and the one after it are lost -/
example : deliveries (World.run cfgTarget (World.init nTxQueues) sampleHistory).obs =
    [(5, [0x7E, 0x7D, 0x00, 0x41]), (4, [0x00]), (4, [0x7D, 0x5E]), (10, []), (9, [2])] := by decide +kernel
example : Transparent 4 ∧ Transparent 5 ∧ Transparent 9 ∧ Transparent 10 ∧ Transparent 128 := by decide
example : allShort 256 (sampleHistory.take 56) := by decide +kernel


end OsmoVerif.Props.C06
