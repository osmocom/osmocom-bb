/-
C11 — the firmware's multiframe scheduler at run time (src/target/firmware/layer1/
mframe_sched.c beyond the tables): `mframe_enable / mframe_disable / mframe_set /
mframe_reset` and `mframe_schedule()` with the `tasks_tgt → tasks` latch and the `safe_fn`
bookkeeping.  Property theorems only.  Model: `OsmoVerif.Model.Mframe` (`MfState`,
`mframeScheduleSt`, …); lemmas: `OsmoVerif.Lemmas.MframeRt`; tables: `Gen/FwMframe.lean`.

`Props/C11.lean` proves that the frames in which a task's rows fire are the frames trxcon's
layouts give to the channel; the theorems here prove that at every tick exactly the firing
rows of the *active* tasks are handed to `tdma_schedule_set`, each once, with the arguments
the rows prescribe, and say precisely when a task is active.
-/
import OsmoVerif.Lemmas.MframeRt

namespace OsmoVerif.Props.C11Fw
open OsmoVerif OsmoVerif.Mframe OsmoVerif.Gen OsmoVerif.Gen.FwMframe

/-! ## the tables as the runtime needs them -/

/-- `sched_set_for_task[]` has exactly the 32 entries the loop `for (i = 0; i < 32; i++)`
    indexes; every row of every table has a non-zero modulo and flags that fit the upper byte
    of `p3`; every enumerator of `enum mframe_task` has a table -/
theorem tables_fit_runtime :
    schedSetForTask.length = 32 ∧
    (schedSetForTask.all fun o => match o with
      | none => true
      | some items => items.all fun it => it.modulo != 0 && decide (it.flags < 256)) = true ∧
    (Task.all.all fun t => decide (t.val < 32) && (tableOf t).isSome) = true := by
  refine ⟨by decide, by decide +kernel, by decide +kernel⟩

theorem itemsOf_row_ok (i : Nat) (it : Item) (h : it ∈ itemsOf i) : it.modulo ≠ 0 ∧ it.flags < 256 := by
  unfold itemsOf at h
  cases hs : schedSetForTask[i]? with
  | none => rw [hs] at h; cases h
  | some o =>
    cases o with
    | none => rw [hs] at h; cases h
    | some items =>
      rw [hs] at h
      have hm : some items ∈ schedSetForTask := List.mem_of_getElem? hs
      have := (List.all_eq_true.1 tables_fit_runtime.2.1) (some items) hm
      have := (List.all_eq_true.1 this) it h
      simpa using this

/-! ## `mframe_schedule()` -/

/-- **No index outside `sched_set_for_task[]`**, for any task bitmap, scheduler state, tick
    and behaviour of the TDMA scheduler. -/
theorem schedule_index_in_range (rv : RvOf) (s : MfState) (fn : Nat) :
    mframeScheduleSt rv s fn ≠ .error .taskOutOfRange := by
  have hlen := tables_fit_runtime.1
  intro hc
  rw [mframeScheduleSt] at hc
  have h1 := mframeScheduleOn_calls rv s fn (List.range 32)
  have ht := scheduleTasks_cases (latch s fn) fn (List.range 32)
  rw [hc, callsOf] at h1
  rw [← h1] at ht
  obtain ⟨i, hi, _, hs⟩ := ht
  have h2 := scheduleSet_cases i fn
  rw [hs] at h2
  have := h2 rfl
  have := List.mem_range.1 hi
  omega


/-- **Exactly the firing rows of the active tasks, each once.**  Whenever
    `mframe_schedule()` returns at tick `fn`: the active bitmap is the latched one, the target
    bitmap is unchanged, and the calls of `tdma_schedule_set` are — in this order, nothing
    else — for every set bit `i` (ascending) of the active bitmap every row of
    `sched_set_for_task[i]` whose trigger fires at `fn` (table order), one call per row. -/
theorem schedule_calls_exact (rv : RvOf) (s s' : MfState) (fn : Nat) (evs : List Event)
    (h : mframeScheduleSt rv s fn = .ok (evs, s')) :
    s'.tasks = latch s fn ∧ s'.tasksTgt = s.tasksTgt ∧ evs = expectedCalls (latch s fn) fn :=
  mframeScheduleSt_ok h

/-- … and every such call has frame offset `SCHEDULE_AHEAD − SCHEDULE_LATENCY`, the row's
    sched set, and `p3 = task id | flags << 8` = `task id + 256 · flags` (so the task id is the
    low byte and the row's flags the high byte). -/
theorem call_arguments (tasks fn : Nat) (e : Event) (he : e ∈ expectedCalls tasks fn) :
    ∃ i, i < 32 ∧ tasks.testBit i = true ∧ ∃ it ∈ itemsOf i, fires it fn = true ∧
      e.frameOffset + SCHEDULE_LATENCY = SCHEDULE_AHEAD ∧ e.set = it.set ∧
      e.p3 = i + 256 * it.flags ∧ e.p3 % 256 = i ∧ e.p3 / 256 = it.flags := by
  obtain ⟨i, hi, hb, it, hm, hf, rfl⟩ := (mem_expectedCalls tasks fn e).1 he
  have hoff : frameOffset + SCHEDULE_LATENCY = SCHEDULE_AHEAD := by decide
  exact ⟨i, hi, hb, it, hm, hf, hoff, rfl, p3_bytes i it (by omega) (itemsOf_row_ok i it hm).2⟩

/-- `mframe_schedule()` returns whenever every active task bit has a table (as every
    enumerator of `enum mframe_task` has, `tables_fit_runtime`) -/
theorem schedule_total (rv : RvOf) (s : MfState) (fn : Nat)
    (h : ∀ i, i < 32 → (latch s fn).testBit i = true → ∃ items, schedSetForTask[i]? = some (some items)) :
    ∃ evs s', mframeScheduleSt rv s fn = .ok (evs, s') := by
  have ht := scheduleTasks_cases (latch s fn) fn (List.range 32)
  cases hr : scheduleTasks (latch s fn) fn (List.range 32) with
  | ok evs =>
    -- the stateful loop makes the calls of the stateless one, so it returns as well
    have hc := mframeScheduleOn_calls rv s fn (List.range 32)
    rw [hr] at hc
    rw [mframeScheduleSt]
    generalize mframeScheduleOn rv s fn (List.range 32) = r at hc
    cases r with
    | error e => cases hc
    | ok p => exact ⟨_, _, rfl⟩
  | error c =>
    -- a fault would be that of a set bit's `mframe_schedule_set`, which has a table without modulo 0
    rw [hr] at ht
    obtain ⟨i, hi, hb, hs⟩ := ht
    obtain ⟨items, hit⟩ := h i (List.mem_range.1 hi) hb
    have hm : ∀ it ∈ items, it.modulo ≠ 0 := fun it hm =>
      (itemsOf_row_ok i it (by simp only [itemsOf, hit]; exact hm)).1
    simp only [scheduleSet, hit, scheduleItems_eq, if_pos hm] at hs
    cases hs

/-! ## when a task is active -/

/-- the latch: the target bitmap when nothing scheduled earlier is in the way, otherwise
    only the removal of tasks (`tasks & tasks_tgt`) -/
theorem latch_rule (s : MfState) (fn : Nat) :
    latch s fn = if nothingInTheWay s fn then s.tasksTgt else s.tasks &&& s.tasksTgt := rfl

/-- for valid frame numbers, "in the way" means: `safe_fn` lies ahead of the tick by less
    than half a hyperframe (plain difference of the two numbers) -/
theorem latch_valid_fn (s : MfState) (fn : Nat) (hs : s.safeFn < GSM_MAX_FN) (hfn : fn < GSM_MAX_FN) :
    latch s fn = if fn < s.safeFn ∧ s.safeFn < fn + GSM_MAX_FN / 2 then s.tasks &&& s.tasksTgt
      else s.tasksTgt := by
  have hM : GSM_MAX_FN = 2715648 := rfl
  rw [hM] at hs hfn
  have hc : nothingInTheWay s fn = !decide (fn < s.safeFn ∧ s.safeFn < fn + GSM_MAX_FN / 2) := by
    rw [Bool.eq_iff_iff]
    simp only [nothingInTheWay, toInt32_sub s.safeFn fn (by omega) (by omega), hM, Bool.or_eq_true,
      decide_eq_true_eq, Bool.not_eq_true', decide_eq_false_iff_not]
    omega
  rw [latch, hc]
  by_cases h : fn < s.safeFn ∧ s.safeFn < fn + GSM_MAX_FN / 2
  · simp only [h, and_self, decide_true, Bool.not_true, Bool.false_eq_true, if_false, if_true]
  · simp only [h, decide_false, Bool.not_false, if_true, if_false]


/-- after `mframe_reset()` (invalid `safe_fn`) the next `mframe_schedule()` takes the whole
    target bitmap -/
theorem after_reset (tasks fn : Nat) : latch (mframeSet mframeReset tasks) fn = u32 tasks := by
  have h : (mframeSet mframeReset tasks).safeFn ≥ GSM_MAX_FN := by
    show (4294967295 : Nat) ≥ GSM_MAX_FN
    decide
  rw [latch_invalid _ _ h]
  rfl

/-- the active bitmap is always a subset of the target bitmap -/
theorem active_subset_target (rv : RvOf) (s s' : MfState) (fn : Nat) (evs : List Event)
    (h : mframeScheduleSt rv s fn = .ok (evs, s')) (i : Nat) (hb : s'.tasks.testBit i = true) :
    s'.tasksTgt.testBit i = true := by
  obtain ⟨h1, h2, _⟩ := schedule_calls_exact rv s s' fn evs h
  rw [h1] at hb
  rw [h2]
  exact latch_sub_tgt hb

/-- **`mframe_disable(t)` takes effect at the next `mframe_schedule()`**, whatever is in the
    way: the task's bit is clear in the target bitmap, every other bit (below 32) is
    unchanged, and from the next `mframe_schedule()` on the task is not active and none of its
    rows is handed to the TDMA scheduler. -/
theorem disable_takes_effect (s s1 : MfState) (t : Nat) (h : mframeDisable s t = .ok s1) :
    t < 32 ∧ s1.tasksTgt.testBit t = false ∧ s1.tasks = s.tasks ∧ s1.safeFn = s.safeFn ∧
    (∀ i, i < 32 → i ≠ t → s1.tasksTgt.testBit i = s.tasksTgt.testBit i) ∧
    ∀ rv fn evs s2, mframeScheduleSt rv s1 fn = .ok (evs, s2) →
      s2.tasks.testBit t = false ∧ s2.tasksTgt.testBit t = false ∧ ∀ e ∈ evs, e.p3 % 256 ≠ t := by
  unfold mframeDisable at h
  split at h
  · cases h
  · rename_i ht
    have ht : t < 32 := by omega
    simp only [Except.ok.injEq] at h
    subst h
    have hoff : (s.tasksTgt &&& (4294967295 - u32 (1 <<< t))).testBit t = false := by
      rw [disable_bit _ t ht t ht]; simp
    refine ⟨ht, hoff, rfl, rfl, fun i hi hne => ?_, fun rv fn evs s2 hs => ?_⟩
    · rw [disable_bit _ t ht i hi]
      have : decide (t = i) = false := by simp; omega
      simp [this]
    · obtain ⟨h1, h2, h3⟩ := schedule_calls_exact rv _ s2 fn evs hs
      have hl : (latch ⟨s.tasks, s.tasksTgt &&& (4294967295 - u32 (1 <<< t)), s.safeFn⟩ fn).testBit t = false :=
        Bool.eq_false_iff.2 fun hb => by
          have := latch_sub_tgt hb
          rw [hoff] at this
          cases this
      refine ⟨by rw [h1]; exact hl, by rw [h2]; exact hoff, fun e he hc => ?_⟩
      have hb := expectedCalls_p3 (fun i it hm => (itemsOf_row_ok i it hm).2) (h3 ▸ he)
      rw [hc, hl] at hb
      cases hb

/-- **`mframe_enable(t)` takes effect at the first `mframe_schedule()` at which nothing is in
    the way**: the task's bit is set in the target bitmap, every other bit is unchanged; at a
    following `mframe_schedule()` the task is active iff nothing scheduled earlier is in the
    way (`nothingInTheWay`) or it was active already. -/
theorem enable_takes_effect (s s1 : MfState) (t : Nat) (h : mframeEnable s t = .ok s1) :
    t < 32 ∧ s1.tasksTgt.testBit t = true ∧ s1.tasks = s.tasks ∧ s1.safeFn = s.safeFn ∧
    (∀ i, i ≠ t → s1.tasksTgt.testBit i = s.tasksTgt.testBit i) ∧
    ∀ rv fn evs s2, mframeScheduleSt rv s1 fn = .ok (evs, s2) →
      (s2.tasks.testBit t = true ↔ (nothingInTheWay s1 fn = true ∨ s.tasks.testBit t = true)) := by
  unfold mframeEnable at h
  split at h
  · cases h
  · rename_i ht
    have ht : t < 32 := by omega
    simp only [Except.ok.injEq] at h
    subst h
    have hon : (s.tasksTgt ||| u32 (1 <<< t)).testBit t = true := by
      rw [enable_bit _ t ht t]; simp
    refine ⟨ht, hon, rfl, rfl, fun i hne => ?_, fun rv fn evs s2 hs => ?_⟩
    · rw [enable_bit _ t ht i]
      have : decide (t = i) = false := by simp; omega
      simp [this]
    · obtain ⟨h1, _, _⟩ := schedule_calls_exact rv _ s2 fn evs hs
      rw [h1, latch_rule]
      by_cases hn : nothingInTheWay ⟨s.tasks, s.tasksTgt ||| u32 (1 <<< t), s.safeFn⟩ fn = true
      · simp only [hn, if_true, true_or, iff_true]
        exact hon
      · simp only [hn, Bool.false_eq_true, if_false, false_or]
        rw [Nat.testBit_and, hon, Bool.and_true]

/-- **A task that is switched off stays off**: over any history of `mframe_enable /
    mframe_disable / mframe_set / mframe_reset` and ticks (any frame numbers, any behaviour of
    the TDMA scheduler) in which no operation puts task bit `t` back into the target bitmap,
    starting from a state whose target bitmap does not have it, no row of task `t` is ever
    handed to the TDMA scheduler. -/
theorem task_off_stays_off (rv : RvOf) (t : Nat) (ht : t < 32) (ops : List FwOp)
    (hops : ∀ op ∈ ops, keepsOff t op = true) :
    ∀ (s s' : MfState) (evs : List Event), s.tasksTgt.testBit t = false →
      fwRun rv s ops = .ok (s', evs) → s'.tasksTgt.testBit t = false ∧ ∀ e ∈ evs, e.p3 % 256 ≠ t :=
  fwRun_keepsOff (fun i it hm => (itemsOf_row_ok i it hm).2) rv t ops hops

/-! ## non-vacuity -/

/-- BCCH + combined CCCH + SDCCH/4(0) from `mframe_reset(); mframe_set(...)`: at tick 0 (air
    frame 2) the BCCH block is started, with offset 1 and `p3` = task id -/
example : (match mframeScheduleSt (fun _ => 6)
      (mframeSet mframeReset ((1 <<< Task.BCCH_NORM.val) ||| (1 <<< Task.CCCH_COMB.val) ||| (1 <<< Task.SDCCH4_0.val))) 0 with
    | .ok (evs, s') => evs == [⟨1, .nb_sched_set, Task.BCCH_NORM.val⟩] && s'.tasks == 25 && s'.safeFn == 4
    | .error _ => false) = true := by decide +kernel

/-- while that block is running (`safe_fn = 4`) an enabled task has to wait, a disabled one
    goes at once; at tick 4 the enabled one is in -/
example : (match mframeEnable ⟨25, 25, 4⟩ Task.SDCCH4_1.val, mframeDisable ⟨25, 25, 4⟩ Task.SDCCH4_0.val with
    | .ok s1, .ok s2 =>
      latch s1 1 == 25 && latch s1 4 == 57 && latch s2 1 == 9
    | _, _ => false) = true := by decide +kernel

end OsmoVerif.Props.C11Fw
