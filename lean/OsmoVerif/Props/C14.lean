/-
C14 (toolkit half) — no datagram can crash the tools: whatever octets arrive on a control or
data socket, processing returns normally, malformed input has no effect, and the clock tick
cannot raise in any reachable world.  Property theorems only.
(The codec's `parse_only_valueerror` and the trxcon half are proved in their own modules.)
-/
import OsmoVerif.Lemmas.WorldSane
import OsmoVerif.Lemmas.WorldWiring
import OsmoVerif.Lemmas.WorldExamples

namespace OsmoVerif.Props.C14
open OsmoVerif OsmoVerif.World OsmoVerif.PyStr

/-- ANY datagram on the control socket of an existing transceiver: `handle_rx` returns normally
and sends at most one reply. -/
theorem handle_rx_never_raises (w : World) (i a p : Nat) (d : List Nat) (hi : i < w.trxs.length) :
    (handleRx w i a p d).exc = none ∧ (handleRx w i a p d).out.length ≤ 1 :=
  handleRx_total hi a p d

/-- Non-text octets, a wrong signature, or arguments `int()` rejects: the world is unchanged. -/
theorem malformed_ctrl_no_effect (w : World) (i a p : Nat) (d : List Nat) (hi : i < w.trxs.length)
    (h : decodeUtf8 (d.take Gen.World.ctrlRecvSize) = none ∨
         ∃ s, decodeUtf8 (d.take Gen.World.ctrlRecvSize) = some s ∧
           (startsWith s (lit "CMD") = false ∨
            parseCmd w i (splitSpace (stripNul (strip (s.drop 4)))) = .error .valueError)) :
    (handleRx w i a p d).world = w := by
  obtain ⟨t, ht⟩ := getElem?_of_lt hi
  rcases h with hd | ⟨s, hd, hp | hv⟩
  · rw [handleRx_undecodable a p ht hd]
  · rw [handleRx_noprefix a p ht hd hp]
  · cases hp : startsWith s (lit "CMD") with
    | false => rw [handleRx_noprefix a p ht hd hp]
    | true =>
      obtain ⟨rc, params, w', h, hpc⟩ := handleRx_reply a p ht hd hp
      rw [h]
      rcases hpc with hok | ⟨_, _, _, rfl⟩
      · rw [show request s = splitSpace (stripNul (strip (s.drop 4))) from rfl, hv] at hok; cases hok
      · rfl

/-- … so the rest of any history runs exactly as if the malformed datagram had never arrived:
a later valid command (or burst, or tick) behaves as from the same state. -/
theorem malformed_ctrl_then_run (w : World) (i sp : Nat) (d : List Nat) (ops : List Op)
    (hi : i < w.trxs.length)
    (h : decodeUtf8 (d.take Gen.World.ctrlRecvSize) = none ∨
         ∃ s, decodeUtf8 (d.take Gen.World.ctrlRecvSize) = some s ∧
           (startsWith s (lit "CMD") = false ∨
            parseCmd w i (splitSpace (stripNul (strip (s.drop 4)))) = .error .valueError)) :
    (run w (.ctrl i sp d :: ops)).1 = (run w ops).1 ∧
      (run w (.ctrl i sp d :: ops)).2.tail = (run w ops).2 ∧
      ((run w (.ctrl i sp d :: ops)).2.head?.map (·.exc)) = some none := by
  obtain ⟨t, ht⟩ := getElem?_of_lt hi
  have hw : (step w (.ctrl i sp d)).world = w := by
    simp only [step, ht]; exact malformed_ctrl_no_effect w i t.addr sp d hi h
  have he : (step w (.ctrl i sp d)).exc = none := by
    simp only [step, ht]; exact (handleRx_total hi t.addr sp d).1
  simp only [run, hw, List.tail_cons, List.head?_cons, Option.map_some, he, and_self]

/-- ANY datagram on the data socket of an existing transceiver: `recv_data_msg` returns normally
and sends nothing; a message that does not parse, carries another header version than the
negotiated one, or arrives while the transceiver is powered off, changes nothing. -/
theorem recv_data_never_raises (w : World) (i : Nat) (d : List Nat) (t : Trx)
    (ht : w.trxs[i]? = some t) :
    (recvDataMsg w i d).exc = none ∧ (recvDataMsg w i d).out = [] ∧
    (((∃ e, Trxd.TxMsg.parseMsg (d.take Gen.World.dataRecvSize) = .error e) ∨
      (∃ m, Trxd.TxMsg.parseMsg (d.take Gen.World.dataRecvSize) = .ok m ∧ m.ver ≠ t.hdrVer) ∨
      t.running = false) → (recvDataMsg w i d).world = w) := by
  rw [recvDataMsg_eq d ht]
  split
  · exact ⟨rfl, rfl, fun _ => rfl⟩
  next msg hm =>
    split
    · exact ⟨rfl, rfl, fun _ => rfl⟩
    next hv =>
      split
      · exact ⟨rfl, rfl, fun _ => rfl⟩
      next hr =>
        refine ⟨rfl, rfl, fun h => ?_⟩
        rcases h with ⟨e, he⟩ | ⟨m, hm', hne⟩ | hrun
        · rw [he] at hm; cases hm
        · rw [hm'] at hm; cases hm; exact absurd hne hv
        · rw [hrun] at hr; exact absurd (by simp) hr

/-- a well-formed message of the negotiated version for a running transceiver is queued (the only
effect `recv_data_msg` can have) -/
theorem recv_data_queues (w : World) (i : Nat) (d : List Nat) (t : Trx) (m : Trxd.TxMsg)
    (ht : w.trxs[i]? = some t)
    (hm : Trxd.TxMsg.parseMsg (d.take Gen.World.dataRecvSize) = .ok m)
    (hv : m.ver = t.hdrVer) (hr : t.running = true) :
    (recvDataMsg w i d).world = setTrx w i (fun t => { t with txQueue := t.txQueue ++ [m] }) := by
  rw [recvDataMsg_eq d ht, hm]
  simp only [hv, hr, ne_eq, not_true_eq_false, if_false]

/-! ### the clock tick (clck_tick → forward_msg → handle_data_msg → send_msg)

`Sane` (Lemmas/WorldSane.lean) is the invariant of reachable worlds: every configured hopping
object came out of `HoppingParams.__init__` (so `resolve` is total), `burst_drop_period ≥ 1`,
`burst_drop_amount ≥ 0`, the ToA/C-I thresholds and (while enabled) the RSSI threshold are ≥ 0,
`clck_src` exists while the generator runs, queued messages are as `parse_msg` leaves them
(fn/tn/pwr set, burst byte-valued). -/

/-- the start-up world of `Application.__init__` (any `--trx` list it accepts) is sane -/
theorem sane_build (seed : Nat) (extra : List (Nat × Nat × Nat)) (w : World)
    (h : build seed extra = .ok w) : Sane w := by
  obtain ⟨hs, hw⟩ := WorldPower.build_induction (P := fun _ ts => AllSane ts)
    (allSane_append (allSane_append (ts := []) (fun _ ht => nomatch ht) (trxSane_fresh ..)) (trxSane_fresh ..))
    (fun _ _ _ _ hP _ => allSane_append hP (trxSane_fresh ..))
    (fun _ _ _ _ _ _ hP _ _ _ =>
      allSane_modify (allSane_append hP (trxSane_fresh ..)) _ (fun _ ht => { ht with })) h
  exact ⟨hs, fun hr => by rw [hw] at hr; cases hr⟩

/-- every operation — any control datagram, any data datagram (an octet string), tick, clock
jump — keeps the invariant.  This is what breaks if a negative FAKE_TOA/FAKE_CI threshold, a
non-positive FAKE_DROP period or an HSN outside 0..63 is accepted again. -/
theorem sane_step (w : World) (op : Op) (ho : op.Octets) (h : Sane w) : Sane (step w op).world := by
  cases op with
  | ctrl i sp d =>
    simp only [step]
    split
    · rcases handleRx_world w i _ sp d with h' | ⟨_, _, h'⟩
      · rw [h']; exact h
      · exact parseCmd_sane h h'
    · exact h
  | data i d => exact recvDataMsg_sane i ho h
  | tick => exact (tick_ok h).2
  | jump fn =>
    simp only [step, jump]
    split
    · exact ⟨h.trxs, fun _ => rfl⟩
    · exact h

/-- in a sane world the clock tick cannot raise: no ZeroDivisionError (drop period), no
ValueError from `randint` (thresholds), no IndexError/ZeroDivisionError from the hopping
generator, no TypeError/struct.error/AttributeError from message translation and encoding. -/
theorem tick_never_raises (w : World) (h : Sane w) : (tick w).exc = none :=
  (tick_ok h).1

/-- whole histories from a sane world: no operation raises (control and data operations
addressed to existing transceivers, data datagrams being octet strings), the final world is sane -/
theorem run_never_raises (w : World) (ops : List Op) (h : Sane w)
    (hops : ∀ op ∈ ops, op.Octets ∧ op.InRange w.trxs.length) :
    Sane (run w ops).1 ∧ ∀ r ∈ (run w ops).2, r.exc = none := by
  induction ops generalizing w with
  | nil => exact ⟨h, fun r hr => by cases hr⟩
  | cons op ops ih =>
    obtain ⟨ho, hr⟩ := hops op List.mem_cons_self
    have hl := step_length w op
    obtain ⟨hs, he⟩ := ih (step w op).world (sane_step w op ho h) (fun o hm => by
      rw [hl]; exact hops o (List.mem_cons_of_mem _ hm))
    simp only [run]
    refine ⟨hs, fun r hr' => ?_⟩
    rcases List.mem_cons.mp hr' with rfl | hr'
    · exact step_exc op hr h
    · exact he r hr'

/-- … in particular every history of the start-up world -/
theorem built_run_never_raises (seed : Nat) (extra : List (Nat × Nat × Nat)) (w : World)
    (ops : List Op) (hb : build seed extra = .ok w)
    (hops : ∀ op ∈ ops, op.Octets ∧ op.InRange w.trxs.length) :
    ∀ r ∈ (run w ops).2, r.exc = none :=
  (run_never_raises w ops (sane_build seed extra w hb) hops).2

/-! ### non-vacuity -/

/-- the default application starts up and is sane -/
example : ∃ w, build 0 [] = .ok w ∧ Sane w ∧ w.trxs.length = 2 :=
  ⟨_, rfl, sane_build 0 [] _ rfl, rfl⟩

/-- an application with two child transceivers on the BTS side -/
example : ∃ w, build 7 [(addrBts, btsPort, 1), (addrBts, btsPort, 2)] = .ok w ∧ Sane w ∧
    w.trxs.length = 4 :=
  ⟨_, rfl, sane_build 7 [(addrBts, btsPort, 1), (addrBts, btsPort, 2)] _ rfl, rfl⟩

/-- hostile control datagrams: ignored or answered −1, never an exception, nothing changes -/
example : Ex.excs Ex.w0 [[0xff, 0xfe], [0xc0, 0x80], Ex.z "CMD RXTUNE 1e3", Ex.z "CMD SETFH a b c d",
      Ex.z "CMD FAKE_TOA 1 x", Ex.z "CMD MEASURE ٣", lit "CMD POWERON" ++ [0, 0, 0]] =
    [none, none, none, none, none, none, none] := by decide +kernel

/-- hostile data datagrams: short, unknown version, wrong version for the negotiated header -/
example : (recvDataMsg Ex.w0 1 []).exc = none ∧ (recvDataMsg Ex.w0 1 [0x20, 0, 0, 0, 0, 0]).exc = none ∧
    (recvDataMsg (Ex.live id) 1 (Ex.burst 0x10 5)).world.trxs.map (·.txQueue.length) = [0, 1] ∧
    (recvDataMsg (Ex.live id) 1 (Ex.burst 0 5)).world.trxs.map (·.txQueue.length) = [0, 2] := by
  decide +kernel

/-- a live world (both sides tuned to each other and running, one burst due): the tick forwards
the burst and sends the clock indications — no exception -/
example : (tick (Ex.live id)).exc = none ∧ (tick (Ex.live id)).out.length = 3 := by decide +kernel

/-- … and each clause of the invariant is needed: with a negative ToA threshold `randint` raises
ValueError, with a zero drop period the tick raises ZeroDivisionError, with a hopping object that
`__init__` would have refused (HSN 127) the generator raises IndexError — the states the repaired
FAKE_TOA / FAKE_DROP / SETFH handlers keep out. -/
example : (tick (Ex.live (fun t => { t with toaThr := -1 }))).exc = some .valueError ∧
    (tick (Ex.live (fun t => { t with ciThr := -1, hdrVer := 1 }))).exc = some .valueError ∧
    (tick (Ex.live (fun t => { t with dropAmount := 1, dropPeriod := 0 }))).exc =
      some .zeroDivisionError ∧
    (tick (Ex.live id (fun t => { t with fh := some ⟨127, 0, [(1, 2)], 1⟩ }))).exc =
      some .indexError := by decide +kernel

/-- the commands that would create such states are refused and leave the world sane -/
example : Ex.replies Ex.w0 [Ex.z "CMD FAKE_TOA 0 -1", Ex.z "CMD FAKE_CI 0 -1", Ex.z "CMD FAKE_DROP 1 0",
      Ex.z "CMD SETFH 127 0 1 2"] =
    [[Ex.z "RSP FAKE_TOA -1 0 -1"], [Ex.z "RSP FAKE_CI -1 0 -1"], [Ex.z "RSP FAKE_DROP -1 1 0"],
     [Ex.z "RSP SETFH -1 127 0 1 2"]] := by decide +kernel

end OsmoVerif.Props.C14
