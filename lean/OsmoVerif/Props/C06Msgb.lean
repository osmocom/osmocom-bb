/-
C06, message buffers under the serial link.  Property theorems only.

Part 1  the msgb operations of msgb.h / msgb.c (`Model/Msgb.lean`): the buffer invariant, the room
        conditions ("fails exactly when the room check fails"), the octet algebra, the queue as a
        first-in-first-out list.
Part 2  sercomm.c on these buffers (`Model/SercommMsgb.lean`) is the abstract link of
        `Model/Sercomm.lean`: simulation for every history; no `MSGB_ABORT`, no access outside a
        buffer is reachable from sercomm's calls; `end_to_end_partial` of Props/C06 restated for the
        machine with real buffers.

Two observations about msgb.h are pinned here with their witnesses (neither is on a path sercomm or
osmocon take): `msgb_get` returns `data − len` instead of the start of the removed octets
(`get_u8_after_put_u8_full_fails`), `msgb_trim` compares with `data_len` and ignores the headroom
(`trim_full_fails`).
-/
import OsmoVerif.Lemmas.Msgb
import OsmoVerif.Lemmas.SercommMsgb
import OsmoVerif.Props.C06

namespace OsmoVerif.Props.C06Msgb
open OsmoVerif OsmoVerif.Msgb OsmoVerif.Sercomm OsmoVerif.SercommMsgb OsmoVerif.Gen.Sercomm

/-! ## Part 1: the buffer -/

/-- The invariant in the words of the property: `head ≤ data ≤ tail ≤ head + data_len`,
`len = tail − data` (and `head` is the start of the `data_len` octets of `_data`). -/
theorem inv_textbook {m : Msgb} (i : Inv m) :
    m.head ≤ m.data ∧ m.data ≤ m.tail ∧ m.tail ≤ m.head + m.dataLen ∧ m.len = m.tail - m.data ∧
      m.head = 0 ∧ m.mem.length = m.dataLen := by
  exact ⟨i.head ▸ Nat.zero_le _, i.dt, by rw [i.head, Nat.zero_add]; exact i.te, i.len, i.head, i.mem⟩

/-- `msgb_alloc`: a fresh buffer satisfies the invariant for every requested size; the size is taken
modulo 2^16 (`uint16_t` parameter), all octets are zero, no headroom. -/
theorem alloc_ok (size : Nat) :
    Inv (alloc size) ∧ (alloc size).dataLen = size % 65536 ∧ headroom (alloc size) = 0 ∧
      tailroom (alloc size) = (size % 65536 : Nat) ∧ body (alloc size) = [] := by
  refine ⟨⟨rfl, Nat.le_refl _, Nat.zero_le _, rfl, List.length_replicate, Nat.mod_lt _ (by decide)⟩, rfl, rfl, ?_, ?_⟩
  · simp [tailroom, alloc, u16]
  · simp [body, alloc]

/-- `msgb_reset` restores the invariant whatever happened to the pointers before
(only `_data` must still be the array of `data_len < 2^16` octets). -/
theorem reset_ok (m : Msgb) (hmem : m.mem.length = m.dataLen) (hdl : m.dataLen < 65536) : Inv (reset m) :=
  ⟨rfl, Nat.le_refl _, Nat.zero_le _, rfl, hmem, hdl⟩

/-- `msgb_put_u8/_u16/_u32` append the value big endian (truncated to its width) -/
theorem put_typed (m : Msgb) (w : Nat) :
    putU8 m w = putBytes m [w % 256] ∧
    putU16 m w = putBytes m [w % 65536 / 256 % 256, w % 65536 % 256] ∧
    putU32 m w = putBytes m [w % 4294967296 / 16777216 % 256, w % 4294967296 / 65536 % 256,
      w % 4294967296 / 256 % 256, w % 4294967296 % 256] := by
  refine ⟨?_, ?_, ?_⟩
  · simp only [putU8, putBytes, writeBytes, Msgb.bind_ok]
    rfl
  · simp only [putU16, putBytes, writeBytes, Msgb.bind_ok]
    rfl
  · simp only [putU32, putBytes, writeBytes, Msgb.bind_ok]
    rfl

/-- **Invariant.** Every operation of msgb.h / msgb.c that returns normally keeps the invariant —
unconditionally for the operations that have a check (`msgb_put*`, `msgb_push`, `msgb_get*`) and for
`msgb_reset`, `msgb_reserve`, the queries; for the operations WITHOUT a check exactly when their room
condition holds (`msgb_pull*`: at most `len` octets; `msgb_trim`: a non-negative length). -/
theorem invariant_preserved {m m' : Msgb} {op : Msgb.Op} {r : Ret} (i : Inv m)
    (h : Msgb.step m op = .ok (m', r)) : Inv m' ↔ op.roomOk m := by
  cases op with
  | reset => cases h; exact iff_of_true (reset_ok m i.mem i.dl) trivial
  | tailroom | headroom | headlen | length => cases h; exact iff_of_true i trivial
  | put n =>
    obtain ⟨⟨m1, p⟩, h1, h⟩ := bind_eq_ok h
    cases h; exact iff_of_true (put_inv i h1) trivial
  | putBytes b =>
    obtain ⟨m1, h1, h⟩ := bind_eq_ok h
    cases h; exact iff_of_true (putBytes_ok i h1).1 trivial
  | putU8 w =>
    obtain ⟨m1, h1, h⟩ := bind_eq_ok h
    cases h; exact iff_of_true (putBytes_ok i ((put_typed m w).1 ▸ h1)).1 trivial
  | putU16 w =>
    obtain ⟨m1, h1, h⟩ := bind_eq_ok h
    cases h; exact iff_of_true (putBytes_ok i ((put_typed m w).2.1 ▸ h1)).1 trivial
  | putU32 w =>
    obtain ⟨m1, h1, h⟩ := bind_eq_ok h
    cases h; exact iff_of_true (putBytes_ok i ((put_typed m w).2.2 ▸ h1)).1 trivial
  | get n =>
    obtain ⟨⟨m1, p⟩, h1, h⟩ := bind_eq_ok h
    cases h; exact iff_of_true (get_inv i h1) trivial
  | getU8 =>
    obtain ⟨⟨m1, v⟩, h1, h⟩ := bind_eq_ok h
    cases h; exact iff_of_true (get_inv i (getU8_ok h1).1) trivial
  | getU16 =>
    obtain ⟨⟨m1, v⟩, h1, h⟩ := bind_eq_ok h
    obtain ⟨p, hg⟩ := getU16_ok h1
    cases h; exact iff_of_true (get_inv i hg) trivial
  | getU32 =>
    obtain ⟨⟨m1, v⟩, h1, h⟩ := bind_eq_ok h
    obtain ⟨p, hg⟩ := getU32_ok h1
    cases h; exact iff_of_true (get_inv i hg) trivial
  | push n =>
    obtain ⟨⟨m1, p⟩, h1, h⟩ := bind_eq_ok h
    cases h; exact iff_of_true (push_inv i h1) trivial
  | pushBytes b =>
    obtain ⟨m1, h1, h⟩ := bind_eq_ok h
    cases h; exact iff_of_true (pushBytes_ok i h1).1 trivial
  | pull n =>
    obtain ⟨⟨m1, p⟩, h1, h⟩ := bind_eq_ok h
    cases h; exact pull_inv_iff i h1
  | pullU8 =>
    obtain ⟨⟨m1, v⟩, h1, h⟩ := bind_eq_ok h
    cases h; exact pull_inv_iff i (pullU8_ok h1).1
  | pullU16 =>
    obtain ⟨⟨m1, v⟩, h1, h⟩ := bind_eq_ok h
    obtain ⟨a, b, hp, -⟩ := pullU16_ok h1
    cases h; exact pull_inv_iff i hp
  | pullU32 =>
    obtain ⟨⟨m1, v⟩, h1, h⟩ := bind_eq_ok h
    obtain ⟨a, b, c, d, hp, -⟩ := pullU32_ok h1
    cases h; exact pull_inv_iff i hp
  | reserve n =>
    obtain ⟨m1, h1, h⟩ := bind_eq_ok h
    cases h; exact iff_of_true (reserve_inv i h1) trivial
  | trim n =>
    obtain ⟨⟨m1, v⟩, h1, h⟩ := bind_eq_ok h
    cases h; exact trim_inv_iff i h1

/-- `tailroom + len + headroom = data_len` -/
theorem rooms_add_up {m : Msgb} (i : Inv m) : tailroom m + m.len + headroom m = m.dataLen := by
  have := i.sum
  simp only [tailroom, headroom, i.head]
  omega

/-- **Room checks.** `msgb_put(n)` returns normally exactly when `n ≤ tailroom`; otherwise it is the
`MSGB_ABORT` of the header for `n < 2^31`, and for `n ≥ 2^31` (where `(int) len` is negative and the
check passes) the tail pointer leaves the array. -/
theorem put_fails_iff {m : Msgb} (i : Inv m) {n : Nat} (hn : n < 4294967296) :
    (isOk (put m n) = true ↔ (n : Int) ≤ tailroom m) ∧
    (n < 2147483648 → ¬ (n : Int) ≤ tailroom m → put m n = .error .abort) ∧
    (¬ n < 2147483648 → put m n = .error .oob) := by
  refine ⟨isOk_iff.trans ⟨fun ⟨_, h⟩ => (le_tailroom_iff i).2 (put_ok h).2.1,
    fun h => ⟨_, put_fits i ((le_tailroom_iff i).1 h)⟩⟩, fun h1 h2 => ?_, fun h1 => put_huge i h1 hn⟩
  rw [put, toI32_small h1, if_pos (Int.not_le.1 h2)]

/-- `msgb_push(n)` returns normally exactly when `n ≤ headroom`; below 2^31 the failure is `MSGB_ABORT`. -/
theorem push_fails_iff {m : Msgb} (i : Inv m) {n : Nat} (hn : n < 4294967296) :
    (isOk (push m n) = true ↔ (n : Int) ≤ headroom m) ∧
    (n < 2147483648 → ¬ (n : Int) ≤ headroom m → push m n = .error .abort) := by
  refine ⟨isOk_iff.trans ⟨fun ⟨_, h⟩ => (le_headroom_iff i).2 (push_ok h).2.1,
    fun h => ⟨_, push_fits i ((le_headroom_iff i).1 h)⟩⟩, fun h1 h2 => ?_⟩
  rw [push, toI32_small h1, if_pos (Int.not_le.1 h2)]

/-- `msgb_get(n)`: `MSGB_ABORT` when the message is shorter than `n` (and the pointer `data − n` can
be formed); it returns normally exactly when `n ≤ len` and `n ≤ headroom` — the second condition only
because of the pointer it computes (see `get_u8_after_put_u8_full_fails`). -/
theorem get_fails_iff {m : Msgb} (i : Inv m) (n : Nat) :
    (isOk (get m n) = true ↔ n ≤ m.len ∧ n ≤ m.data) ∧
    (n ≤ m.data → m.len < n → get m n = .error .abort) := by
  refine ⟨isOk_iff.trans ⟨fun ⟨_, h⟩ => ⟨(get_ok h).2.1, (get_ok h).1⟩, fun ⟨h2, h1⟩ => ?_⟩, fun h1 h2 => ?_⟩
  · -- the third test (`tail − n`) never fires
    have h3 : n ≤ m.tail := Nat.le_trans h2 (i.sum ▸ Nat.le_add_left _ _)
    rw [Msgb.get, if_neg (Nat.not_lt.2 h1), if_neg (Nat.not_lt.2 h2), if_neg (Nat.not_lt.2 h3)]
    exact ⟨_, rfl⟩
  · rw [Msgb.get, if_neg (Nat.not_lt.2 h1), if_pos h2]

/-- `msgb_pull(n)` has no check at all: it returns normally whenever `data + n` is still inside the
array, and then the invariant survives exactly when `n ≤ len` — pulling more leaves `data` behind
`tail` and `len` wrapped around (`uint16_t`). -/
theorem pull_unchecked {m m' : Msgb} {n p : Nat} (i : Inv m) :
    (isOk (pull m n) = true ↔ m.data + n ≤ m.dataLen) ∧
    (pull m n = .ok (m', p) → (Inv m' ↔ n ≤ m.len)) ∧
    (pull m n = .ok (m', p) → m.len < n → n < 65536 → m'.tail < m'.data ∧ m'.len = m.len + 65536 - n) := by
  refine ⟨isOk_iff.trans ⟨fun ⟨_, h⟩ => (pull_ok h).1, fun h => ⟨_, by rw [Msgb.pull, if_neg (Nat.not_lt.2 h)]⟩⟩,
    pull_inv_iff i, fun h hlt hn => ?_⟩
  obtain ⟨-, rfl, -⟩ := pull_ok h
  refine ⟨i.sum ▸ Nat.add_lt_add_left hlt _, ?_⟩
  -- `len + 2^32 − n` is `len + 2^16 − n` above a multiple of 2^16
  have e : m.len + 4294967296 = m.len + 65536 + 65536 * 65535 := (Nat.add_assoc _ 65536 (65536 * 65535)).symm
  show u16 _ = _
  rw [u16, e, Nat.sub_add_comm (Nat.le_trans (Nat.le_of_lt hn) (Nat.le_add_left _ _)),
    Nat.add_mul_mod_self_left, Nat.mod_eq_of_lt (by omega)]

/-! ### octets -/

/-- `memcpy(msgb_put(msg, n), bytes, n)` appends, `memcpy(msgb_push(msg, n), bytes, n)` prepends -/
theorem put_appends_push_prepends {m m' : Msgb} {bs : List Nat} (i : Inv m) :
    (putBytes m bs = .ok m' → body m' = body m ++ bs ∧ Inv m') ∧
    (pushBytes m bs = .ok m' → body m' = bs ++ body m ∧ Inv m') :=
  ⟨fun h => ⟨(putBytes_ok i h).2.1, (putBytes_ok i h).1⟩, fun h => ⟨(pushBytes_ok i h).2.1, (pushBytes_ok i h).1⟩⟩

/-- `msgb_pull(n)` removes the first `n` octets, `msgb_get(n)` the last `n` -/
theorem pull_drops_get_trims {m m' : Msgb} {n p : Nat} (i : Inv m) :
    (pull m n = .ok (m', p) → body m' = (body m).drop n) ∧
    (get m n = .ok (m', p) → body m' = (body m).take (m.len - n)) :=
by
  refine ⟨fun h => ?_, fun h => ?_⟩
  · obtain ⟨-, rfl, -⟩ := pull_ok h
    simp only [body, List.drop_take, List.drop_drop, Nat.sub_sub]
  · obtain ⟨-, -, -, rfl, -⟩ := get_ok h
    show (m.mem.drop m.data).take (m.tail - n - m.data) = ((m.mem.drop m.data).take (m.tail - m.data)).take (m.len - n)
    rw [List.take_take, i.len, Nat.min_eq_left (Nat.sub_le _ _), Nat.sub_right_comm]

/-- `msgb_pull_u8/_u16/_u32` return the first octets of the message big endian and remove them;
`msgb_pull_u32` only returns when the first octet is below 0x80 (else `space[0] << 24` overflows `int`). -/
theorem pull_typed {m m' : Msgb} {v : Nat} (i : Inv m) :
    (1 ≤ m.len → pullU8 m = .ok (m', v) → body m = v :: body m') ∧
    (2 ≤ m.len → pullU16 m = .ok (m', v) → ∃ a b, body m = a :: b :: body m' ∧ v = a * 256 + b) ∧
    (4 ≤ m.len → pullU32 m = .ok (m', v) → ∃ a b c d, body m = a :: b :: c :: d :: body m' ∧ a < 128 ∧
      v = a * 16777216 + b * 65536 + c * 256 + d) := by
  refine ⟨fun hn h => ?_, fun hn h => ?_, fun hn h => ?_⟩
  · obtain ⟨h1, ha⟩ := pullU8_ok h
    obtain ⟨-, rfl, -⟩ := pull_ok h1
    have ht : m.data + 1 ≤ m.tail := i.sum ▸ Nat.add_le_add_left hn _
    simp only [body]
    exact drop_take_cons ht ha
  · obtain ⟨a, b, h1, ha, hb, hv⟩ := pullU16_ok h
    obtain ⟨-, rfl, -⟩ := pull_ok h1
    have ht : m.data + 2 ≤ m.tail := i.sum ▸ Nat.add_le_add_left hn _
    refine ⟨a, b, ?_, hv⟩
    simp only [body]
    rw [drop_take_cons (Nat.lt_of_succ_lt ht) ha, drop_take_cons ht hb]
  · obtain ⟨a, b, c, d, h1, ha, hb, hc, hd, h128, hv⟩ := pullU32_ok h
    obtain ⟨-, rfl, -⟩ := pull_ok h1
    have h3 : m.data + 3 < m.tail := i.sum ▸ Nat.add_le_add_left hn _
    have h2 := Nat.lt_of_succ_lt h3
    have h1 := Nat.lt_of_succ_lt h2
    refine ⟨a, b, c, d, ?_, h128, hv⟩
    simp only [body]
    rw [drop_take_cons (Nat.lt_of_succ_lt h1) ha, drop_take_cons h1 hb, drop_take_cons h2 hc,
      drop_take_cons h3 hd]

/-- a 16 bit value written with `msgb_put_u16` into an empty buffer comes back from `msgb_pull_u16` -/
theorem put_u16_pull_u16 {m m1 m2 : Msgb} {w v : Nat} (i : Inv m) (he : m.len = 0)
    (h1 : putU16 m w = .ok m1) (h2 : pullU16 m1 = .ok (m2, v)) : v = w % 65536 := by
  rw [(put_typed m w).2.1] at h1
  obtain ⟨i1, hb, -⟩ := putBytes_ok i h1
  have hl : (body m).length = 0 := by rw [body_length i, he]
  have hnil : body m = [] := List.eq_nil_of_length_eq_zero hl
  rw [hnil, List.nil_append] at hb
  have hlen : m1.len = 2 := by rw [← body_length i1, hb]; rfl
  obtain ⟨a, b, hab, hv⟩ := (pull_typed i1).2.1 (by omega) h2
  rw [hb] at hab
  simp only [List.cons.injEq] at hab
  obtain ⟨rfl, rfl, -⟩ := hab
  -- the two octets of `x = w % 2^16` are `x / 256` and `x % 256`
  have hx : w % 65536 / 256 < 256 := Nat.div_lt_of_lt_mul (Nat.mod_lt w (by decide))
  rw [hv, Nat.mod_eq_of_lt hx]
  exact Nat.div_add_mod' _ 256

/-! ### inverse pairs -/

/-- `msgb_put(n)` then `msgb_get(n)`, `msgb_push(n)` then `msgb_pull(n)`, `msgb_pull(n)` (within the
message) then `msgb_push(n)`: the buffer is as before. -/
theorem inverse_pairs {m m1 m2 : Msgb} {n p q : Nat} (i : Inv m) :
    (put m n = .ok (m1, p) → get m1 n = .ok (m2, q) → m2 = m) ∧
    (push m n = .ok (m1, p) → pull m1 n = .ok (m2, q) → m2 = m ∧ q = m.data) ∧
    (n ≤ m.len → pull m n = .ok (m1, p) → push m1 n = .ok (m2, q) → m2 = m ∧ q = m.data) :=
by
  refine ⟨fun h1 h2 => ?_, fun h1 h2 => ?_, fun hn h1 h2 => ?_⟩
  · have i2 := get_inv (put_inv i h1) h2
    obtain ⟨-, -, rfl, -⟩ := put_ok h1
    obtain ⟨-, -, -, rfl, -⟩ := get_ok h2
    exact i.move_eq i2 rfl (Nat.add_sub_cancel _ _)
  · obtain ⟨-, hb, rfl, -⟩ := push_ok h1
    have i1 : Inv { m with data := m.data - n, len := u16 (m.len + n) } := push_inv i h1
    have hl : n ≤ u16 (m.len + n) := by
      have := i.sum; have := i.te; have := i.dl
      rw [u16_of_lt (by omega)]; exact Nat.le_add_left _ _
    have i2 := (pull_inv_iff i1 h2).2 hl
    obtain ⟨-, rfl, rfl⟩ := pull_ok h2
    exact ⟨i.move_eq i2 (Nat.sub_add_cancel hb) rfl, Nat.sub_add_cancel hb⟩
  · have i2 := push_inv ((pull_inv_iff i h1).2 hn) h2
    obtain ⟨-, rfl, -⟩ := pull_ok h1
    obtain ⟨-, -, rfl, rfl⟩ := push_ok h2
    exact ⟨i.move_eq i2 (Nat.add_sub_cancel _ _) rfl, Nat.add_sub_cancel _ _⟩

/-- The pointer `msgb_get` returns is `data − n`: `msgb_get_u8` therefore reads the octet in front of
the message (in the headroom), not the octet it removes. -/
theorem get_u8_reads_headroom {m m' : Msgb} {v : Nat} (h : getU8 m = .ok (m', v)) :
    1 ≤ m.data ∧ m.mem[m.data - 1]? = some v :=
  ⟨(get_ok (getU8_ok h).1).1, (getU8_ok h).2⟩

/-- what one would expect: the value appended last comes back -/
def get_u8_after_put_u8_full : Prop :=
  ∀ (m m1 m2 : Msgb) (w v : Nat), Inv m → w < 256 → putU8 m w = .ok m1 → getU8 m1 = .ok (m2, v) → v = w

/-- … fails: `sercomm_alloc_msgb(8)`, `msgb_put_u8(0xAA)`, `msgb_get_u8()` returns 0 (the zeroed headroom). -/
theorem get_u8_after_put_u8_full_fails : ¬ get_u8_after_put_u8_full := by
  intro h
  have := h (scBuf 8) { scBuf 8 with tail := 5, len := 1, mem := [0, 0, 0, 0, 0xAA, 0, 0, 0, 0, 0, 0, 0] }
    { scBuf 8 with mem := [0, 0, 0, 0, 0xAA, 0, 0, 0, 0, 0, 0, 0] } 0xAA 0 (scBuf_inv (by decide)) (by decide) rfl rfl
  exact absurd this (by decide)

/-- what `msgb_trim` promises: a length it accepts (returns 0 for) fits the buffer.  In the model a `tail`
behind the array is the outcome `Fault.oob`, not a return value, so this form holds (`trim_inv_iff`); the
promise that can fail is `trim_inside_full`. -/
def trim_full : Prop :=
  ∀ (m : Msgb) (n : Int), Inv m → 0 ≤ n → ∀ r, trim m n = .ok r → r.2 = 0 → Inv r.1

/-- a non-negative length that passes the check (`len ≤ data_len`) never leaves the array -/
def trim_inside_full : Prop :=
  ∀ (m : Msgb) (n : Int), Inv m → 0 ≤ n → n ≤ m.dataLen → trim m n ≠ .error .oob

/-- … fails with headroom: `msgb_alloc_headroom(8, 4)`, `msgb_trim(msg, 8)`: `8 > data_len` is false,
`tail = data + 8` is 4 octets behind the array (the model's out-of-bounds outcome). -/
theorem trim_full_fails : ¬ trim_inside_full := by
  intro h
  exact h (scBuf 4) 8 (scBuf_inv (by decide)) (by decide) (by decide) rfl

/-- `msgb_trim` with the bound it would need: inside the tailroom it keeps the invariant -/
theorem trim_partial {m : Msgb} (i : Inv m) {n : Int} (h0 : 0 ≤ n) (h1 : (m.data : Int) + n ≤ m.dataLen) :
    ∃ m', trim m n = .ok (m', 0) ∧ Inv m' ∧ m'.len = n.toNat := by
  obtain ⟨k, rfl⟩ := Int.eq_ofNat_of_zero_le h0
  have h : m.data + k ≤ m.dataLen := Int.ofNat_le.1 h1
  have := i.dl
  refine ⟨{ m with len := k, tail := m.data + k }, ?_, i.move_iff.2 ⟨rfl, h⟩, (Int.toNat_natCast k).symm⟩
  rw [trim, if_neg (by omega), if_neg (by omega), u16i_natCast, u16_of_lt (by omega), ← Int.natCast_add,
    Int.toNat_natCast]

/-! ### `sercomm_alloc_msgb` -/

/-- For `1 ≤ n ≤ 65531` the buffer has exactly `n` octets of tailroom, 4 of headroom, is empty and
satisfies the invariant.  `n = 0` trips the static assert that is evaluated at run time; from 65532
to 65535 the `uint16_t` size wraps below the headroom and `msgb_reserve` leaves the array. -/
theorem sercomm_alloc_msgb_ok :
    (∀ n, 1 ≤ n → n ≤ 65531 → ∃ m, sercommAlloc n = .ok m ∧ Inv m ∧ tailroom m = n ∧ headroom m = 4 ∧
      m.len = 0 ∧ body m = []) ∧
    sercommAlloc 0 = .error .vla ∧
    (∀ n, 65532 ≤ n → n < 65536 → sercommAlloc n = .error .oob) := by
  refine ⟨fun n h1 h2 => ⟨scBuf n, sercommAlloc_small h1 h2, scBuf_inv h2, by simp [tailroom, scBuf], rfl, rfl,
    scBuf_body n⟩, rfl, fun n h1 h2 => ?_⟩
  -- `n + 4 = 2^16 + k` with `k < 4`: the `uint16_t` size is `k`, below the headroom
  obtain ⟨k, rfl⟩ := Nat.exists_eq_add_of_le h1
  have hk : k < 4 := by omega
  have e : u16 (65532 + k + 4) = k := by
    rw [u16, Nat.add_right_comm, Nat.add_mod_left, Nat.mod_eq_of_lt (Nat.lt_trans hk (by decide))]
  rw [sercommAlloc_eq (by omega), if_neg (by omega), e, reserve_alloc (Nat.lt_trans hk (by decide)),
    if_neg (Nat.not_le.2 hk)]

/-! ### the queue -/

/-- **FIFO.** `msgb_enqueue` / `msgb_dequeue` on the linked `struct llist_head` cells
(`__llist_add`, `__llist_del`, poisoning) are a first-in-first-out queue: starting from a list head
that represents the list `l`, every history in which a buffer is enqueued only while it is in no queue
returns exactly what the list queue returns (`none` = NULL on the empty queue), and the cells keep
representing the list (forward and backward links). -/
theorem queue_is_fifo (q : Nat) (ops : List QOp) (h : Heap) (l : List Nat) (hq : IsQueue h q l)
    (hl : qLegal q l ops) :
    (qImplRun q h ops).2 = (qSpecRun l ops).2 ∧ IsQueue (qImplRun q h ops).1 q (qSpecRun l ops).1 :=
  queue_refines q ops h l hq hl

/-- `INIT_LLIST_HEAD` makes the empty queue -/
theorem queue_init (h : Heap) (q : Nat) : IsQueue (initHead h q) q [] := by
  refine ⟨?_, by simp⟩
  simp [Seg, initHead]

/-! ## Part 2: sercomm.c on these buffers -/

/-- **Refinement.** For every history — any interleaving of `sercomm_sendmsg` (queue index inside
the array; the caller's buffer from `sercomm_alloc_msgb(a)` with `1 ≤ a ≤ 65531` and the payload put
into it no longer than `a`), `sercomm_drv_pull`, pulls fed to `sercomm_drv_rx_char`, and arbitrary
foreign octets — on a configuration whose echo handlers are inside the queue array, starting from
`sercomm_init`:
* the machine on real message buffers does not stop with a fault: no `MSGB_ABORT` (`msgb_push` of the
  header, `msgb_put` of a received octet), no pointer outside a buffer, no read at or behind `tail`;
* its observations (octets pulled, callbacks with DLCI and `msg->data[0 .. msg->len)`, overflow
  returns) are exactly those of the abstract machine of `Model/Sercomm.lean`, and the abstract
  machine reports no fault either;
* the receive buffer, when there is one, satisfies the buffer invariant, has the 4 octets of headroom
  and `SERCOMM_RX_MSG_SIZE + 4` octets in all, and holds exactly the abstract buffer. -/
theorem sercomm_on_msgb_refines (c : Cfg) (size nq : Nat) (allocOf : Nat → Nat) (ops : List Sercomm.Op)
    (h1 : 1 ≤ size) (h2 : size ≤ 65531) (hc : c.cap = size) (hecho : ∀ d, c.echo d = true → d < nq)
    (hops : OpsOk nq allocOf ops) :
    ∃ cw, CWorld.run c size allocOf (CWorld.init nq) ops = .ok cw ∧
      cw.trace = (World.run c (World.init nq) ops).trace ∧
      (World.run c (World.init nq) ops).fault = false ∧
      (World.run c (World.init nq) ops).rx.abort = false ∧
      (match cw.rx.msg with
        | none => (World.run c (World.init nq) ops).rx.msg = none
        | some m => Inv m ∧ m.data = 4 ∧ m.dataLen = size + 4 ∧
            (World.run c (World.init nq) ops).rx.msg = some (body m)) := by
  obtain ⟨cw, hrun, hw⟩ := run_rel (allocOf := allocOf) ⟨h1, h2, hc, hecho⟩ ops (init_rel size nq) hops
  refine ⟨cw, hrun, hw.trace, hw.nofault, hw.rx.abort, ?_⟩
  have := hw.rx.msg
  cases hm : cw.rx.msg with
  | none => rw [hm] at this; exact this
  | some m => rw [hm] at this; exact ⟨this.1.inv, this.1.data, this.1.dataLen, this.2⟩

/-- **No abort, no out-of-bounds access.** Restated as: no fault of any kind is the outcome of any
such history.  With `rx_len_le_cap` of Props/C06 this makes the memory safety of `msgb_put` a
statement about the msgb the code really uses: `len ≤ SERCOMM_RX_MSG_SIZE = tailroom of a fresh
buffer`, and the `MSGB_ABORT` in `msgb_put` is unreachable from `sercomm_drv_rx_char`. -/
theorem no_msgb_fault_reachable (c : Cfg) (size nq : Nat) (allocOf : Nat → Nat) (ops : List Sercomm.Op)
    (h1 : 1 ≤ size) (h2 : size ≤ 65531) (hc : c.cap = size) (hecho : ∀ d, c.echo d = true → d < nq)
    (hops : OpsOk nq allocOf ops) (f : CFault) :
    CWorld.run c size allocOf (CWorld.init nq) ops ≠ .error f := by
  obtain ⟨cw, hrun, _⟩ := sercomm_on_msgb_refines c size nq allocOf ops h1 h2 hc hecho hops
  rw [hrun]
  exact fun h => by cases h

/-- the receive buffer never holds more than `SERCOMM_RX_MSG_SIZE` octets, and `msgb_tailroom` is what
is left of them -/
theorem rx_msgb_bounded (c : Cfg) (size nq : Nat) (allocOf : Nat → Nat) (ops : List Sercomm.Op)
    (h1 : 1 ≤ size) (h2 : size ≤ 65531) (hc : c.cap = size) (hecho : ∀ d, c.echo d = true → d < nq)
    (hops : OpsOk nq allocOf ops) :
    ∃ cw, CWorld.run c size allocOf (CWorld.init nq) ops = .ok cw ∧
      ∀ m, cw.rx.msg = some m → m.len ≤ size ∧ tailroom m = ((size - m.len : Nat) : Int) := by
  obtain ⟨cw, hrun, _, _, _, hm⟩ := sercomm_on_msgb_refines c size nq allocOf ops h1 h2 hc hecho hops
  refine ⟨cw, hrun, fun m hmm => ?_⟩
  rw [hmm] at hm
  obtain ⟨i, hd, hdl, -⟩ := hm
  have hb : RxBuf size m := ⟨i, hd, hdl⟩
  exact ⟨hb.len_le, hb.tailroom⟩

/-- **End to end on real buffers.** The histories `end_to_end_partial` (Props/C06) speaks about, run
on the machine with real message buffers: no fault, and the callbacks made / octets pulled are those
of the abstract priority link (identical DLCI and payload, exactly once, FIFO per DLCI, lowest DLCI
first; wire = frames). -/
theorem end_to_end_on_msgb (c : Cfg) (nq : Nat) (allocOf : Nat → Nat) (ops : List Sercomm.Op) (hcfg : CfgOk c)
    (h2 : c.cap ≤ 65531) (hecho : ∀ d, c.echo d = true → d < nq)
    (hops : opsOk c nq Spec.Sercomm.Link.init ops) (halloc : OpsOk nq allocOf ops) :
    ∃ cw, CWorld.run c c.cap allocOf (CWorld.init nq) ops = .ok cw ∧
      deliveries cw.trace.reverse = (specRun c.cap Spec.Sercomm.Link.init ops).delivered.map (fun m => (m.dlci, m.payload)) ∧
      pulledOctets cw.trace.reverse = (specRun c.cap Spec.Sercomm.Link.init ops).wire := by
  obtain ⟨cw, hrun, htr, _⟩ := sercomm_on_msgb_refines c c.cap nq allocOf ops hcfg.1 h2 rfl hecho halloc
  have h := Props.C06.end_to_end_partial c nq ops hcfg hops
  refine ⟨cw, hrun, ?_, ?_⟩
  · rw [htr]; exact h.2.2.2.1
  · rw [htr]; exact h.2.2.2.2

/-! ### non-vacuity -/

/-- the harness' caller: `sercomm_alloc_msgb(max n 1)` -/
def allocHarness (n : Nat) : Nat := max n 1
/-- osmocon's `hdlc_send_to_phone`: `sercomm_alloc_msgb(512)` -/
def allocOsmocon (_ : Nat) : Nat := 512

instance (nq : Nat) (allocOf : Nat → Nat) (op : Sercomm.Op) : Decidable (OpOk nq allocOf op) := by
  cases op <;> simp only [OpOk] <;> infer_instance

instance (nq : Nat) (allocOf : Nat → Nat) (ops : List Sercomm.Op) : Decidable (OpsOk nq allocOf ops) := by
  unfold OpsOk; infer_instance

example : OpsOk nTxQueues allocHarness Props.C06.sampleHistory := by decide +kernel
example : OpsOk nTxQueues allocOsmocon (Props.C06.sampleHistory.take 56) := by decide +kernel
example : ∀ d, Props.C06.cfgTarget.echo d = true → d < nTxQueues := by
  intro d h; simp [Props.C06.cfgTarget] at h; subst h; decide
example : (1 : Nat) ≤ rxMsgSizeTarget + allocSlack ∧ rxMsgSizeHost + allocSlack ≤ 65531 := by decide
/-- a buffer in the middle of its life: `sercomm_alloc_msgb(8)`, three octets put, header pushed -/
example : ∃ m, (do
    let m ← sercommAlloc 8
    let m ← putBytes m [0x7E, 0x00, 0x41]
    pushBytes m [5, 3]) = .ok m ∧ body m = [5, 3, 0x7E, 0x00, 0x41] ∧ Inv m ∧ tailroom m = 5 ∧ headroom m = 2 :=
  ⟨_, rfl, by decide, by decide, by decide, by decide⟩
example : IsQueue (enqueue (enqueue (initHead (fun _ => ⟨0, 0⟩) 1) 1 7) 1 9) 1 [7, 9] :=
  enqueue_refines (enqueue_refines (queue_init _ 1) (by decide)) (by decide)
example : qLegal 1 [] ([.enq 7, .enq 9, .deq, .enq 7, .deq, .deq] : List QOp) := by
  simp [qLegal, qSpec]

end OsmoVerif.Props.C06Msgb
