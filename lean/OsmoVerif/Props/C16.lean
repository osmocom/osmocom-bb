/-
C16 — Declarative codec: encode and decode are mutually inverse and length-exact.
Property theorems only.  Model: `OsmoVerif.Model.Codec` (codec.py), hypotheses `WF`/`InRange`:
`OsmoVerif.Spec.Codec`, lemmas: `OsmoVerif.Lemmas.Codec*`.

All theorems quantify over EVERY definition `d` of the definition language (any composition of the
building blocks, any nesting depth, any number of sequence items) — not only depth ≤ 3.
-/
import OsmoVerif.Lemmas.CodecTyped

namespace OsmoVerif.Props.C16
open OsmoVerif OsmoVerif.Codec

/-- a well-formed definition can be constructed (no `ProtocolError` from any `BitFieldSet.__init__`) -/
theorem wf_constructs (d : EnvDef) (hw : WF d) : construct d = .ok () := by
  rw [construct, constructFields_of_wf d.fs hw.1, if_pos rfl]

/-! ## decoding the encoding of in-range values returns those values -/

/-- `dec (enc v) = v`: an in-range value encodes, the encoding has the declared length, and decoding it
returns exactly `v` and consumes exactly the encoding. -/
theorem dec_enc (d : EnvDef) (v : Vals) (hw : WF d) (hr : InRange d v 0) :
    ∃ b, toBytes d v = .ok b ∧ declLen d v 0 = some b.length ∧ fromBytes d b = .ok (v, b.length) := by
  obtain ⟨b, he, hl, hd⟩ := roundtrip d v [] hw.1 hr
  rw [List.append_nil] at hd
  exact ⟨b, he, hl, fromBytes_ok_iff.2 ⟨hd, fun _ => rfl⟩⟩

/-- the same with octets following the message (a definition that does not check its length):
the tail is left alone, exactly the encoding is consumed. -/
theorem dec_enc_tail (d : EnvDef) (v : Vals) (tail : List Nat) (hw : WF d) (hcl : d.checkLen = false)
    (hr : InRange d v tail.length) :
    ∃ b, toBytes d v = .ok b ∧ declLen d v tail.length = some b.length
      ∧ fromBytes d (b ++ tail) = .ok (v, b.length) := by
  obtain ⟨b, he, hl, hd⟩ := roundtrip d v tail hw.1 hr
  exact ⟨b, he, hl, fromBytes_ok_iff.2 ⟨hd, fun h => by rw [hcl] at h; cases h⟩⟩

/-! ## re-encoding a decoded message reproduces the canonical octets -/

/-- `enc (dec b)`: whatever decodes is an in-range value; it re-encodes to an octet string `c` of exactly
the consumed length, and `c` put in place of the consumed octets decodes to the same value with the
same consumption (`c` is the canonical form of the consumed octets). -/
theorem enc_dec (d : EnvDef) (b : List Nat) (v : Vals) (n : Nat) (hw : WF d) (hb : isBytes b = true)
    (h : fromBytes d b = .ok (v, n)) :
    n ≤ b.length ∧ InRange d v (b.length - n) ∧
    ∃ c, toBytes d v = .ok c ∧ c.length = n ∧ fromBytes d (c ++ b.drop n) = .ok (v, n) := by
  obtain ⟨h1, h2, hcl, _⟩ := decoded d b v n hw hb h
  have hr : InRange d v (b.drop n).length := by unfold InRange; rw [List.length_drop, h2]; rfl
  obtain ⟨c, f1, f2, f3⟩ := roundtrip d v (b.drop n) hw.1 hr
  rw [List.length_drop, h2] at f2
  cases f2
  refine ⟨h1, by rwa [List.length_drop] at hr, c, f1, rfl, fromBytes_ok_iff.2 ⟨f3, fun h => ?_⟩⟩
  rw [List.length_append, List.length_drop, ← hcl h, Nat.sub_self, Nat.add_zero]

/-- canonical octets are a fixed point: decoding `c = enc v` (obtained from any decodable `b`) and
encoding again gives `c`. -/
theorem enc_dec_idem (d : EnvDef) (b : List Nat) (v : Vals) (n : Nat) (hw : WF d) (hb : isBytes b = true)
    (hcl : d.checkLen = true) (h : fromBytes d b = .ok (v, n)) :
    n = b.length ∧ ∃ c, toBytes d v = .ok c ∧ c.length = n ∧ fromBytes d c = .ok (v, n) := by
  obtain ⟨_, _, c, h3, h4, h5⟩ := enc_dec d b v n hw hb h
  have hn : n = b.length := ((decoded d b v n hw hb h).2.2.1 hcl).symm
  refine ⟨hn, c, h3, h4, ?_⟩
  rwa [hn, List.drop_length, List.append_nil, ← hn] at h5

/-- for a definition without spare parts (no Spare fields, no spare or padding bits: every octet carries a
decoded value) the canonical octets ARE the consumed octets: `enc (dec b) = b[:n]`. -/
theorem enc_dec_exact (d : EnvDef) (b : List Nat) (v : Vals) (n : Nat) (hw : WF d) (hs : noSpareFields d.fs = true)
    (hb : isBytes b = true) (h : fromBytes d b = .ok (v, n)) : toBytes d v = .ok (b.take n) :=
  (decoded d b v n hw hb h).2.2.2 hs

/-! ## decoding consumes exactly the octets the definition declares -/

/-- the number of octets consumed is the declared length of the decoded value; with `check_len`
it is the whole buffer. -/
theorem length_exact (d : EnvDef) (b : List Nat) (v : Vals) (n : Nat) (hw : WF d) (hb : isBytes b = true)
    (h : fromBytes d b = .ok (v, n)) :
    declLen d v (b.length - n) = some n ∧ (d.checkLen = true → n = b.length) :=
  have ⟨_, h2, hcl, _⟩ := decoded d b v n hw hb h
  ⟨h2, fun h => (hcl h).symm⟩

/-- trailing octets after a complete message are rejected with DecodeError when length checking is on. -/
theorem trailing_rejected (d : EnvDef) (v : Vals) (tail : List Nat) (hw : WF d) (hcl : d.checkLen = true)
    (ht : tail ≠ []) (hr : InRange d v tail.length) :
    ∃ b, toBytes d v = .ok b ∧ fromBytes d (b ++ tail) = .error .decode := by
  obtain ⟨b, he, _, hd⟩ := roundtrip d v tail hw.1 hr
  refine ⟨b, he, ?_⟩
  have : tail.length ≠ 0 := fun h => ht (List.length_eq_zero_iff.1 h)
  rw [fromBytes, hd, tailCheck, if_pos ⟨hcl, by rw [List.length_append]; omega⟩]

/-! ## errors are the codec's own -/

/-- decoding with a well-formed definition never raises anything but `DecodeError` (short input, fixed-value
mismatch, trailing octets, KeyError/ValueError of a callback … are all wrapped); it cannot fail with
ProtocolError and cannot hang.  `unmodelled` = a length callback returned a non-int/negative value
(outside the model, see Model/Codec.lean). -/
theorem errors_own_decode (d : EnvDef) (b : List Nat) (e : Err) (hw : WF d)
    (h : fromBytes d b = .error e) : e = .decode ∨ e = .unmodelled := by
  rcases tailCheck_error h with he | rfl
  · rcases envFrom_error_cases _ _ _ _ _ he with h1 | h1
    · exact .inl h1
    · exact .inr (benign_not_catchable ((envEB d.fs hw.1).1 _ _ _ _ he) h1)
  · exact .inl rfl

/-- when, in addition, every length callback reads a field that can only hold a non-negative int
(`RefsOK`: bit-fields, unsigned integers with non-negative offset and multiplier), decoding ANY octet
string either succeeds or raises `DecodeError` — nothing else, for every definition at any depth. -/
theorem errors_own_decode_strict (d : EnvDef) (b : List Nat) (e : Err) (hw : WF d) (hr : RefsOK d)
    (h : fromBytes d b = .error e) : e = .decode := by
  rcases tailCheck_error h with he | rfl
  · rcases errors_own_decode d b e hw h with h1 | rfl
    · exact h1
    · exact absurd rfl (envNU d.fs hw.1 hr hw.2 b 0 _ he)
  · rfl

/-- encoding with a well-formed definition never raises anything but `EncodeError` (missing key, integer
that does not fit, wrong buffer length, division by zero … are all wrapped). `unmodelled` = a value of
the wrong Python type for its field. -/
theorem errors_own_encode (d : EnvDef) (v : Vals) (e : Err) (hw : WF d)
    (h : toBytes d v = .error e) : e = .encode ∨ e = .unmodelled := by
  simp only [toBytes] at h
  rcases envTo_error_cases _ _ _ h with h1 | h1
  · exact .inl h1
  · exact .inr (benign_not_catchable ((envEB d.fs hw.1).2 _ _ h) h1)

/-- short input: a present field whose length callback asks for more octets than there are raises
`DecodeError('Short read')` -/
theorem short_read (pres : Pres) (glen : Vals → Nat → Except Err Nat) (body : Vals → List Nat → Except Err Vals)
    (pre : Vals) (data : List Nat) (n : Nat) (hp : getPres pres pre = .ok true)
    (hg : glen pre data.length = .ok n) (hs : data.length < n) :
    fieldFromCore pres glen body pre data = .error .decode := by
  simp only [fieldFromCore, hp, hg, hs, if_true]

/-- fixed-value mismatch: a bit-field with `val = c` that reads something else raises `DecodeError` -/
theorem fixed_value_mismatch (f : BitF) (o : Nat) (rest : List (BitF × Nat)) (pre : Vals) (blob : Nat)
    (name : String) (c : Int) (hn : f.name = some name) (hv : f.val = some c)
    (hne : (((blob >>> o) % 2 ^ f.bl : Nat) : Int) ≠ c) :
    bitsDec ((f, o) :: rest) pre blob = .error .decode := by
  simp only [bitsDec, hn, hv, ne_eq, hne, not_false_eq_true, if_true]

/-- unencodable integer: a value that does not fit the field's width raises `OverflowError` in the field,
which the envelope turns into `EncodeError` -/
theorem unencodable_int (name : String) (len : Nat) (bo : BO) (sg : Bool) (off mult x : Int)
    (fs : List FDef) (v : Vals) (hg : v.get name = .ok (.int x)) (hm : mult ≠ 0)
    (hfit : fitsInt len sg (Int.fdiv (x - off) mult) = false) :
    fieldTo (.int name .always len bo sg off mult) v = .error .overflow
    ∧ envTo (.int name .always len bo sg off mult :: fs) v = .error .encode := by
  have h1 : fieldTo (.int name .always len bo sg off mult) v = .error .overflow := by
    simp only [fieldTo, fieldToCore, getPres, intEnc, Vals.getInt, hg, hm, if_false]
    rw [intToBytes_of_not_fits _ _ _ _ (by simp [hfit])]
  exact ⟨h1, by simp only [envTo, h1, wrapEnc]⟩

/-- wrong fixed buffer length: `EncodeError('Field length mismatch')` -/
theorem wrong_buf_length (name : String) (n : Nat) (b : List Nat) (v : Vals) (hg : v.get name = .ok (.bytes b))
    (hn : n > 0) (hl : b.length ≠ n) :
    fieldTo (.buf name .always (.fixed n)) v = .error .encode := by
  simp [fieldTo, fieldToCore, getPres, Vals.getBytes, hg, LenD.selfLen, hn, hl]

/-! ## over-wide bit-field values are truncated without disturbing the neighbours -/

/-- Encoding a BitFieldSet with an arbitrary (over-wide, even negative) value `y` for its field `n` of
width `bl` produces exactly the octets obtained with the masked value `y mod 2^bl`: the field is
truncated to its width and every neighbouring field keeps its bits. -/
theorem bitfield_trunc (pres : Pres) (len : Nat) (little : Bool) (fs : List BitF) (v : Vals)
    (n : String) (y : Int) (bl : Nat)
    (hbl : ∀ f ∈ fs, f.name = some n → f.bl = bl) (hpres : n ∉ pres.reads) :
    fieldTo (.bits pres len little fs) (Vals.set v n (.int y))
      = fieldTo (.bits pres len little fs) (Vals.set v n (.int (y % ((2 ^ bl : Nat) : Int)))) := by
  simp only [fieldTo]
  cases hd : bitsDerive len little fs with
  | error e => rfl
  | ok r =>
    obtain ⟨l, offs⟩ := r
    simp only [fieldToCore, getPres_set_ne pres v n _ hpres, bitsEncBytes]
    have hoffs : ∀ f ∈ offs, f.1.name = some n → f.1.bl = bl := fun f hf hname =>
      hbl f.1 (mem_bitsOrdered.1 ((bitsDerive_ok hd).2.2 ▸ List.mem_map_of_mem hf)) hname
    rw [bitsEnc_trunc offs v n y bl 0 hoffs]

/-- … and decoding those octets returns the masked value and the neighbours' own values (instance of
`dec_enc` for the masked assignment, stated here for a one-set definition). -/
theorem bitfield_trunc_decodes (len : Nat) (little : Bool) (fs : List BitF) (v : Vals)
    (hw : WF ⟨true, [.bits .always len little fs]⟩) (hr : InRange ⟨true, [.bits .always len little fs]⟩ v 0) :
    ∃ b, toBytes ⟨true, [.bits .always len little fs]⟩ v = .ok b
      ∧ fromBytes ⟨true, [.bits .always len little fs]⟩ b = .ok (v, b.length) := by
  obtain ⟨b, h1, _, h3⟩ := dec_enc _ v hw hr
  exact ⟨b, h1, h3⟩

/-! ## termination of the sequence loop (F13) -/

/-- the fuel `len(data)` of the model's sequence loop is never exhausted, whatever the item decoder `proc` is
(a round after which the loop goes on has consumed ≥ 1 octet; consuming 0 ends in `hang`): once `fuel + off ≥ len(data)`, more fuel gives the
same result. -/
theorem seq_fuel_suffices (proc : List Nat → Except Err (Vals × Nat)) :
    ∀ (fuel : Nat) (data : List Nat) (off : Nat) (acc : List Val),
      fuel + off ≥ data.length → seqLoop proc (fuel + 1) data off acc = seqLoop proc fuel data off acc := by
  intro fuel
  induction fuel with
  | zero => intro data off acc hf; rw [seqLoop_done (by omega), seqLoop_done (by omega)]
  | succ fuel ih =>
    intro data off acc hf
    by_cases hlt : off < data.length
    · rw [seqLoop_step hlt, seqLoop_step hlt]
      cases hp : proc (List.drop off data) with
      | error e => rfl
      | ok r =>
        obtain ⟨v, k⟩ := r
        simp only
        by_cases hk : k = 0
        · rw [if_pos hk, if_pos hk]
        · rw [if_neg hk, if_neg hk]; exact ih _ _ _ (by omega)
    · rw [seqLoop_done (by omega), seqLoop_done (by omega)]

/-- the real `Sequence.from_bytes` does not terminate on an item that decodes zero octets; the model
reports it as `hang` (known finding F13; last conjunct, an item decoder that returns 0); `WF` excludes such
definitions.  The first three conjuncts are sequences outside `WF` (`minLen item = 0`) that do not get there:
the item raises (`KeyError` of a missing flag or length field, wrapped into `DecodeError`) or the buffer is empty. -/
theorem seq_zero_item_hangs :
    fromBytes ⟨true, [.seq "s" .always .rest [.buf "x" (.flagTrue "nothere") .rest]]⟩ [1] = .error .decode
    ∧ fromBytes ⟨true, [.seq "s" .always .rest [.int "n" .always 0 .big false 0 1, .buf "x" .always (.fixed 0)]]⟩ []
        = .ok ([("s", .list [])], 0)
    ∧ fromBytes ⟨true, [.seq "s" .always .rest [.spare "p" .always (.ofField "q") [0]]]⟩ [1] = .error .decode
    ∧ seqLoop (fun _ => .ok ([], 0)) 5 [1, 2, 3] 0 [] = .error .hang := by
  decide +kernel

/-! ## non-vacuity -/

/-- a definition with every building block (nesting depth 3, both bit orders, optional and
variable-length fields, a sequence) is well-formed … -/
def exampleDef : EnvDef := ⟨true, [
  .bits .always 0 false [⟨some "ver", 4, some 2⟩, ⟨none, 1, none⟩, ⟨some "flag", 1, none⟩, ⟨some "code", 2, none⟩],
  .int "len" .always 1 .big false 0 1,
  .int "temp" .always 2 .little true (-40) (-3),
  .buf "data" .always (.ofField "len"),
  .spare "pad" (.flagTrue "flag") (.table "code" [(0, 1), (1, 2), (3, 0)]) [255],
  .env "inner" (.flagFalse "flag") (.fixed 3) true [
    .bits .always 2 true [⟨some "a", 3, none⟩, ⟨some "b", 9, none⟩, ⟨none, 4, none⟩],
    .env "deep" .always .rest true [.int "z" .always 1 .big true 5 2]],
  .seq "items" .always .rest [
    .int "t" .always 1 .big false 0 1,
    .int "l" .always 1 .big false 0 1,
    .buf "v" .always (.ofField "l")]]⟩

example : WF exampleDef := by decide +kernel
example : RefsOK exampleDef := by decide +kernel

/-- a spare-free definition (every bit named, 16 bits in 2 octets, LSB-first, nested envelope and sequence) -/
def exactDef : EnvDef := ⟨false, [
  .bits .always 0 true [⟨some "a", 3, none⟩, ⟨some "b", 9, some 300⟩, ⟨some "c", 4, none⟩],
  .int "n" .always 1 .big false 0 1,
  .env "e" .always (.ofField "n") true [.int "x" .always 2 .little true (-7) 3, .buf "y" .always .rest],
  .seq "s" .always (.fixed 4) [.int "t" .always 1 .big false 0 1, .buf "u" .always (.fixed 1)]]⟩

example : WF exactDef ∧ noSpareFields exactDef.fs = true := by decide +kernel
example : fromBytes exactDef [89, 101, 3, 1, 2, 9, 7, 8, 9, 10, 99] =
    .ok ([("c", .int 5), ("b", .int 300), ("a", .int 5), ("n", .int 3), ("e", .dict [("x", .int 1532), ("y", .bytes [9])]),
          ("s", .list [.dict [("t", .int 7), ("u", .bytes [8])], .dict [("t", .int 9), ("u", .bytes [10])]])], 10) := by
  decide +kernel

def exampleVal : Vals := [
  ("ver", .int 2), ("flag", .int 0), ("code", .int 1), ("len", .int 2), ("temp", .int (-43)),
  ("data", .bytes [222, 173]),
  ("inner", .dict [("b", .int 300), ("a", .int 5), ("deep", .dict [("z", .int (-251))])]),
  ("items", .list [.dict [("t", .int 1), ("l", .int 2), ("v", .bytes [7, 8])],
                   .dict [("t", .int 9), ("l", .int 0), ("v", .bytes [])]])]

/-- … and has in-range values (declared length 15 octets) -/
example : declLen exampleDef exampleVal 0 = some 15 := by decide +kernel
example : InRange exampleDef exampleVal 0 := by decide +kernel
example : toBytes exampleDef exampleVal = .ok [33, 2, 1, 0, 222, 173, 9, 101, 128, 1, 2, 7, 8, 9, 0] := by decide +kernel
example : fromBytes exampleDef [33, 2, 1, 0, 222, 173, 9, 101, 128, 1, 2, 7, 8, 9, 0] = .ok (exampleVal, 15) := by decide +kernel

end OsmoVerif.Props.C16
