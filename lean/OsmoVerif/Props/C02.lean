/-
C02 — Virtual Um routing: a burst transmitted in frame FN is delivered, one copy each, to exactly
the OTHER transceivers that are powered on and whose receive frequency in frame FN equals the
sender's transmit frequency in frame FN; nothing goes back to the sender, to a powered-off
transceiver or to one tuned elsewhere.

Statements are about one forwarding step `forwardMsg w j msg` (burst_fwd.py forward_msg) of the
validated world model in an ARBITRARY world state `w` (no reachability assumption).  Hypotheses:
  `FreqOk w fn`            every transceiver's hopping parameters resolve in frame `fn` (holds for
                           parameters built by `HoppingParams.__init__`: C07 `py_resolve_total`)
  `DistinctDataPorts w`    no two transceivers share (address, DATA port) (start-up wiring)
  `DropWF t`               FAKE_DROP parameters as the command handler can set them (C18 `bad_args`)
  burst octets < 256       element type of `bytes`
Frequencies are compared as `Option`: two UNTUNED running transceivers compare `None == None` and
exchange bursts (corner N16, outside "tuned" in the statement); `Spec.isRecipient` reproduces it.
-/
import OsmoVerif.Lemmas.WorldFwd

namespace OsmoVerif.Props.C02
open OsmoVerif OsmoVerif.World OsmoVerif.Spec OsmoVerif.World.Examples

/-- who must receive, spelled out: another transceiver, powered on, listening in frame `fn` on the
frequency the sender transmits on in frame `fn` -/
theorem recipients_iff (w : World) (j fn k : Nat) :
    k ∈ recipients w j fn ↔
      k < w.trxs.length ∧ k ≠ j ∧ poweredOn w k = true ∧
      ∃ f, rxFreqAt w k fn = some f ∧ txFreqAt w j fn = some f := by
  rw [mem_recipients]
  unfold isRecipient
  cases hr : rxFreqAt w k fn <;> cases ht : txFreqAt w j fn <;> simp [and_assoc]
  intro _ _ _
  exact eq_comm

/-- each recipient is listed once, in the order of the transceiver list -/
theorem recipients_ordered (w : World) (j fn : Nat) :
    (recipients w j fn).Nodup ∧ (recipients w j fn).Pairwise (· < ·) :=
  ⟨recipients_nodup w j fn, List.Pairwise.filter _ List.pairwise_lt_range⟩

/-- number of `handle_data_msg` calls for transceiver `k` in a forwarding step (the multiplicity of
`k` in the list `forward_calls` folds over): 1 for a recipient, 0 for everybody else -/
theorem forward_recipients (w : World) (j fn k : Nat) :
    (recipients w j fn).count k =
      if k < w.trxs.length ∧ isRecipient w j fn k = true then 1 else 0 := by
  have hnd := recipients_nodup w j fn
  by_cases hm : k ∈ recipients w j fn
  · rw [if_pos ((mem_recipients w j fn k).1 hm)]
    have h1 : 0 < (recipients w j fn).count k := List.count_pos_iff.2 hm
    have h2 : (recipients w j fn).count k ≤ 1 := List.nodup_iff_count.1 hnd k
    omega
  · rw [if_neg (fun h => hm ((mem_recipients w j fn k).2 h))]
    exact List.count_eq_zero.2 hm

/-- `forward_msg` calls `handle_data_msg` exactly once for each member of `Spec.recipients`, in
list order, and for no other transceiver: it IS the fold of `handleDataMsg` over that list, with
the world threaded through (`handleSeq`); the message handed on has its burst stripped when the
sender is muted (`fwdInput`). -/
theorem forward_calls (w : World) (j : Nat) (msg : Trxd.TxMsg) (src : Trx) (fnI : Int)
    (hj : w.trxs[j]? = some src) (hfn : msg.fn = some fnI) (hok : FreqOk w fnI.toNat) :
    forwardMsg w j msg = handleSeq j (fwdInput src msg) w (recipients w j fnI.toNat) :=
  forwardMsg_eq w j msg src fnI hj hfn hok

/-- the output of a forwarding step is the concatenation of one block per recipient (in order),
and each block is what `CallSpec` demands of that recipient: nothing / one NOPE.ind when the burst
is suppressed (C18), else the datagram of a message with the metadata of `Spec.FwdMeta` (C10) -/
theorem forward_output (w : World) (j : Nat) (s : Trxd.TxMsg) (src : Trx) (fnI : Int)
    (bits : List Nat) (w' : World) (out : List Dgram)
    (hj : w.trxs[j]? = some src) (hfn : s.fn = some fnI) (hb : s.burst = some bits)
    (hbits : ∀ b ∈ bits, b < 256) (hok : FreqOk w fnI.toNat) (hwf : ∀ t ∈ w.trxs, DropWF t)
    (h : forwardMsg w j s = .ok (w', out)) :
    ∃ calls : List (Nat × List Dgram),
      calls.map Prod.fst = recipients w j fnI.toNat ∧
      out = (calls.map Prod.snd).flatten ∧
      ∀ c ∈ calls, ∃ r, w.trxs[c.1]? = some r ∧ CallSpec r src s fnI bits c.2 ∧ OneToPeer r c.2 :=
  FwdStep.calls ⟨hj, hfn, hb, hbits, hok, hwf, h⟩

/-- never more than one datagram per DATA peer -/
theorem delivered_le_one (w : World) (j : Nat) (s : Trxd.TxMsg) (src : Trx) (fnI : Int)
    (bits : List Nat) (w' : World) (out : List Dgram)
    (hj : w.trxs[j]? = some src) (hfn : s.fn = some fnI) (hb : s.burst = some bits)
    (hbits : ∀ b ∈ bits, b < 256) (hok : FreqOk w fnI.toNat) (hwf : ∀ t ∈ w.trxs, DropWF t)
    (hd : DistinctDataPorts w) (h : forwardMsg w j s = .ok (w', out))
    (k : Nat) (tk : Trx) (hk : w.trxs[k]? = some tk) : deliveredTo tk out ≤ 1 := by
  obtain ⟨h0, h1⟩ := FwdStep.delivered ⟨hj, hfn, hb, hbits, hok, hwf, h⟩ hd k tk hk
  by_cases hm : k ∈ recipients w j fnI.toNat
  · obtain ⟨dk, _, hone, hlen, _⟩ := h1 hm
    rw [hlen]
    rcases hone with e | ⟨b, e⟩ <;> rw [e] <;> simp only [List.length_nil, List.length_cons] <;> omega
  · rw [h0 hm]; omega

/-- transceiver `k` gets exactly one datagram on its DATA socket iff it is a recipient and the
message handed to its DATA interface validates (C13); that message is the NOPE.ind of a
suppressed burst on a link of version ≥ 1 (C18), or the completed burst indication with the
metadata of `Spec.FwdMeta` (C10).  (A suppressed burst on a version-0 link yields nothing.) -/
theorem delivered_iff (w : World) (j : Nat) (s : Trxd.TxMsg) (src : Trx) (fnI : Int)
    (bits : List Nat) (w' : World) (out : List Dgram)
    (hj : w.trxs[j]? = some src) (hfn : s.fn = some fnI) (hb : s.burst = some bits)
    (hbits : ∀ b ∈ bits, b < 256) (hok : FreqOk w fnI.toNat) (hwf : ∀ t ∈ w.trxs, DropWF t)
    (hd : DistinctDataPorts w) (h : forwardMsg w j s = .ok (w', out))
    (k : Nat) (tk : Trx) (hk : w.trxs[k]? = some tk) :
    deliveredTo tk out = 1 ↔
      k ∈ recipients w j fnI.toNat ∧
      ∃ cm b, cm.validate = .ok () ∧ dataDgram tk b ∈ out ∧
        ((suppressed src tk fnI = true ∧ 1 ≤ tk.hdrVer ∧ IsNope tk.hdrVer s.fn s.tn cm ∧
            cm.genMsg false = .ok b) ∨
         (suppressed src tk fnI = false ∧ FwdMeta src tk s.fn s.tn s.pwr bits cm ∧
            cm.genMsg true = .ok b)) := by
  obtain ⟨h0, h1⟩ := FwdStep.delivered ⟨hj, hfn, hb, hbits, hok, hwf, h⟩ hd k tk hk
  constructor
  · intro h1'
    by_cases hm : k ∈ recipients w j fnI.toNat
    · refine ⟨hm, ?_⟩
      obtain ⟨dk, hcs, _, hlen, hsub⟩ := h1 hm
      rw [hlen] at h1'
      cases hs : suppressed src tk fnI
      · obtain ⟨cm, hmeta, _, hdk⟩ := hcs.fwd hs
        rcases dgramsOf_genMsg tk cm true with ⟨hv, b, hg, e⟩ | ⟨_, e⟩
        · refine ⟨cm, b, hv, hsub _ (by rw [hdk, e]; exact List.mem_cons_self ..), .inr ⟨rfl, hmeta, hg⟩⟩
        · rw [hdk, e] at h1'; cases h1'
      · by_cases hv1 : 1 ≤ tk.hdrVer
        · obtain ⟨cm, hn, hdk⟩ := hcs.supp_v1 hs hv1
          rcases dgramsOf_genMsg tk cm false with ⟨hv, b, hg, e⟩ | ⟨_, e⟩
          · refine ⟨cm, b, hv, hsub _ (by rw [hdk, e]; exact List.mem_cons_self ..), .inl ⟨rfl, hv1, hn, hg⟩⟩
          · rw [hdk, e] at h1'; cases h1'
        · rw [hcs.supp_v0 hs (by omega)] at h1'; cases h1'
    · rw [h0 hm] at h1'; cases h1'
  · rintro ⟨_, cm, b, _, hmem, _⟩
    have hle := delivered_le_one w j s src fnI bits w' out hj hfn hb hbits hok hwf hd h k tk hk
    have hpos : 0 < deliveredTo tk out :=
      List.countP_pos_iff.2 ⟨_, hmem, toDataPeer_dataDgram tk b⟩
    omega

/-- C02 in one equation.  For bursts whose simulated metadata stay inside the protocol ranges
(`RadioOk` for every recipient; frame and timeslot number in range): transceiver `k` gets exactly
one datagram on its DATA socket iff it is another, powered-on transceiver listening in frame FN
on the sender's transmit frequency of frame FN — with the one exception C18 describes: a
suppressed burst yields nothing on a version-0 link (on a version-1 link the one datagram is the
NOPE.ind).  Everybody else gets nothing. -/
theorem routing_exact (w : World) (j : Nat) (s : Trxd.TxMsg) (src : Trx) (fnI tn : Int)
    (bits : List Nat) (w' : World) (out : List Dgram)
    (hj : w.trxs[j]? = some src) (hfn : s.fn = some fnI) (htn : s.tn = some tn)
    (hb : s.burst = some bits) (hbits : ∀ b ∈ bits, b < 256) (hok : FreqOk w fnI.toNat)
    (hwf : ∀ t ∈ w.trxs, DropWF t) (hd : DistinctDataPorts w)
    (f0 : 0 ≤ fnI) (f1 : fnI < 2715648) (n0 : 0 ≤ tn) (n1 : tn ≤ 7)
    (hradio : ∀ k ∈ recipients w j fnI.toNat, ∀ r, w.trxs[k]? = some r →
      RadioOk src r s.pwr bits.length)
    (h : forwardMsg w j s = .ok (w', out)) (k : Nat) (tk : Trx) (hk : w.trxs[k]? = some tk) :
    deliveredTo tk out =
      if k ∈ recipients w j fnI.toNat ∧ ¬ (suppressed src tk fnI = true ∧ tk.hdrVer = 0)
      then 1 else 0 := by
  obtain ⟨h0, h1⟩ := FwdStep.delivered ⟨hj, hfn, hb, hbits, hok, hwf, h⟩ hd k tk hk
  by_cases hm : k ∈ recipients w j fnI.toNat
  · obtain ⟨dk, hcs, _, hlen, _⟩ := h1 hm
    have hr := hradio k hm tk hk
    rw [hlen]
    cases hs : suppressed src tk fnI with
    | true =>
      rcases hr.1 with hv | hv
      · rw [hcs.supp_v0 hs (by omega), if_neg (fun h => h.2 ⟨rfl, hv⟩)]; rfl
      · obtain ⟨cm, hn, hdk⟩ := hcs.supp_v1 hs (by omega)
        rw [hv, hfn, htn] at hn
        rw [hdk, (isNope_genMsg cm fnI tn false hn f0 f1 n0 n1).2,
          if_pos ⟨hm, fun h => by rw [hv] at h; exact absurd h.2 (by decide)⟩]
        rfl
    | false =>
      obtain ⟨cm, hmeta, hv1, hdk⟩ := hcs.fwd hs
      rw [hfn, htn] at hmeta
      have hval := fwdMeta_validate src tk fnI tn s.pwr bits cm hmeta hv1 hr f0 f1 n0 n1
      rcases dgramsOf_genMsg tk cm true with ⟨_, b, _, e⟩ | ⟨hne, _⟩
      · rw [hdk, e, if_pos ⟨hm, fun h => by cases h.1⟩]; rfl
      · exact absurd hval hne
  · rw [h0 hm, if_neg (fun h => hm h.1)]

/-- the `.ok` hypothesis of the theorems above is no restriction for well-formed simulation
parameters: with FAKE_DROP parameters and randomisation thresholds as the TRXC handlers can set
them (`DropWF`, `ThrNonneg`) and a message that carries an attenuation and burst octets, the
forwarding step returns normally — no exception reaches the clock thread -/
theorem forward_returns (w : World) (j : Nat) (s : Trxd.TxMsg) (src : Trx) (fnI pwr : Int)
    (bits : List Nat) (hj : w.trxs[j]? = some src) (hfn : s.fn = some fnI) (hp : s.pwr = some pwr)
    (hb : s.burst = some bits) (hbits : ∀ b ∈ bits, b < 256) (hok : FreqOk w fnI.toNat)
    (hwf : ∀ t ∈ w.trxs, DropWF t) (hthr : ∀ t ∈ w.trxs, ThrNonneg t) :
    ∃ w' out, forwardMsg w j s = .ok (w', out) := by
  refine forwardMsg_total (List.getElem?_eq_some_iff.1 hj).1 ?_ hfn (by rw [hp]; rfl) (fun t ht =>
    ⟨(getFreq_of_freqOk hok ht).1, (getFreq_of_freqOk hok ht).2, by have := (hwf t ht).2; omega,
      (hthr t ht).1, fun _ => (hthr t ht).2.1, (hthr t ht).2.2⟩)
  intro b hb' x hx
  rw [hb] at hb'; cases hb'
  exact hbits x hx

/-- `FreqOk` is no restriction either: in a world whose hopping parameters all come from
`HoppingParams.__init__` (`FhSane`; `enable_fh` is the only producer, `fh_from_init`), every
frequency resolves in every frame (C07 `py_resolve_total`) -/
theorem freqOk_of_sane (w : World) (h : FhSane w) (fn : Nat) : FreqOk w fn := by
  intro k hk
  have hk' : w.trxs[k]? = some w.trxs[k] := List.getElem?_eq_getElem hk
  obtain ⟨⟨f, hf⟩, g, hg⟩ := hopFreq_ok (h _ (List.mem_of_getElem? hk')) fn
  simp only [rxFreqAt, txFreqAt, hk', hf, hg]
  exact ⟨rfl, rfl⟩

/-- the only hopping parameters a TRXC command installs are results of `HoppingParams.__init__` -/
theorem fh_from_init (trx : Trx) (req : List PyStr.Str) (hp : Hopping.HoppingParams (Int × Int))
    (rc : Int) (h : commonCmd trx req = .ok (.patch (.fh hp) rc)) :
    ∃ hsn maio ma, Hopping.pyInit hsn maio ma = .ok hp :=
  commonCmd_sane h

/-- `DistinctDataPorts` holds for every world `Application.__init__` builds from `--trx`
definitions without (address, DATA port) overlap (`NoPortOverlap`, decidable; the duplicate check
of `TRXList.add_trx` alone does not exclude e.g. `(a, 5700, 1)` and `(a, 5702, 0)`, see the
example below — the real program fails to bind the second socket) -/
theorem distinct_of_build (seed : Nat) (extra : List (Nat × Nat × Nat)) (w : World)
    (h : build seed extra = .ok w) (hno : NoPortOverlap extra) : DistinctDataPorts w := by
  unfold DistinctDataPorts
  have := build_keys h
  unfold portKey at this
  rw [this]
  exact hno

/-- nothing is delivered back to the sender -/
theorem nothing_to_sender (w : World) (j : Nat) (s : Trxd.TxMsg) (src : Trx) (fnI : Int)
    (bits : List Nat) (w' : World) (out : List Dgram)
    (hj : w.trxs[j]? = some src) (hfn : s.fn = some fnI) (hb : s.burst = some bits)
    (hbits : ∀ b ∈ bits, b < 256) (hok : FreqOk w fnI.toNat) (hwf : ∀ t ∈ w.trxs, DropWF t)
    (hd : DistinctDataPorts w) (h : forwardMsg w j s = .ok (w', out)) :
    deliveredTo src out = 0 :=
  (FwdStep.delivered ⟨hj, hfn, hb, hbits, hok, hwf, h⟩ hd j src hj).1
    (sender_not_recipient w j fnI.toNat)

/-- nothing is delivered to a powered-off transceiver -/
theorem nothing_to_idle (w : World) (j : Nat) (s : Trxd.TxMsg) (src : Trx) (fnI : Int)
    (bits : List Nat) (w' : World) (out : List Dgram)
    (hj : w.trxs[j]? = some src) (hfn : s.fn = some fnI) (hb : s.burst = some bits)
    (hbits : ∀ b ∈ bits, b < 256) (hok : FreqOk w fnI.toNat) (hwf : ∀ t ∈ w.trxs, DropWF t)
    (hd : DistinctDataPorts w) (h : forwardMsg w j s = .ok (w', out))
    (k : Nat) (tk : Trx) (hk : w.trxs[k]? = some tk) (hidle : tk.running = false) :
    deliveredTo tk out = 0 := by
  apply (FwdStep.delivered ⟨hj, hfn, hb, hbits, hok, hwf, h⟩ hd k tk hk).1
  intro hm
  have := ((recipients_iff w j fnI.toNat k).1 hm).2.2.1
  simp only [poweredOn, hk, hidle] at this
  cases this

/-- nothing is delivered to a transceiver that listens elsewhere in that frame -/
theorem nothing_to_detuned (w : World) (j : Nat) (s : Trxd.TxMsg) (src : Trx) (fnI : Int)
    (bits : List Nat) (w' : World) (out : List Dgram)
    (hj : w.trxs[j]? = some src) (hfn : s.fn = some fnI) (hb : s.burst = some bits)
    (hbits : ∀ b ∈ bits, b < 256) (hok : FreqOk w fnI.toNat) (hwf : ∀ t ∈ w.trxs, DropWF t)
    (hd : DistinctDataPorts w) (h : forwardMsg w j s = .ok (w', out))
    (k : Nat) (tk : Trx) (hk : w.trxs[k]? = some tk)
    (hdet : rxFreqAt w k fnI.toNat ≠ txFreqAt w j fnI.toNat) :
    deliveredTo tk out = 0 := by
  apply (FwdStep.delivered ⟨hj, hfn, hb, hbits, hok, hwf, h⟩ hd k tk hk).1
  intro hm
  obtain ⟨_, _, _, f, h1, h2⟩ := (recipients_iff w j fnI.toNat k).1 hm
  exact hdet (by rw [h1, h2])

/-- only a powered-on transceiver transmits: the clock tick of an idle transceiver emits nothing
and leaves the world alone -/
theorem idle_sender_silent (w : World) (j fn : Nat) (t : Trx) (hj : w.trxs[j]? = some t)
    (hidle : t.running = false) : clckTick w j fn = .ok (w, [], 0) := by
  simp only [clckTick, hj, hidle, Bool.false_eq_true, not_false_eq_true, if_true]

/-! ### non-vacuity: a concrete world (`World.Examples.world`)

seven transceivers: the BTS (0, sender), an MS tuned to it (1, v1), the same powered off (2), one
listening elsewhere (3), one on version 0 with two burst losses pending on even frames (4), a
muted one (5, v1) and one with FAKE_RSSI/TOA/CI windows (6, v1); a normal burst in frame 52 -/

/-- all hypotheses of the theorems hold there -/
example : FreqOk world 52 ∧ DistinctDataPorts world ∧ (∀ t ∈ world.trxs, DropWF t) ∧
    (∀ b ∈ nbBits, b < 256) ∧
    (∀ k ∈ recipients world 0 52, ∀ r, world.trxs[k]? = some r →
      RadioOk bts r (burst 52).pwr nbBits.length) ∧
    (forwardMsg world 0 (burst 52)).isOk = true := world_hyps

/-- the sender, the idle and the detuned transceiver are no recipients, the other four are -/
example : recipients world 0 52 = [1, 4, 5, 6] := by decide +kernel

/-- datagrams per DATA peer: one each for 1, 5 (NOPE.ind) and 6; none for the sender, the idle, the
detuned one and for 4 (burst loss on a version-0 link) -/
example : [bts, ms, msIdle, msDetuned, msDrop, msMuted, msFake].map
    (fun t => deliveredTo t (outOf (forwardMsg world 0 (burst 52)))) = [0, 1, 0, 0, 0, 1, 1] := by
  decide +kernel

/-- `routing_exact` applied to that world -/
example : ∃ w' out, forwardMsg world 0 (burst 52) = .ok (w', out) ∧
    ∀ k tk, world.trxs[k]? = some tk →
      deliveredTo tk out =
        if k ∈ recipients world 0 52 ∧ ¬ (suppressed bts tk 52 = true ∧ tk.hdrVer = 0) then 1 else 0 := by
  obtain ⟨hok, hd, hwf, hbits, hradio, hisok⟩ := world_hyps
  obtain ⟨⟨w', out⟩, h⟩ := exists_of_isOk (forwardMsg world 0 (burst 52)) hisok
  refine ⟨w', out, h, fun k tk hk => ?_⟩
  exact routing_exact world 0 (burst 52) bts 52 2 nbBits w' out rfl rfl rfl rfl hbits hok hwf hd
    (by decide) (by decide) (by decide) (by decide) hradio h k tk hk

/-- `NoPortOverlap` holds for the plain BTS + MS set-up and for a usual multi-TRX one -/
example : NoPortOverlap [] ∧ NoPortOverlap [(1, 5700, 1), (1, 5700, 2), (2, 7700, 0)] := by decide

/-- the overlap is real: these definitions pass `build`, but two transceivers share DATA port 5704 -/
example : ∃ w, build 0 [(1, 5700, 1), (1, 5702, 0)] = .ok w ∧ ¬ DistinctDataPorts w := by
  obtain ⟨w, h⟩ := exists_of_isOk (build 0 [(1, 5700, 1), (1, 5702, 0)]) (by decide +kernel)
  refine ⟨w, h, ?_⟩
  unfold DistinctDataPorts
  have := build_keys h
  unfold portKey at this
  rw [this]
  decide

/-- hopping: the BTS hops over two frequencies (HSN 5); who receives depends on the frame number -/
example : recipients worldHop 0 0 = [2] ∧ recipients worldHop 0 1 = [1] ∧
    FreqOk worldHop 0 ∧ FreqOk worldHop 1 := by decide +kernel

/-- `FhSane` holds for the example worlds (the hopping BTS got its parameters from `pyInit`) -/
example : FhSane worldHop ∧ FhSane world := by
  constructor
  · intro t ht hp hf
    simp only [worldHop, List.mem_cons, List.not_mem_nil, or_false] at ht
    rcases ht with rfl | rfl | rfl
    · refine ⟨5, 0, [(890000000, 935000000), (891000000, 936000000)], ?_⟩
      have : btsHop.fh = hop2 := rfl
      rw [this] at hf
      unfold hop2 at hf
      split at hf
      · rename_i hp' h'
        injection hf with hf
        rw [← hf]; exact h'
      · cases hf
    · cases hf
    · cases hf
  · intro t ht hp hf
    simp only [world, List.mem_cons, List.not_mem_nil, or_false] at ht
    rcases ht with rfl | rfl | rfl | rfl | rfl | rfl | rfl <;> cases hf

end OsmoVerif.Props.C02
