/-
C11 — trxcon's consumers of the multiframe layouts (src/host/trxcon/src/sched_trx.c).
Property theorems only.  Model: `OsmoVerif.Model.TrxSched`; lemmas: `OsmoVerif.Lemmas.TrxSched`;
tables: `Gen/TrxconMframe.lean`, `Gen/TrxconLchanDesc.lean` (regenerated on every run).

"… no frame lookup for any frame number leaves the table, every channel used by a frame is
contained in the layout's channel mask (so it gets a channel state when the timeslot is
configured), and every (channel combination, timeslot) lookup returns a layout valid for
that timeslot": the theorems of `Props/C11.lean` prove this of the tables and of
`l1sched_mframe_layout`; the theorems here prove it of the code that uses them.
-/
import OsmoVerif.Lemmas.TrxSched
import OsmoVerif.Props.C11

namespace OsmoVerif.Props.C11Trx
open OsmoVerif OsmoVerif.Mframe OsmoVerif.TrxSched OsmoVerif.Gen
open OsmoVerif.Gen.TrxconMframe OsmoVerif.Gen.TrxconLchanDesc

/-! ## what the consumers need of the tables -/

/-- every `lchan_mask` fits the 64-bit arithmetic of `LAYOUT_HAS_LCHAN`, every `period`
    fits the `uint8_t offset` of `l1sched_handle_rx_burst` and divides the hyperframe -/
theorem layouts_fit_consumers :
    (layouts.all fun L => decide (L.lchanMask < 18446744073709551616) && decide (L.period < 256) &&
      (L.config == .NONE || H % L.period == 0)) = true := by decide +kernel

/-- the loop `for (type = 0; type < _L1SCHED_CHAN_MAX; type++)` stays below the shift
    width 64 and inside `l1sched_lchan_desc[]`; `sched->ts[]` has 8 entries -/
theorem chan_max_fits : L1SCHED_CHAN_MAX ≤ 64 ∧ lchanDesc.length = L1SCHED_CHAN_MAX ∧ TRX_TS_COUNT = 8 := by
  decide

theorem lchan_val_lt (c : Lchan) : c.val < L1SCHED_CHAN_MAX := by cases c <;> decide

theorem real_layout_ok {L : Layout} (hL : L ∈ layouts) (hn : L.config ≠ .NONE) :
    tableOk L = true ∧ L.period < 256 ∧ L.lchanMask < 18446744073709551616 := by
  have h1 := real_tableOk hL hn
  have h2 := (List.all_eq_true.1 layouts_fit_consumers) L hL
  simp only [Bool.and_eq_true, decide_eq_true_eq] at h2
  exact ⟨h1, h2.1.2, h2.1.1⟩

/-! ## `l1sched_configure_ts` -/

/-- **Channel states = channel mask.**  `l1sched_configure_ts(sched, tn, config)` on a
    timeslot that is not allocated yet, or was configured successfully before (its list head
    is initialised): if `l1sched_mframe_layout(config, tn)` finds nothing it returns -EINVAL
    and leaves the timeslot without layout; otherwise it returns 0, the timeslot has that
    layout and exactly one channel state for every `type < _L1SCHED_CHAN_MAX` whose bit is
    set in the layout's `lchan_mask` — in ascending order, none for any other value. -/
theorem configure_ts_states (s : Sched) (tn config : Nat) (hlen : s.ts.length = TRX_TS_COUNT)
    (htn : tn < TRX_TS_COUNT) (hinit : ∀ ts, s.ts[tn]? = some (some ts) → ts.lchansInit = true) :
    match layoutForVal config tn with
    | none => ∃ ts' evs, configureTs s tn config = .ok (.EINVAL, setTs s tn (some ts'), evs) ∧
        ts'.layout = none
    | some L => ∃ ts' evs, configureTs s tn config = .ok (.ok, setTs s tn (some ts'), evs) ∧
        ts'.layout = some L ∧ ts'.lchansInit = true ∧
        ts'.lchans.map (·.type) = (List.range L1SCHED_CHAN_MAX).filter (fun t => L.lchanMask.testBit t) ∧
        ∀ t, (∃ l ∈ ts'.lchans, l.type = t) ↔ (t < L1SCHED_CHAN_MAX ∧ L.lchanMask.testBit t = true) := by
  obtain ⟨h64, hdl, h8⟩ := chan_max_fits
  have htn' : tn < s.ts.length := by omega
  obtain ⟨⟨ts0, ev0⟩, hg⟩ := configureGetTs_total s tn htn'
    fun ts h => hinit ts (by rw [List.getElem?_eq_getElem htn', h])
  have hu8 : tn = u8 tn := (Nat.mod_eq_of_lt (by omega)).symm
  have hdef : configureTs s tn config = configureRest (List.range L1SCHED_CHAN_MAX) s tn config ts0 ev0 := by
    simp only [configureTs, configureTsOn, hg, bind, Except.bind]
  rw [hdef]
  cases hl : layoutForVal config tn with
  | none => exact ⟨_, ev0, configureRest_none (hu8 ▸ hl) _ s ts0 ev0, rfl⟩
  | some L =>
    have hm : L.lchanMask < 18446744073709551616 := by
      have h2 := List.all_eq_true.1 layouts_fit_consumers L (layoutForVal_some hl).1
      simp only [Bool.and_eq_true, decide_eq_true_eq] at h2
      exact h2.1.1
    have htypes : ∀ t ∈ List.range L1SCHED_CHAN_MAX, t < 64 ∧ t < lchanDesc.length := fun t ht => by
      have := List.mem_range.1 ht
      omega
    obtain ⟨lch, h1, h5⟩ := configureRest_some (hu8 ▸ hl) hm htypes s ts0 ev0
    exact ⟨_, _, h1, rfl, rfl, h5, fun t => by rw [mem_types_iff h5, List.mem_range]⟩

/-- … so every channel used by any frame of the selected layout — for every frame number —
    has a channel state after `l1sched_configure_ts` (IDLE, which has no handler, excepted),
    on the Downlink and on the Uplink -/
theorem configured_channels_have_state (s : Sched) (tn config : Nat) (hlen : s.ts.length = TRX_TS_COUNT)
    (htn : tn < TRX_TS_COUNT) (hinit : ∀ ts, s.ts[tn]? = some (some ts) → ts.lchansInit = true)
    (L : Layout) (hl : layoutForVal config tn = some L) (hne : L.config ≠ .NONE) :
    ∃ ts' evs, configureTs s tn config = .ok (.ok, setTs s tn (some ts'), evs) ∧ ts'.layout = some L ∧
      ∀ fn f, lookup L fn = .ok f →
        (f.dlChan ≠ .IDLE → ∃ l, findLchan ts' f.dlChan.val = .ok (some l) ∧ l.type = f.dlChan.val) ∧
        (f.ulChan ≠ .IDLE → ∃ l, findLchan ts' f.ulChan.val = .ok (some l) ∧ l.type = f.ulChan.val) := by
  have h := configure_ts_states s tn config hlen htn hinit
  rw [hl] at h
  obtain ⟨ts', evs, h1, h2, h3, _, h5⟩ := h
  have hmem := (layoutForVal_some hl).1
  refine ⟨ts', evs, h1, h2, fun fn f hf => ?_⟩
  obtain ⟨hd, hu⟩ := C11.chans_in_mask L hmem hne fn f hf
  have find_of : ∀ c : Lchan, L.lchanMask.testBit c.val = true →
      ∃ l, findLchan ts' c.val = .ok (some l) ∧ l.type = c.val := by
    intro c hb
    obtain ⟨l, hlm, hlt⟩ := (h5 c.val).2 ⟨lchan_val_lt c, hb⟩
    have hsome : (ts'.lchans.find? fun l => l.type == c.val).isSome = true := by
      rw [List.find?_isSome]
      exact ⟨l, hlm, by simp [hlt]⟩
    obtain ⟨l', hl'⟩ := Option.isSome_iff_exists.1 hsome
    refine ⟨l', by simp only [findLchan, h3, Bool.not_true, Bool.false_eq_true, if_false, hl'], ?_⟩
    have := List.find?_some hl'
    simpa using this
  exact ⟨fun hn => find_of _ (hd hn), fun hn => find_of _ (hu hn)⟩

/-! ## the frame lookups -/

/-- **No lookup of `l1sched_handle_rx_burst` leaves the table**, for every layout except
    NONE, every timeslot state with that layout and every 32-bit frame number: the function
    returns, `bi->bid` is the Downlink burst id of row `fn % period` (the 8-bit offset loses
    nothing), and the only state it may change are the TDMA statistics of the row's channel. -/
theorem rx_lookup_in_table (s : Sched) (tn fn : Nat) (ts : Ts) (L : Layout) (hL : L ∈ layouts)
    (hne : L.config ≠ .NONE) (hlen : tn < s.ts.length) (hget : s.ts[tn] = some ts)
    (hlay : ts.layout = some L) (hinit : ts.lchansInit = true) :
    ∃ f r, lookup L fn = .ok f ∧ handleRxBurst s tn fn = .ok r ∧ r.bid = some f.dlBid ∧
      RxStateStep s r.sched tn ts f.dlChan.val := by
  obtain ⟨hok, hp, _⟩ := real_layout_ok hL hne
  obtain ⟨f, hf⟩ := lookup_total hok fn
  obtain ⟨d, hd⟩ := lchanDesc_some f.dlChan
  refine ⟨f, ?_⟩
  rw [handleRxBurst_eq hlen hget hlay hinit hok hp hf hd]
  by_cases hrx : d.rx = false
  · exact ⟨_, hf, if_pos hrx, rfl, Or.inl rfl⟩
  · rw [if_neg hrx]
    cases ts.lchans.find? (fun l => l.type == f.dlChan.val) with
    | none => exact ⟨_, hf, rfl, rfl, Or.inl rfl⟩
    | some l =>
      by_cases ha : l.active = false
      · exact ⟨_, hf, if_pos ha, rfl, Or.inl rfl⟩
      · obtain ⟨⟨rc, td, evs⟩, hr⟩ := substFrameLoss_total L hok ts.index l fn
        simp only [if_neg ha, hr]
        by_cases hrc : rc = .EALREADY
        · exact ⟨_, hf, if_pos hrc, rfl, Or.inl rfl⟩
        · exact ⟨_, hf, if_neg hrc, rfl, Or.inr ⟨_, rfl⟩⟩

/-- **No lookup of `l1sched_pull_burst` leaves the table**: `br->bid` is the Uplink burst id
    of row `fn % period`, and the Tx handler of that row's Uplink channel is called with it,
    once, iff the channel has a handler, a channel state and is active. -/
theorem tx_lookup_in_table (s : Sched) (tn fn : Nat) (ts : Ts) (L : Layout) (hL : L ∈ layouts)
    (hne : L.config ≠ .NONE) (hlen : tn < s.ts.length) (hget : s.ts[tn] = some ts)
    (hlay : ts.layout = some L) (hinit : ts.lchansInit = true) :
    ∃ f d, lookup L fn = .ok f ∧ lchanDesc[f.ulChan.val]? = some d ∧
      pullBurst s tn fn = .ok
        (if d.tx = true ∧ ∃ l, ts.lchans.find? (fun l => l.type == f.ulChan.val) = some l ∧ l.active = true
         then [Ev.tx f.ulChan.val tn fn f.ulBid] else [], some f.ulBid) := by
  obtain ⟨hok, _, _⟩ := real_layout_ok hL hne
  obtain ⟨f, hf⟩ := lookup_total hok fn
  obtain ⟨d, hd⟩ := lchanDesc_some f.ulChan
  refine ⟨f, d, hf, hd, ?_⟩
  obtain ⟨idx, lay, ini, lch⟩ := ts
  subst hlay hinit
  simp only [pullBurst, getTs_of_lt hlen, hget, hf, liftLookup, hd, findLchan, bind, Except.bind, pure,
    Except.pure, Bool.not_true, Bool.false_eq_true, if_false]
  by_cases htx : d.tx = true
  · simp only [htx, Bool.not_true, Bool.false_eq_true, if_false, true_and]
    cases hfind : lch.find? (fun l => l.type == f.ulChan.val) with
    | none => simp
    | some l =>
      have hty : l.type = f.ulChan.val := by simpa using List.find?_some hfind
      by_cases hact : l.active = true
      · simp [hact, hty]
      · simp [hact]
  · simp [htx]

/-- **No lookup of `l1sched_handle_rx_probe` leaves the table.** -/
theorem probe_lookup_in_table (s : Sched) (tn fn : Nat) (ts : Ts) (L : Layout) (hL : L ∈ layouts)
    (hne : L.config ≠ .NONE) (hlen : tn < s.ts.length) (hget : s.ts[tn] = some ts)
    (hlay : ts.layout = some L) (hinit : ts.lchansInit = true) : ∃ r, rxProbe s tn fn = .ok r := by
  obtain ⟨hok, _, _⟩ := real_layout_ok hL hne
  obtain ⟨f, hf⟩ := lookup_total hok fn
  obtain ⟨d, hd⟩ := lchanDesc_some f.dlChan
  obtain ⟨idx, lay, ini, lch⟩ := ts
  subst hlay hinit
  simp only [rxProbe, getTs_of_lt hlen, hget, hf, liftLookup, hd, findLchan, bind, Except.bind, pure,
    Except.pure, Bool.not_true, Bool.false_eq_true, if_false]
  split
  · exact ⟨_, rfl⟩
  · split <;> exact ⟨_, rfl⟩

/-- **… for whole streams of bursts**: after any sequence of received bursts on a timeslot
    with a real layout the timeslot still has that layout and the same channel states, so no
    burst of the stream leaves defined behaviour (whatever the frame numbers, in any order). -/
theorem rx_stream_total (L : Layout) (hL : L ∈ layouts) (hne : L.config ≠ .NONE) (tn : Nat) (fns : List Nat) :
    ∀ (s : Sched) (ts : Ts), tn < s.ts.length → s.ts[tn]? = some (some ts) → ts.layout = some L →
      ts.lchansInit = true →
      ∃ s' ts', rxStream s tn fns = .ok s' ∧ s'.ts[tn]? = some (some ts') ∧ ts'.layout = some L ∧
        ts'.lchansInit = true ∧ ts'.lchans.map (·.type) = ts.lchans.map (·.type) := by
  induction fns with
  | nil => intro s ts _ hget hlay hinit; exact ⟨s, ts, rfl, hget, hlay, hinit, rfl⟩
  | cons fn rest ih =>
    intro s ts hlen hget hlay hinit
    have hget' : s.ts[tn] = some ts := by
      rw [List.getElem?_eq_getElem hlen] at hget
      exact Option.some.inj hget
    obtain ⟨f, r, _, hr, _, hstep⟩ := rx_lookup_in_table s tn fn ts L hL hne hlen hget' hlay hinit
    obtain ⟨hl2, ⟨ts2, hg2, hlay2, hinit2, _, hty2⟩, _⟩ := rxStateStep_keeps hlen hget' hstep
    obtain ⟨s', ts', h1, h2, h3, h4, h5⟩ := ih r.sched ts2 (by omega) hg2 (by rw [hlay2, hlay])
      (by rw [hinit2, hinit])
    exact ⟨s', ts', by simp only [rxStream, hr, h1], h2, h3, h4, by rw [h5, hty2]⟩

/-! ## `subst_frame_loss` -/

/-- what `lostFrames` is: the pairs (frame number, burst id) of the frames `last + 1 + i`,
    `i < n` (modulo the hyperframe), whose layout row gives the Downlink to channel `type`,
    with the burst id of that row -/
theorem mem_lostFrames (L : Layout) (type last n f b : Nat) :
    (f, b) ∈ lostFrames L type last n ↔
      ∃ i, i < n ∧ f = (last + 1 + i) % H ∧ ∃ fp, lookup L f = .ok fp ∧ fp.dlChan.val = type ∧ b = fp.dlBid := by
  simp only [lostFrames_eq, List.mem_filterMap, List.mem_range, lostAt_eq_some]
  constructor
  · rintro ⟨i, hi, rfl, h⟩
    exact ⟨i, hi, rfl, h⟩
  · rintro ⟨i, hi, rfl, h⟩
    exact ⟨i, hi, rfl, h⟩

/-- **Lost-frame compensation substitutes exactly the layout's frames.**  For every layout
    except NONE, a channel state that has processed a frame before (`num_proc ≠ 0`), valid
    frame numbers, and `e` = the distance from the last processed frame to the current one in
    the cyclic order of frame numbers:
    * `1 ≤ e ≤ period`: no lookup leaves the table and the handler is called for exactly the
      frames `last + 1 … last + e − 1` (mod hyperframe) whose row `f % period` gives the
      Downlink to this channel, in ascending order, each once, with that row's burst id;
      `num_proc` and `num_lost` grow by their number, `last_proc` is the last of them;
    * `e = 0`, or `period < e < hyperframe / 2` (more than one period lost): -EIO, nothing is
      substituted (the caller then processes the current burst and restarts from it);
    * `e ≥ hyperframe / 2` (the burst is older than the last processed one): -EALREADY. -/
theorem subst_frame_loss_exact (L : Layout) (hL : L ∈ layouts) (hne : L.config ≠ .NONE) (tn : Nat)
    (l : LchanState) (fn : Nat) (hfn : fn < H) (hl : l.tdma.lastProc < H) (hnp : l.tdma.numProc ≠ 0) :
    (((fn + H - l.tdma.lastProc) % H = 0 ∨
        (L.period < (fn + H - l.tdma.lastProc) % H ∧ (fn + H - l.tdma.lastProc) % H < H / 2)) →
      substFrameLoss L tn l fn = .ok (.EIO, l.tdma, [])) ∧
    (H / 2 ≤ (fn + H - l.tdma.lastProc) % H →
      substFrameLoss L tn l fn = .ok (.EALREADY, l.tdma, [])) ∧
    (0 < (fn + H - l.tdma.lastProc) % H → (fn + H - l.tdma.lastProc) % H ≤ L.period →
      ∃ td', substFrameLoss L tn l fn =
          .ok (.ok, td', (lostFrames L l.type l.tdma.lastProc ((fn + H - l.tdma.lastProc) % H - 1)).map
            fun p => Ev.rx l.type tn p.1 p.2) ∧
        TdmaAfter l.tdma td' (lostFrames L l.type l.tdma.lastProc ((fn + H - l.tdma.lastProc) % H - 1))) := by
  obtain ⟨hok, hp, _⟩ := real_layout_ok hL hne
  rw [substFrameLoss, if_neg hnp, elapsedOf_eq fn l.tdma.lastProc hfn hl]
  have heH : (fn + H - l.tdma.lastProc) % H < H := Nat.mod_lt _ (by decide)
  generalize (fn + H - l.tdma.lastProc) % H = e at heH ⊢
  refine ⟨fun h => ?_, fun h => ?_, fun h1 h2 => ?_⟩
  · have h2 : e < H / 2 := h.elim (fun h => h ▸ by decide) (·.2)
    rw [if_pos h2, substAfterElapsed_nat, if_pos (h.symm.imp (·.1) id)]
  · rw [if_neg (Nat.not_lt.2 h), substAfterElapsed, if_pos (Int.sub_neg_of_lt (Int.ofNat_lt.2 heH))]
  · have h3 : e < H / 2 := Nat.lt_of_le_of_lt h2 (Nat.lt_trans hp (by decide))
    have h4 : ¬ (L.period < e ∨ e = 0) := fun h => h.elim (Nat.not_lt.2 h2) (Nat.ne_of_gt h1)
    rw [if_pos h3, substAfterElapsed_nat, if_neg h4]
    obtain ⟨td', h5, h6⟩ := substLoop_spec L hok l.type tn (e - 1) l.tdma.lastProc l.tdma hl
    exact ⟨td', by rw [h5], h6⟩

/-- a channel state that has not processed any frame yet compensates nothing (-EAGAIN) -/
theorem subst_frame_loss_first (L : Layout) (tn : Nat) (l : LchanState) (fn : Nat) (h : l.tdma.numProc = 0) :
    substFrameLoss L tn l fn = .ok (.EAGAIN, l.tdma, []) := by
  simp only [substFrameLoss, h, if_true]

/-- since every period divides the hyperframe, the row of a substituted frame is the row of
    its frame number counted without the hyperframe wrap -/
theorem lost_frame_row (L : Layout) (hL : L ∈ layouts) (hne : L.config ≠ .NONE) (last i : Nat) :
    lookup L ((last + 1 + i) % H) = lookup L (last + 1 + i) := by
  have h2 := (List.all_eq_true.1 layouts_fit_consumers) L hL
  simp only [Bool.and_eq_true, decide_eq_true_eq, Bool.or_eq_true, beq_iff_eq] at h2
  have hdvd : H % L.period = 0 := h2.2.resolve_left hne
  apply lookup_congr
  exact Nat.mod_mod_of_dvd _ (Nat.dvd_of_mod_eq_zero hdvd)

/-- **Delivery of the burst itself**: on a timeslot with a real layout, when the row's
    Downlink channel has an Rx handler, a channel state and is active, the handler is called
    — after the substitutions — with the channel of row `fn % period`, this `tn`, `fn` and the
    row's burst id, and the function returns 0; unless `subst_frame_loss` said -EALREADY,
    in which case the burst is dropped and nothing changes. -/
theorem rx_burst_delivery (s : Sched) (tn fn : Nat) (ts : Ts) (L : Layout) (hL : L ∈ layouts)
    (hne : L.config ≠ .NONE) (hlen : tn < s.ts.length) (hget : s.ts[tn] = some ts)
    (hlay : ts.layout = some L) (hinit : ts.lchansInit = true) (f : Frame) (hf : lookup L fn = .ok f)
    (d : Desc) (hd : lchanDesc[f.dlChan.val]? = some d) (hrx : d.rx = true)
    (l : LchanState) (hfind : ts.lchans.find? (fun l => l.type == f.dlChan.val) = some l)
    (hact : l.active = true) :
    l.type = f.dlChan.val ∧
    ∀ rc td evs, substFrameLoss L ts.index l fn = .ok (rc, td, evs) →
      (rc = .EALREADY → handleRxBurst s tn fn = .ok ⟨.EALREADY, s, [], some f.dlBid⟩) ∧
      (rc ≠ .EALREADY → ∃ s', handleRxBurst s tn fn =
        .ok ⟨.ok, s', evs ++ [Ev.rx f.dlChan.val tn fn f.dlBid], some f.dlBid⟩ ∧
        RxStateStep s s' tn ts f.dlChan.val) := by
  obtain ⟨hok, hp, _⟩ := real_layout_ok hL hne
  have hty : l.type = f.dlChan.val := by simpa using List.find?_some hfind
  refine ⟨hty, fun rc td evs hr => ?_⟩
  rw [handleRxBurst_eq hlen hget hlay hinit hok hp hf hd, if_neg (by simp [hrx]), hfind]
  simp only [hact, Bool.true_eq_false, if_false, hr, hty]
  exact ⟨fun h => by rw [if_pos h], fun h => by rw [if_neg h]; exact ⟨_, rfl, Or.inr ⟨_, rfl⟩⟩⟩

/-- no handler, no channel state, or an inactive channel: nothing is called, nothing changes -/
theorem rx_burst_not_delivered (s : Sched) (tn fn : Nat) (ts : Ts) (L : Layout) (hL : L ∈ layouts)
    (hne : L.config ≠ .NONE) (hlen : tn < s.ts.length) (hget : s.ts[tn] = some ts)
    (hlay : ts.layout = some L) (hinit : ts.lchansInit = true) (f : Frame) (hf : lookup L fn = .ok f)
    (d : Desc) (hd : lchanDesc[f.dlChan.val]? = some d) :
    (d.rx = false → handleRxBurst s tn fn = .ok ⟨.ENODEV, s, [], some f.dlBid⟩) ∧
    (d.rx = true → ts.lchans.find? (fun l => l.type == f.dlChan.val) = none →
      handleRxBurst s tn fn = .ok ⟨.ENODEV, s, [], some f.dlBid⟩) ∧
    (d.rx = true → ∀ l, ts.lchans.find? (fun l => l.type == f.dlChan.val) = some l → l.active = false →
      handleRxBurst s tn fn = .ok ⟨.ok, s, [], some f.dlBid⟩) := by
  obtain ⟨hok, hp, _⟩ := real_layout_ok hL hne
  rw [handleRxBurst_eq hlen hget hlay hinit hok hp hf hd]
  refine ⟨fun h => if_pos h, fun h hn => ?_, fun h l hl ha => ?_⟩
  · rw [if_neg (by simp [h]), hn]
  · rw [if_neg (by simp [h]), hl]
    exact if_pos ha

/-! ## every history -/

/-- one call of the scheduler API with arguments the property speaks about (timeslot 0..7,
    a combination that has a real layout on that timeslot, a channel number of the enum)
    returns and keeps the invariant: every timeslot has an initialised list head and, if it
    has a layout, a real one with exactly the channel states of its mask -/
theorem step_keeps_inv (s : Sched) (h : TrxSched.Inv s) (op : Op) (hop : OpOk op) :
    ∃ s', stepOp s op = .ok s' ∧ TrxSched.Inv s' := by
  cases op with
  | cfg tn c =>
    obtain ⟨htn, L, hl, hne⟩ := hop
    have hc := configure_ts_states s tn c h.1 htn fun ts hts => (h.2 tn ts hts).1
    rw [hl] at hc
    obtain ⟨ts', evs, h1, h2, h3, h4, _⟩ := hc
    refine ⟨setTs s tn (some ts'), by simp only [stepOp, h1, Except.map], inv_setTs tn _ h (fun ts hts => ?_)⟩
    cases hts
    exact ⟨h3, Or.inr ⟨L, (layoutForVal_some hl).1, hne, h2, h4⟩⟩
  | del tn =>
    obtain ⟨s', evs, h1, h2⟩ := delTs_inv h hop
    exact ⟨s', by simp only [stepOp, h1, Except.map], h2⟩
  | rts tn =>
    obtain ⟨_, hg, ho⟩ := inv_get h hop
    cases hts : s.ts[tn] with
    | none => exact ⟨s, by simp only [stepOp, resetTs, hg, hts, bind, Except.bind, pure, Except.pure, Except.map], h⟩
    | some ts =>
      obtain ⟨ts', hc, h1, h2⟩ := clearTs_ok (ho ts hts).1
      refine ⟨setTs s tn (some ts'), by simp only [stepOp, resetTs, hg, hts, bind, Except.bind, hc, pure,
        Except.pure, Except.map], inv_setTs tn _ h (fun t ht => ?_)⟩
      cases ht
      exact ⟨h2, Or.inl h1⟩
  | rst =>
    obtain ⟨s', evs, h1, h2⟩ := delAll_inv (List.range TRX_TS_COUNT) (fun tn htn => List.mem_range.1 htn) s [] h
    exact ⟨s', by simp only [stepOp, resetAll, h1, Except.map], h2⟩
  | act tn ch => exact inv_modify h hop.1 _ (activateLchan_inv ch hop.2)
  | deact tn ch => exact inv_modify h hop _ (deactivateLchan_inv ch)
  | rx tn fn =>
    obtain ⟨hlt, hg, ho⟩ := inv_get h hop
    cases hts : s.ts[tn] with
    | none =>
      exact ⟨s, by simp only [stepOp, handleRxBurst, hg, hts, bind, Except.bind, pure, Except.pure, Except.map], h⟩
    | some ts =>
      have hti := ho ts hts
      rcases hti.2 with hn | ⟨L, hL, hne, hlay, _⟩
      · exact ⟨s, by simp only [stepOp, handleRxBurst, hg, hts, bind, Except.bind, hn, pure, Except.pure,
          Except.map], h⟩
      · obtain ⟨f, r, _, hr, _, hstep⟩ := rx_lookup_in_table s tn fn ts L hL hne hlt hts hlay hti.1
        refine ⟨r.sched, by simp only [stepOp, hr, Except.map], ?_⟩
        rcases hstep with he | ⟨td, he⟩
        · rw [he]; exact h
        · rw [he]
          exact inv_setTs tn _ h (fun t ht => by
            cases ht; exact tsInv_updFirst hti _ _ (fun _ => rfl))
  | tx tn fn =>
    obtain ⟨hlt, hg, ho⟩ := inv_get h hop
    refine ⟨s, ?_, h⟩
    cases hts : s.ts[tn] with
    | none => simp only [stepOp, pullBurst, hg, hts, bind, Except.bind, pure, Except.pure, Except.map]
    | some ts =>
      have hti := ho ts hts
      rcases hti.2 with hn | ⟨L, hL, hne, hlay, _⟩
      · simp only [stepOp, pullBurst, hg, hts, bind, Except.bind, hn, pure, Except.pure, Except.map]
      · obtain ⟨f, d, _, _, hr⟩ := tx_lookup_in_table s tn fn ts L hL hne hlt hts hlay hti.1
        simp only [stepOp, hr, Except.map]
  | probe tn fn =>
    obtain ⟨hlt, hg, ho⟩ := inv_get h hop
    refine ⟨s, ?_, h⟩
    cases hts : s.ts[tn] with
    | none => simp only [stepOp, rxProbe, hg, hts, bind, Except.bind, pure, Except.pure, Except.map]
    | some ts =>
      have hti := ho ts hts
      rcases hti.2 with hn | ⟨L, hL, hne, hlay, _⟩
      · simp only [stepOp, rxProbe, hg, hts, bind, Except.bind, hn, pure, Except.pure, Except.map]
      · obtain ⟨r, hr⟩ := probe_lookup_in_table s tn fn ts L hL hne hlt hts hlay hti.1
        simp only [stepOp, hr, Except.map]

/-- **For every history** of scheduler calls from `l1sched_alloc` on — configure (with
    combinations that have a real layout on the timeslot), reset, delete, activate,
    deactivate, received bursts, pulled bursts and probes with any frame numbers, in any
    order — no call leaves defined behaviour: in particular no frame lookup leaves a table. -/
theorem history_safe (ops : List Op) (hops : ∀ op ∈ ops, OpOk op) :
    ∀ s, TrxSched.Inv s → ∃ s', runOps s ops = .ok s' ∧ TrxSched.Inv s' := by
  induction ops with
  | nil => intro s h; exact ⟨s, rfl, h⟩
  | cons op rest ih =>
    intro s h
    obtain ⟨s1, h1, hi1⟩ := step_keeps_inv s h op (hops op (by simp))
    obtain ⟨s2, h2, hi2⟩ := ih (fun o ho => hops o (by simp [ho])) s1 hi1
    exact ⟨s2, by simp only [runOps, h1, h2], hi2⟩

/-- … and in every state such a history reaches, every timeslot that has a layout has a
    channel state for every channel any frame of the layout uses, for every frame number
    (IDLE excepted), and no channel state outside the layout's mask -/
theorem reachable_channels_have_state (ops : List Op) (hops : ∀ op ∈ ops, OpOk op) (s' : Sched)
    (hrun : runOps initSched ops = .ok s') (tn : Nat) (ts : Ts) (hts : s'.ts[tn]? = some (some ts))
    (L : Layout) (hlay : ts.layout = some L) :
    L ∈ layouts ∧ L.config ≠ .NONE ∧
    (∀ l ∈ ts.lchans, l.type < L1SCHED_CHAN_MAX ∧ L.lchanMask.testBit l.type = true) ∧
    ∀ fn f, lookup L fn = .ok f →
      (f.dlChan ≠ .IDLE → ∃ l ∈ ts.lchans, l.type = f.dlChan.val) ∧
      (f.ulChan ≠ .IDLE → ∃ l ∈ ts.lchans, l.type = f.ulChan.val) := by
  obtain ⟨s2, h2, hinv⟩ := history_safe ops hops initSched inv_init
  rw [hrun] at h2
  cases h2
  obtain ⟨_, hcase⟩ := hinv.2 tn ts hts
  rcases hcase with hn | ⟨L', hL, hne, hl', hty⟩
  · rw [hn] at hlay; cases hlay
  · rw [hl'] at hlay
    cases hlay
    have hmem : ∀ t, (∃ l ∈ ts.lchans, l.type = t) ↔ (t < L1SCHED_CHAN_MAX ∧ L.lchanMask.testBit t = true) :=
      fun t => by rw [mem_types_iff hty, List.mem_range]
    refine ⟨hL, hne, fun l hl => (hmem l.type).1 ⟨l, hl, rfl⟩, fun fn f hf => ?_⟩
    obtain ⟨hd, hu⟩ := C11.chans_in_mask L hL hne fn f hf
    exact ⟨fun hi => (hmem _).2 ⟨lchan_val_lt _, hd hi⟩, fun hi => (hmem _).2 ⟨lchan_val_lt _, hu hi⟩⟩

/-! ## the excluded states, made explicit -/

/-- a first configuration that fails (no layout for this combination and timeslot) leaves a
    timeslot whose list head was never initialised: deleting it walks a NULL list head -/
theorem failed_first_configure_then_delete (tn config : Nat) (htn : tn < TRX_TS_COUNT)
    (hno : layoutForVal config tn = none) :
    ∃ s' evs, configureTs initSched tn config = .ok (.EINVAL, s', evs) ∧
      delTs s' tn = .error .nullListHead := by
  have h8 : TRX_TS_COUNT = 8 := by decide
  have hlen : tn < initSched.ts.length := by simp [initSched]; exact htn
  have hnone : initSched.ts[tn] = none := by simp [initSched]
  have hg : configureGetTs initSched tn = .ok (⟨u8 tn, none, false, []⟩, []) := by
    simp only [configureGetTs, getTs_of_lt hlen, hnone, bind, Except.bind, pure, Except.pure]
  have hu8 : u8 tn = tn := Nat.mod_eq_of_lt (by omega)
  refine ⟨setTs initSched tn (some ⟨u8 tn, none, false, []⟩), [], ?_, ?_⟩
  · show configureTsOn (List.range L1SCHED_CHAN_MAX) initSched tn config = _
    simp only [configureTsOn, hg, bind, Except.bind, configureRest, hu8, hno, pure, Except.pure]
  · have hl2 : tn < (setTs initSched tn (some ⟨u8 tn, none, false, []⟩)).ts.length := by
      simp [setTs, initSched]; exact htn
    simp only [delTs, getTs_of_lt hl2, bind, Except.bind]
    simp [setTs, deactivateAll]

/-! ## non-vacuity -/

/-- the combined CCCH on TS0 of a fresh scheduler: configured with return code 0, with the
    channel states FCCH SCH BCCH RACH CCCH SDCCH4_0..3 SACCH4_0..3 in that order, the automatic
    ones active -/
example : (match configureTs initSched 0 Pchan.CCCH_SDCCH4.val with
    | .ok (rc, s', evs) =>
      rc == .ok && evs == [Ev.pchanComb 0 Pchan.CCCH_SDCCH4.val] &&
      (match s'.ts[0]? with
       | some (some ts) => ts.lchans.map (fun l => (l.type, l.active)) ==
           [(1, false), (2, true), (3, true), (4, true), (5, true), (9, false), (10, false), (11, false), (12, false),
            (24, false), (25, false), (26, false), (27, false)]
       | _ => false)
    | .error _ => false) = true := by decide +kernel

/-- BCCH (type 3) on the BCCH+CCCH layout, last processed frame 3, next burst in frame 54
    (`e = 51 = period`): the lost BCCH frames are 4, 5 (burst ids 2, 3) and 53 (burst id 0) -/
example : (match layoutFor .CCCH 0 with
    | some L => lostFrames L 3 3 50 == [(4, 2), (5, 3), (53, 0)] &&
        (match substFrameLoss L 0 ⟨3, true, ⟨3, 2, 0⟩⟩ 54 with
         | .ok (rc, td, evs) => rc == .ok && td == ⟨53, 5, 3⟩ &&
             evs == [Ev.rx 3 0 4 2, Ev.rx 3 0 5 3, Ev.rx 3 0 53 0]
         | .error _ => false) &&
        (match substFrameLoss L 0 ⟨3, true, ⟨3, 2, 0⟩⟩ 55 with
         | .ok (rc, _, evs) => rc == .EIO && evs == []
         | .error _ => false)
    | none => false) = true := by decide +kernel

end OsmoVerif.Props.C11Trx
