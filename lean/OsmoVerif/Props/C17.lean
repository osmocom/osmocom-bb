/-
C17 — TRXD PDU definitions (v0, v1, v2) have the documented structure.
Property theorems only.  The six definitions are REGENERATED from the live trxd_proto.py
(`OsmoVerif.Gen.TrxdProto`) and interpreted by the codec model of C16; the documented layout is
`OsmoVerif.Spec.TrxdPduLayout`.
-/
import OsmoVerif.Props.C16
import OsmoVerif.Lemmas.CodecPdu
import OsmoVerif.Gen.TrxdProto

namespace OsmoVerif.Props.C17
open OsmoVerif OsmoVerif.Codec OsmoVerif.Gen.TrxdProto OsmoVerif.Spec.Trxd

/-! ## the regenerated definitions are well-formed; offsets/masks as the live constructor derived them -/

theorem pdu_wf : WF pduV0Rx ∧ WF pduV0Tx ∧ WF pduV1Rx ∧ WF pduV1Tx ∧ WF pduV2Rx ∧ WF pduV2Tx := by
  decide +kernel

/-- the model's offset/mask derivation gives exactly the `(offset, mask)` pairs that the real
`BitFieldSet.__init__` computed for every bit-field set of the six PDUs -/
theorem bitfield_layout_live :
    liveBitsets.all (fun (f, om) =>
      match f with
      | .bits _ len little fs =>
        (match bitsDerive len little fs with
         | .ok (_, offs) => offs.map (fun (b, o) => (o, 2 ^ b.bl - 1)) == om
         | .error _ => false)
      | _ => false) = true := by
  decide +kernel

/-- the sub-PDU definitions dumped separately are the items of the `bpdu` sequences -/
theorem bpdu_is_item :
    pduV2Rx.fs.getLast? = some (.seq "bpdu" .always .rest bpduV2Rx)
    ∧ pduV2Tx.fs.getLast? = some (.seq "bpdu" .always .rest bpduV2Tx) :=
  ⟨rfl, rfl⟩

/-! ## every PDU class decodes what it encodes (instances of C16) -/

theorem pdu_roundtrip_v0rx (v : Vals) (hr : InRange pduV0Rx v 0) :
    ∃ b, toBytes pduV0Rx v = .ok b ∧ fromBytes pduV0Rx b = .ok (v, b.length) := by
  obtain ⟨b, h1, _, h3⟩ := C16.dec_enc pduV0Rx v pdu_wf.1 hr; exact ⟨b, h1, h3⟩

theorem pdu_roundtrip_v0tx (v : Vals) (hr : InRange pduV0Tx v 0) :
    ∃ b, toBytes pduV0Tx v = .ok b ∧ fromBytes pduV0Tx b = .ok (v, b.length) := by
  obtain ⟨b, h1, _, h3⟩ := C16.dec_enc pduV0Tx v pdu_wf.2.1 hr; exact ⟨b, h1, h3⟩

theorem pdu_roundtrip_v1rx (v : Vals) (hr : InRange pduV1Rx v 0) :
    ∃ b, toBytes pduV1Rx v = .ok b ∧ fromBytes pduV1Rx b = .ok (v, b.length) := by
  obtain ⟨b, h1, _, h3⟩ := C16.dec_enc pduV1Rx v pdu_wf.2.2.1 hr; exact ⟨b, h1, h3⟩

theorem pdu_roundtrip_v1tx (v : Vals) (hr : InRange pduV1Tx v 0) :
    ∃ b, toBytes pduV1Tx v = .ok b ∧ fromBytes pduV1Tx b = .ok (v, b.length) := by
  obtain ⟨b, h1, _, h3⟩ := C16.dec_enc pduV1Tx v pdu_wf.2.2.2.1 hr; exact ⟨b, h1, h3⟩

theorem pdu_roundtrip_v2rx (v : Vals) (hr : InRange pduV2Rx v 0) :
    ∃ b, toBytes pduV2Rx v = .ok b ∧ fromBytes pduV2Rx b = .ok (v, b.length) := by
  obtain ⟨b, h1, _, h3⟩ := C16.dec_enc pduV2Rx v pdu_wf.2.2.2.2.1 hr; exact ⟨b, h1, h3⟩

theorem pdu_roundtrip_v2tx (v : Vals) (hr : InRange pduV2Tx v 0) :
    ∃ b, toBytes pduV2Tx v = .ok b ∧ fromBytes pduV2Tx b = .ok (v, b.length) := by
  obtain ⟨b, h1, _, h3⟩ := C16.dec_enc pduV2Tx v pdu_wf.2.2.2.2.2 hr; exact ⟨b, h1, h3⟩

/-- and whatever any of the six classes decodes re-encodes to canonical octets that decode to the same -/
theorem pdu_decode_reencode (d : EnvDef) (hd : d ∈ all.map (·.2)) (b : List Nat) (v : Vals) (n : Nat)
    (hb : isBytes b = true) (h : fromBytes d b = .ok (v, n)) :
    n = b.length ∧ ∃ c, toBytes d v = .ok c ∧ c.length = n ∧ fromBytes d c = .ok (v, n) := by
  obtain ⟨w0r, w0t, w1r, w1t, w2r, w2t⟩ := pdu_wf
  simp only [all, List.map_cons, List.map_nil, List.mem_cons, List.not_mem_nil, or_false] at hd
  rcases hd with rfl | rfl | rfl | rfl | rfl | rfl
  · exact C16.enc_dec_idem _ b v n w0r hb rfl h
  · exact C16.enc_dec_idem _ b v n w0t hb rfl h
  · exact C16.enc_dec_idem _ b v n w1r hb rfl h
  · exact C16.enc_dec_idem _ b v n w1t hb rfl h
  · exact C16.enc_dec_idem _ b v n w2r hb rfl h
  · exact C16.enc_dec_idem _ b v n w2t hb rfl h

/-- whatever octets arrive, each of the six classes either decodes them or raises `DecodeError` — nothing else -/
theorem pdu_errors_own (d : EnvDef) (hd : d ∈ all.map (·.2)) (b : List Nat) (e : Err)
    (h : fromBytes d b = .error e) : e = .decode := by
  obtain ⟨w0r, w0t, w1r, w1t, w2r, w2t⟩ := pdu_wf
  have hr : ∀ d ∈ all.map (·.2), RefsOK d := by decide +kernel
  have hr := hr d hd
  simp only [all, List.map_cons, List.map_nil, List.mem_cons, List.not_mem_nil, or_false] at hd
  rcases hd with rfl | rfl | rfl | rfl | rfl | rfl
  · exact C16.errors_own_decode_strict _ b e w0r hr h
  · exact C16.errors_own_decode_strict _ b e w0t hr h
  · exact C16.errors_own_decode_strict _ b e w1r hr h
  · exact C16.errors_own_decode_strict _ b e w1t hr h
  · exact C16.errors_own_decode_strict _ b e w2r hr h
  · exact C16.errors_own_decode_strict _ b e w2t hr h

/-! ## burst length by modulation, NOPE -/

mutual
/-- the burst fields of a definition (name, presence, length descriptor), nested sequences included -/
def burstOfField : FDef → List (String × Pres × LenD)
  | .buf n p ld => [(n, p, ld)]
  | .seq _ _ _ item => burstFields item
  | _ => []
def burstFields : List FDef → List (String × Pres × LenD)
  | [] => []
  | f :: rest => burstOfField f ++ burstFields rest
end

def codes : List Int := [-2, -1, 0, 1, 2, 3, 4, 5, 6, 7, 8, 9, 10, 11, 12, 13, 14, 15, 16, 17, 31, 32, 39]

/-- a burst field: present iff `nope` is false, length = documented burst length of the code `mod`
for every code (RFU `0111` and anything outside 0..15 rejected) -/
def burstFieldOK (x : String × Pres × LenD) : Bool :=
  decide (x.2.1 = .flagFalse "nope") &&
  (match x.2.2 with
   | .table f tbl => decide (f = "mod") &&
       codes.all (fun m => decide ((match tableGet tbl m with | .ok n => some n | .error _ => none) = burstLen m))
   | _ => false)

/-- In every v1/v2 PDU (and batched sub-PDU) the burst is present iff `nope` is false and its length is
the documented burst length of the modulation code; the live `MTS.get_burst_len` agrees with the
documentation on -2..39. -/
theorem burst_len_by_mod :
    (burstFields pduV1Rx.fs).all burstFieldOK = true ∧ (burstFields pduV1Rx.fs).length = 1
    ∧ (burstFields pduV2Rx.fs).all burstFieldOK = true ∧ (burstFields pduV2Rx.fs).length = 2
    ∧ (burstFields pduV2Tx.fs).all burstFieldOK = true ∧ (burstFields pduV2Tx.fs).length = 2
    ∧ (∀ x ∈ mtsBurstLen, x.2 = burstLen x.1) := by
  decide +kernel

/-- what such a field does when it decodes (any definition): nothing if `nope` is true, else exactly
`table[mod]` octets -/
theorem burst_field_semantics (name : String) (tbl : List (Int × Nat)) (pre pre' : Vals) (data : List Nat) (k : Nat)
    (h : fieldFrom (.buf name (.flagFalse "nope") (.table "mod" tbl)) pre data = .ok (pre', k)) :
    (∃ x, pre.get "nope" = .ok x ∧ x.truthy = true ∧ k = 0 ∧ pre' = pre) ∨
    (∃ x m, pre.get "nope" = .ok x ∧ x.truthy = false ∧ pre.get "mod" = .ok (.int m) ∧ tableGet tbl m = .ok k
      ∧ k ≤ data.length ∧ pre' = pre.set name (.bytes (data.take k))) := by
  rw [fieldFrom] at h
  rcases fieldFromCore_ok h with ⟨h1, h2, h3⟩ | h1
  · simp only [getPres] at h1
    cases hx : pre.get "nope" with
    | error e => simp [hx] at h1
    | ok x => simp only [hx, Except.ok.injEq, Bool.not_eq_false'] at h1; exact .inl ⟨x, rfl, h1, h3, h2⟩
  · obtain ⟨hg, hk, hb⟩ := (fieldFromCore_present h1).1 h
    simp only [getPres] at h1
    cases hx : pre.get "nope" with
    | error e => simp [hx] at h1
    | ok x =>
      simp only [hx, Except.ok.injEq, Bool.not_eq_true'] at h1
      simp only [getLen] at hg
      cases hm : pre.get "mod" with
      | error e => simp [hm] at hg
      | ok mv =>
        cases mv with
        | int m =>
          simp only [hm] at hg
          simp only [Except.ok.injEq] at hb
          exact .inr ⟨x, m, rfl, h1, rfl, hg, hk, hb.symm⟩
        | _ => simp [hm] at hg

/-- … and when it encodes: a NOPE indication carries no burst even if the dict holds one -/
theorem nope_no_burst (name : String) (tbl : List (Int × Nat)) (v : Vals) (x : Val)
    (hx : v.get "nope" = .ok x) (ht : x.truthy = true) :
    fieldTo (.buf name (.flagFalse "nope") (.table "mod" tbl)) v = .ok []
    ∧ ∀ pre data, pre.get "nope" = .ok x →
        fieldFrom (.buf name (.flagFalse "nope") (.table "mod" tbl)) pre data = .ok (pre, 0) := by
  refine ⟨?_, fun pre data hp => ?_⟩
  · simp [fieldTo, fieldToCore, getPres, hx, ht]
  · simp [fieldFrom, fieldFromCore, getPres, hp, ht]

/-! ## a wrong version nibble is rejected -/

theorem hdr1_mismatch (ver : Int) (h : Nat) (rest : List Nat) (hv : ((h / 16 % 16 : Nat) : Int) ≠ ver) :
    fieldFrom (hdr1 ver) [] (h :: rest) = .error .decode := by
  simp only [hdr1, fieldFrom, hdr1_derive]
  refine fieldFromCore_body_error (n := 1) rfl rfl (by simp) ?_
  apply C16.fixed_value_mismatch _ _ _ _ _ "ver" ver rfl rfl
  have e : leToNat (List.take 1 (h :: rest)).reverse = h := by simp [leToNat]
  rw [e, Nat.shiftRight_eq_div_pow]
  exact hv

theorem hdr2_mismatch (h0 h1 : Nat) (rest : List Nat) (h1b : h1 < 256) (hv : h0 / 16 % 16 ≠ 2) :
    fieldFrom hdr2 [] (h0 :: h1 :: rest) = .error .decode := by
  simp only [hdr2, fieldFrom, hdr2_derive]
  refine fieldFromCore_body_error (n := 2) rfl rfl (by simp) ?_
  apply C16.fixed_value_mismatch _ _ _ _ _ "ver" 2 rfl rfl
  have e : leToNat (List.take 2 (h0 :: h1 :: rest)).reverse = h1 + 256 * h0 := by simp [leToNat]
  rw [e, Nat.shiftRight_eq_div_pow]
  have : (h1 + 256 * h0) / 2 ^ 12 = h0 / 16 := by
    rw [show 2 ^ 12 = 256 * 16 from rfl, ← Nat.div_div_eq_div_mul, Nat.add_mul_div_left _ _ (by decide),
      Nat.div_eq_of_lt h1b, Nat.zero_add]
  rw [this]
  show ((h0 / 16 % 16 : Nat) : Int) ≠ 2
  omega

/-- every datagram whose version nibble is not the class's own is rejected with DecodeError
(whatever follows), for all six classes -/
theorem wrong_version_rejected :
    (∀ (h : Nat) (rest : List Nat), h / 16 % 16 ≠ 0 →
        fromBytes pduV0Rx (h :: rest) = .error .decode ∧ fromBytes pduV0Tx (h :: rest) = .error .decode)
    ∧ (∀ (h : Nat) (rest : List Nat), h / 16 % 16 ≠ 1 →
        fromBytes pduV1Rx (h :: rest) = .error .decode ∧ fromBytes pduV1Tx (h :: rest) = .error .decode)
    ∧ (∀ (h0 h1 : Nat) (rest : List Nat), h1 < 256 → h0 / 16 % 16 ≠ 2 →
        fromBytes pduV2Rx (h0 :: h1 :: rest) = .error .decode
        ∧ fromBytes pduV2Tx (h0 :: h1 :: rest) = .error .decode) := by
  refine ⟨fun h rest hv => ?_, fun h rest hv => ?_, fun h0 h1 rest hb hv => ?_⟩
  · have hv' : ((h / 16 % 16 : Nat) : Int) ≠ 0 := by omega
    exact ⟨fromBytes_first_error pduV0Rx (hdr1 0) _ _ _ rfl (hdr1_mismatch 0 h rest hv'),
      fromBytes_first_error pduV0Tx (hdr1 0) _ _ _ rfl (hdr1_mismatch 0 h rest hv')⟩
  · have hv' : ((h / 16 % 16 : Nat) : Int) ≠ 1 := by omega
    exact ⟨fromBytes_first_error pduV1Rx (hdr1 1) _ _ _ rfl (hdr1_mismatch 1 h rest hv'),
      fromBytes_first_error pduV1Tx (hdr1 1) _ _ _ rfl (hdr1_mismatch 1 h rest hv')⟩
  · exact ⟨fromBytes_first_error pduV2Rx hdr2 _ _ _ rfl (hdr2_mismatch h0 h1 rest hb hv),
      fromBytes_first_error pduV2Tx hdr2 _ _ _ rfl (hdr2_mismatch h0 h1 rest hb hv)⟩

/-! ## reserved bits are ignored on receipt -/

/-- bit 3 lies neither in the upper nibble nor in the three low bits -/
private theorem res1_bits : ∀ h < 256, ((h ||| 8) >>> 4) % 2 ^ 4 = (h >>> 4) % 2 ^ 4 ∧ ((h ||| 8) >>> 0) % 2 ^ 3 = (h >>> 0) % 2 ^ 3 := by
  intro h _
  constructor
  · rw [Nat.shiftRight_or_distrib]; exact congrArg (· % 2 ^ 4) (Nat.or_zero _)
  · rw [Nat.shiftRight_zero, Nat.shiftRight_zero, Nat.or_mod_two_pow]; exact Nat.or_zero _

theorem hdr1_reserved (ver : Int) (h : Nat) (rest : List Nat) (hb : h < 256) :
    fieldFrom (hdr1 ver) [] ([h ||| 8] ++ rest) = fieldFrom (hdr1 ver) [] ([h] ++ rest) := by
  obtain ⟨e1, e2⟩ := res1_bits h hb
  have a1 : leToNat (List.take 1 ([h ||| 8] ++ rest)).reverse = h ||| 8 := by simp [leToNat]
  have a2 : leToNat (List.take 1 ([h] ++ rest)).reverse = h := by simp [leToNat]
  simp only [hdr1, fieldFrom, hdr1_derive, fieldFromCore, getPres, List.length_append, List.length_cons,
    List.length_nil, a1, a2, hdr1Offs, bitsDec, e1, e2]

theorem hdr1_consumes (ver : Int) (data : List Nat) (v : Vals) (k : Nat)
    (h : fieldFrom (hdr1 ver) [] data = .ok (v, k)) : k = 1 := by
  simp only [hdr1, fieldFrom, hdr1_derive] at h
  exact (Except.ok.inj ((fieldFromCore_present rfl).1 h).1).symm

/-- the reserved bit of the first octet (value 8) is ignored by every v0/v1 class: a datagram with the bit
set decodes exactly like the same datagram with the bit cleared -/
theorem reserved_zero_ignored (h : Nat) (rest : List Nat) (hb : h < 256) :
    fromBytes pduV0Rx ((h ||| 8) :: rest) = fromBytes pduV0Rx (h :: rest)
    ∧ fromBytes pduV0Tx ((h ||| 8) :: rest) = fromBytes pduV0Tx (h :: rest)
    ∧ fromBytes pduV1Rx ((h ||| 8) :: rest) = fromBytes pduV1Rx (h :: rest)
    ∧ fromBytes pduV1Tx ((h ||| 8) :: rest) = fromBytes pduV1Tx (h :: rest) := by
  have key : ∀ (d : EnvDef) (ver : Int) (fsr : List FDef), d.fs = hdr1 ver :: fsr →
      fromBytes d ((h ||| 8) :: rest) = fromBytes d (h :: rest) := by
    intro d ver fsr hd
    exact fromBytes_first_congr d (hdr1 ver) fsr [h ||| 8] [h] rest hd rfl (hdr1_reserved ver h rest hb)
      (fun v k hk => hdr1_consumes ver _ v k hk)
  exact ⟨key pduV0Rx 0 _ rfl, key pduV0Tx 0 _ rfl, key pduV1Rx 1 _ rfl, key pduV1Tx 1 _ rfl⟩

/-! ## the documented octet layout (v0, v1) -/

def valsTx (ver tn fn pwr : Nat) (bits : List Nat) : Vals :=
  [("ver", .int ver), ("tn", .int tn), ("fn", .int fn), ("pwr", .int pwr), ("hard-bits", .bytes bits)]

def valsRxV0 (tn fn : Nat) (rssi toa256 : Int) (bits pad : List Nat) : Vals :=
  [("ver", .int 0), ("tn", .int tn), ("fn", .int fn), ("rssi", .int rssi), ("toa256", .int toa256),
   ("soft-bits", .bytes bits), ("pad", .bytes pad)]

/-- `burst = [("soft-bits", bits)]`, or `[]` for a NOPE indication -/
def valsRxV1 (tn fn : Nat) (rssi toa256 : Int) (nope mod tsc : Nat) (ci : Int) (burst : Vals) : Vals :=
  [("ver", .int 1), ("tn", .int tn), ("fn", .int fn), ("rssi", .int rssi), ("toa256", .int toa256),
   ("nope", .int nope), ("mod", .int mod), ("tsc", .int tsc), ("cir", .int ci)] ++ burst

/-- the burst-length table of the live v1 definition -/
def burstTable : List (Int × Nat) :=
  match pduV1Rx.fs with
  | [_, _, _, _, _, _, .buf _ _ (.table _ t)] => t
  | _ => []

/-- the field structure of the four v0/v1 classes, as regenerated from the live module -/
theorem v01_shape :
    pduV0Tx = ⟨true, [hdr1 0, .int "fn" .always 4 .big false 0 1, .int "pwr" .always 1 .big false 0 1,
      .buf "hard-bits" .always .rest]⟩
    ∧ pduV1Tx = ⟨true, [hdr1 1, .int "fn" .always 4 .big false 0 1, .int "pwr" .always 1 .big false 0 1,
      .buf "hard-bits" .always .rest]⟩
    ∧ pduV0Rx = ⟨true, [hdr1 0, .int "fn" .always 4 .big false 0 1, .int "rssi" .always 1 .big false 0 (-1),
      .int "toa256" .always 2 .big true 0 1, .buf "soft-bits" .always (.thresh 150 444 148), .buf "pad" .always .rest]⟩
    ∧ pduV1Rx = ⟨true, [hdr1 1, .int "fn" .always 4 .big false 0 1, .int "rssi" .always 1 .big false 0 (-1),
      .int "toa256" .always 2 .big true 0 1, mtsSet, .int "cir" .always 2 .big true 0 1,
      .buf "soft-bits" (.flagFalse "nope") (.table "mod" burstTable)]⟩ :=
  ⟨rfl, rfl, rfl, rfl⟩

theorem burstTable_spec : ∀ m : Nat, m < 16 →
    (match tableGet burstTable (m : Int) with | .ok n => some n | .error _ => none) = burstLen m := by
  decide +kernel

theorem tableGet_of_spec (m L : Nat) (hm : m < 16) (h : burstLen m = some L) :
    tableGet burstTable (m : Int) = .ok L := by
  have := burstTable_spec m hm
  rw [h] at this
  cases hg : tableGet burstTable (m : Int) with
  | error e => simp [hg] at this
  | ok n => simp [hg] at this; rw [this]

/-- Tx PDU, versions 0 and 1: `enc v` is the documented layout -/
theorem layout_tx (ver tn fn pwr : Nat) (bits : List Nat) (h1 : tn < 8) (h2 : fn < 4294967296) (h3 : pwr < 256) :
    (ver = 0 → toBytes pduV0Tx (valsTx ver tn fn pwr bits) = .ok (layoutTx ver tn fn pwr bits))
    ∧ (ver = 1 → toBytes pduV1Tx (valsTx ver tn fn pwr bits) = .ok (layoutTx ver tn fn pwr bits)) := by
  -- One fact per field, in the order of the definition.  Neither the field list nor the dict is written
  -- down: both are what the chain determines, and `exact` compares them with `pduV0Tx`, `valsTx …` by
  -- evaluation.
  have key := fun (veri : Int) (hvi : veri = (ver : Int)) (hv : ver < 16) =>
    envTo_cons_enc (hdr1_field veri ver tn hvi hv h1) <|
    envTo_cons_enc (u32_field "fn" _ fn (by simp [Vals.keys]) h2) <|
    envTo_cons_enc (u8_field "pwr" _ pwr (by simp [Vals.keys]) h3) <|
    envTo_cons_of (buf_enc "hard-bits" _ [] .rest .always bits (by simp [Vals.keys]) rfl rfl) <|
    envTo_nil _
  refine ⟨fun hv => ?_, fun hv => ?_⟩ <;> subst hv
  · exact (key 0 rfl (by decide)).trans (by simp [layoutTx])
  · exact (key 1 rfl (by decide)).trans (by simp [layoutTx])

/-- Rx PDU version 0 (with the optional legacy padding) -/
theorem layout_rx_v0 (tn fn : Nat) (rssi toa256 : Int) (bits pad : List Nat) (h1 : tn < 8) (h2 : fn < 4294967296)
    (h3 : -255 ≤ rssi ∧ rssi ≤ 0) (h4 : -32768 ≤ toa256 ∧ toa256 ≤ 32767) :
    toBytes pduV0Rx (valsRxV0 tn fn rssi toa256 bits pad) = .ok (layoutRxV0 tn fn rssi toa256 bits pad) := by
  have key :=
    envTo_cons_enc (hdr1_field 0 0 tn rfl (by decide) h1) <|
    envTo_cons_enc (u32_field "fn" _ fn (by simp [Vals.keys]) h2) <|
    envTo_cons_enc (neg_u8_field "rssi" _ rssi (by simp [Vals.keys]) h3.1 h3.2) <|
    envTo_cons_enc (i16_field "toa256" _ toa256 (by simp [Vals.keys]) h4.1 h4.2) <|
    envTo_cons_of (buf_enc "soft-bits" _ _ (.thresh 150 444 148) .always bits (by simp [Vals.keys]) rfl rfl) <|
    envTo_cons_of (buf_enc "pad" _ [] .rest .always pad (by simp [Vals.keys]) rfl rfl) <|
    envTo_nil _
  exact key.trans (by simp [layoutRxV0])

/-- Rx PDU version 1, given what the burst field encodes to -/
theorem layout_rx_v1_gen (tn fn : Nat) (rssi toa256 : Int) (nope mod tsc : Nat) (ci : Int) (burst : Vals)
    (out : List Nat)
    (h1 : tn < 8) (h2 : fn < 4294967296) (h3 : -255 ≤ rssi ∧ rssi ≤ 0) (h4 : -32768 ≤ toa256 ∧ toa256 ≤ 32767)
    (h5 : mod < 16) (h6 : tsc < 8) (h7 : -32768 ≤ ci ∧ ci ≤ 32767) (hn : nope < 2)
    (e6 : fieldTo (.buf "soft-bits" (.flagFalse "nope") (.table "mod" burstTable))
      (valsRxV1 tn fn rssi toa256 nope mod tsc ci burst) = .ok out) :
    toBytes pduV1Rx (valsRxV1 tn fn rssi toa256 nope mod tsc ci burst)
      = .ok (layoutRxV1 tn fn rssi toa256 nope mod tsc ci out) := by
  have key :=
    envTo_cons_enc (hdr1_field 1 1 tn rfl (by decide) h1) <|
    envTo_cons_enc (u32_field "fn" _ fn (by simp [Vals.keys]) h2) <|
    envTo_cons_enc (neg_u8_field "rssi" _ rssi (by simp [Vals.keys]) h3.1 h3.2) <|
    envTo_cons_enc (i16_field "toa256" _ toa256 (by simp [Vals.keys]) h4.1 h4.2) <|
    envTo_cons_enc (mts_field _ nope mod tsc hn h5 h6 (by simp [Vals.keys])) <|
    envTo_cons_enc (i16_field "cir" _ ci (by simp [Vals.keys]) h7.1 h7.2) <|
    envTo_cons_of (c := []) (rst := burst) e6 <|
    envTo_nil _
  exact key.trans (by simp [layoutRxV1])

/-- the burst field of the v1/v2 definitions: sent iff `nope = 0` -/
theorem burst_enc (name : String) (tbl : List (Int × Nat)) (v : Vals) (nope : Nat) (bits : List Nat)
    (gn : v.get "nope" = .ok (.int nope)) (gb : v.get name = .ok (.bytes bits)) :
    fieldTo (.buf name (.flagFalse "nope") (.table "mod" tbl)) v = .ok (if nope = 0 then bits else []) := by
  by_cases h0 : nope = 0
  · subst h0
    rw [if_pos rfl]
    exact fieldTo_buf_eval name _ v bits gb rfl _ (by simp [getPres, gn, Val.truthy])
  · rw [if_neg h0]
    exact fieldTo_buf_absent _ _ v _ (by simp [getPres, gn, Val.truthy, h0])

/-- Rx PDU version 1; a NOPE indication (`nope = 1`) carries no burst whatever the dict holds -/
theorem layout_rx_v1 (tn fn : Nat) (rssi toa256 : Int) (nope mod tsc : Nat) (ci : Int) (bits : List Nat)
    (h1 : tn < 8) (h2 : fn < 4294967296) (h3 : -255 ≤ rssi ∧ rssi ≤ 0) (h4 : -32768 ≤ toa256 ∧ toa256 ≤ 32767)
    (h5 : mod < 16) (h6 : tsc < 8) (h7 : -32768 ≤ ci ∧ ci ≤ 32767) (hn : nope < 2) :
    toBytes pduV1Rx (valsRxV1 tn fn rssi toa256 nope mod tsc ci [("soft-bits", .bytes bits)])
      = .ok (layoutRxV1 tn fn rssi toa256 nope mod tsc ci (if nope = 0 then bits else [])) := by
  apply layout_rx_v1_gen _ _ _ _ _ _ _ _ _ _ h1 h2 h3 h4 h5 h6 h7 hn
  exact burst_enc "soft-bits" burstTable _ nope bits (by simp [valsRxV1, Vals.get]) (by simp [valsRxV1, Vals.get])

/-- … and the NOPE indication proper (no burst entry in the dict) -/
theorem layout_rx_v1_nope (tn fn : Nat) (rssi toa256 : Int) (mod tsc : Nat) (ci : Int)
    (h1 : tn < 8) (h2 : fn < 4294967296) (h3 : -255 ≤ rssi ∧ rssi ≤ 0) (h4 : -32768 ≤ toa256 ∧ toa256 ≤ 32767)
    (h5 : mod < 16) (h6 : tsc < 8) (h7 : -32768 ≤ ci ∧ ci ≤ 32767) :
    toBytes pduV1Rx (valsRxV1 tn fn rssi toa256 1 mod tsc ci [])
      = .ok (layoutRxV1 tn fn rssi toa256 1 mod tsc ci []) := by
  apply layout_rx_v1_gen _ _ _ _ _ _ _ _ _ _ h1 h2 h3 h4 h5 h6 h7 (by omega)
  have gn : Vals.get (valsRxV1 tn fn rssi toa256 1 mod tsc ci []) "nope" = .ok (.int (1 : Nat)) := by
    simp [valsRxV1, Vals.get]
  exact fieldTo_buf_absent _ _ _ _ (by simp [getPres, gn, Val.truthy])

/-- reserved bits are sent as zero: bit 3 of the header octet and nothing above the 8 bits of the MTS octet -/
theorem reserved_sent_zero (ver tn nope mod tsc : Nat) (h0 : ver < 16) (h1 : tn < 8) (h2 : nope < 2) (h3 : mod < 16)
    (h4 : tsc < 8) : hdrOctet ver tn / 8 % 2 = 0 ∧ hdrOctet ver tn < 256 ∧ mtsOctet nope mod tsc < 256 := by
  simp only [hdrOctet, mtsOctet]; omega

/-! ## every v0/v1 datagram of the message codec is accepted with identical field values -/

theorem inrange_tx (ver tn fn pwr : Nat) (bits : List Nat) (h1 : tn < 8) (h2 : fn < 4294967296) (h3 : pwr < 256)
    (hb : isBytes bits = true) :
    (ver = 0 → declLen pduV0Tx (valsTx ver tn fn pwr bits) 0 = some (6 + bits.length))
    ∧ (ver = 1 → declLen pduV1Tx (valsTx ver tn fn pwr bits) 0 = some (6 + bits.length)) := by
  have key := fun (veri : Int) (hvi : veri = (ver : Int)) (hv : ver < 16) =>
    inRangeFields_cons_enc (R := 0) rfl (hdr1_field veri ver tn hvi hv h1) rfl <|
    inRangeFields_cons_enc rfl (u32_field "fn" _ fn (by simp [Vals.keys]) h2) rfl <|
    inRangeFields_cons_enc rfl (u8_field "pwr" _ pwr (by simp [Vals.keys]) h3) rfl <|
    inRangeFields_cons_of (f := .buf "hard-bits" .always .rest) rfl
      (inRangeField_buf.2 ⟨bits, rfl, by simp [Vals.keys], hb, rfl, rfl⟩) rfl <|
    inRangeFields_nil.2 ⟨rfl, rfl⟩
  refine ⟨fun hv => ?_, fun hv => ?_⟩ <;> subst hv
  · exact (key 0 rfl (by decide)).trans (congrArg some (by omega))
  · exact (key 1 rfl (by decide)).trans (congrArg some (by omega))

theorem inrange_rx_v0 (tn fn : Nat) (rssi toa256 : Int) (bits pad : List Nat) (h1 : tn < 8) (h2 : fn < 4294967296)
    (h3 : -255 ≤ rssi ∧ rssi ≤ 0) (h4 : -32768 ≤ toa256 ∧ toa256 ≤ 32767)
    (hb : isBytes bits = true) (hpb : isBytes pad = true)
    (hl : (bits.length = 148 ∧ pad.length ≤ 2) ∨ bits.length = 444) :
    declLen pduV0Rx (valsRxV0 tn fn rssi toa256 bits pad) 0 = some (8 + bits.length + pad.length) := by
  -- the length callback of `soft-bits` looks at what is left of the buffer: burst and padding
  have hth : (if bits.length + (pad.length + 0 + 0) > 150 then 444 else 148) = bits.length := by
    rcases hl with ⟨h, hp⟩ | h
    · rw [if_neg (by omega), h]
    · rw [if_pos (by omega), h]
  have key :=
    inRangeFields_cons_enc (R := 0) rfl (hdr1_field 0 0 tn rfl (by decide) h1) rfl <|
    inRangeFields_cons_enc rfl (u32_field "fn" _ fn (by simp [Vals.keys]) h2) rfl <|
    inRangeFields_cons_enc rfl (neg_u8_field "rssi" _ rssi (by simp [Vals.keys]) h3.1 h3.2) rfl <|
    inRangeFields_cons_enc rfl (i16_field "toa256" _ toa256 (by simp [Vals.keys]) h4.1 h4.2) rfl <|
    inRangeFields_cons_of (f := .buf "soft-bits" .always (.thresh 150 444 148)) rfl
      (inRangeField_buf.2 ⟨bits, rfl, by simp [Vals.keys], hb, congrArg Except.ok hth, rfl⟩) rfl <|
    inRangeFields_cons_of (f := .buf "pad" .always .rest) rfl
      (inRangeField_buf.2 ⟨pad, rfl, by simp [Vals.keys], hpb, rfl, rfl⟩) rfl <|
    inRangeFields_nil.2 ⟨rfl, rfl⟩
  exact key.trans (congrArg some (by omega))

theorem inrange_rx_v1 (tn fn : Nat) (rssi toa256 : Int) (mod tsc : Nat) (ci : Int) (bits : List Nat)
    (h1 : tn < 8) (h2 : fn < 4294967296) (h3 : -255 ≤ rssi ∧ rssi ≤ 0) (h4 : -32768 ≤ toa256 ∧ toa256 ≤ 32767)
    (h5 : mod < 16) (h6 : tsc < 8) (h7 : -32768 ≤ ci ∧ ci ≤ 32767) (hb : isBytes bits = true)
    (hl : burstLen mod = some bits.length) :
    declLen pduV1Rx (valsRxV1 tn fn rssi toa256 0 mod tsc ci [("soft-bits", .bytes bits)]) 0
      = some (11 + bits.length) := by
  have t := tableGet_of_spec mod bits.length h5 hl
  have key :=
    inRangeFields_cons_enc (R := 0) rfl (hdr1_field 1 1 tn rfl (by decide) h1) rfl <|
    inRangeFields_cons_enc rfl (u32_field "fn" _ fn (by simp [Vals.keys]) h2) rfl <|
    inRangeFields_cons_enc rfl (neg_u8_field "rssi" _ rssi (by simp [Vals.keys]) h3.1 h3.2) rfl <|
    inRangeFields_cons_enc rfl (i16_field "toa256" _ toa256 (by simp [Vals.keys]) h4.1 h4.2) rfl <|
    inRangeFields_cons_enc rfl (mts_field _ 0 mod tsc (by decide) h5 h6 (by simp [Vals.keys])) rfl <|
    inRangeFields_cons_enc rfl (i16_field "cir" _ ci (by simp [Vals.keys]) h7.1 h7.2) rfl <|
    inRangeFields_cons_of (f := .buf "soft-bits" (.flagFalse "nope") (.table "mod" burstTable))
      (by simp [FDef.pres, getPres, Vals.get, Val.truthy])
      (inRangeField_buf.2 ⟨bits, rfl, by simp [Vals.keys], hb, by simp [getLen, Vals.get, t], rfl⟩) rfl <|
    inRangeFields_nil.2 ⟨rfl, rfl⟩
  exact key.trans (congrArg some (by omega))

theorem inrange_rx_v1_nope (tn fn : Nat) (rssi toa256 : Int) (mod tsc : Nat) (ci : Int)
    (h1 : tn < 8) (h2 : fn < 4294967296) (h3 : -255 ≤ rssi ∧ rssi ≤ 0) (h4 : -32768 ≤ toa256 ∧ toa256 ≤ 32767)
    (h5 : mod < 16) (h6 : tsc < 8) (h7 : -32768 ≤ ci ∧ ci ≤ 32767) :
    declLen pduV1Rx (valsRxV1 tn fn rssi toa256 1 mod tsc ci []) 0 = some 11 :=
  inRangeFields_cons_enc (R := 0) rfl (hdr1_field 1 1 tn rfl (by decide) h1) rfl <|
  inRangeFields_cons_enc rfl (u32_field "fn" _ fn (by simp [Vals.keys]) h2) rfl <|
  inRangeFields_cons_enc rfl (neg_u8_field "rssi" _ rssi (by simp [Vals.keys]) h3.1 h3.2) rfl <|
  inRangeFields_cons_enc rfl (i16_field "toa256" _ toa256 (by simp [Vals.keys]) h4.1 h4.2) rfl <|
  inRangeFields_cons_enc rfl (mts_field _ 1 mod tsc (by decide) h5 h6 (by simp [Vals.keys])) rfl <|
  inRangeFields_cons_enc rfl (i16_field "cir" _ ci (by simp [Vals.keys]) h7.1 h7.2) rfl <|
  inRangeFields_cons_absent_of (f := .buf "soft-bits" (.flagFalse "nope") (.table "mod" burstTable))
    (by simp [FDef.pres, getPres, Vals.get, Val.truthy]) <|
  inRangeFields_nil.2 ⟨rfl, rfl⟩

/-- helper: an in-range value whose encoding is known decodes from that encoding -/
theorem accepted_of (d : EnvDef) (v : Vals) (b : List Nat) (L : Nat) (hw : WF d) (hr : declLen d v 0 = some L)
    (he : toBytes d v = .ok b) : fromBytes d b = .ok (v, b.length) := by
  obtain ⟨b', h1, _, h3⟩ := C16.dec_enc d v hw (by unfold InRange; rw [hr]; rfl)
  rw [he] at h1; cases h1; exact h3

/-- Tx datagrams (`TxMsg.gen_msg()`, versions 0 and 1, any burst) are accepted with identical field values. -/
theorem msgcodec_accepted_tx (ver tn fn pwr : Nat) (bits : List Nat) (h1 : tn < 8) (h2 : fn < 4294967296)
    (h3 : pwr < 256) (hb : isBytes bits = true) :
    (ver = 0 → fromBytes pduV0Tx (layoutTx ver tn fn pwr bits) = .ok (valsTx ver tn fn pwr bits, 6 + bits.length))
    ∧ (ver = 1 → fromBytes pduV1Tx (layoutTx ver tn fn pwr bits) = .ok (valsTx ver tn fn pwr bits, 6 + bits.length)) := by
  have hlen : (layoutTx ver tn fn pwr bits).length = 6 + bits.length := by simp [layoutTx, be32]; omega
  refine ⟨fun hv => ?_, fun hv => ?_⟩
  · have := accepted_of pduV0Tx _ _ _ pdu_wf.2.1 ((inrange_tx ver tn fn pwr bits h1 h2 h3 hb).1 hv)
      ((layout_tx ver tn fn pwr bits h1 h2 h3).1 hv)
    rwa [hlen] at this
  · have := accepted_of pduV1Tx _ _ _ pdu_wf.2.2.2.1 ((inrange_tx ver tn fn pwr bits h1 h2 h3 hb).2 hv)
      ((layout_tx ver tn fn pwr bits h1 h2 h3).2 hv)
    rwa [hlen] at this

/-- Rx v0 datagrams (`RxMsg.gen_msg(legacy)`): GMSK (148) and EDGE (444) bursts, with or without the two
legacy padding octets, are accepted with identical field values (this rests on the soft-bits length rule
`444 if len(data) > 148 + 2`, the repaired defect F3; with `> 148` a padded GMSK burst is a short read). -/
theorem msgcodec_accepted_rx_v0 (tn fn : Nat) (rssi toa256 : Int) (bits pad : List Nat) (h1 : tn < 8)
    (h2 : fn < 4294967296) (h3 : -255 ≤ rssi ∧ rssi ≤ 0) (h4 : -32768 ≤ toa256 ∧ toa256 ≤ 32767)
    (hb : isBytes bits = true) (hl : bits.length = 148 ∨ bits.length = 444) (hp : pad = [] ∨ pad = [0, 0]) :
    fromBytes pduV0Rx (layoutRxV0 tn fn rssi toa256 bits pad)
      = .ok (valsRxV0 tn fn rssi toa256 bits pad, 8 + bits.length + pad.length) := by
  have hpb : isBytes pad = true ∧ pad.length ≤ 2 := by rcases hp with rfl | rfl <;> exact ⟨by decide, by decide⟩
  have hlen : (layoutRxV0 tn fn rssi toa256 bits pad).length = 8 + bits.length + pad.length := by
    simp [layoutRxV0, be32, be16s]; omega
  have := accepted_of pduV0Rx _ _ _ pdu_wf.1
    (inrange_rx_v0 tn fn rssi toa256 bits pad h1 h2 h3 h4 hb hpb.1 (by rcases hl with h | h; exact .inl ⟨h, hpb.2⟩; exact .inr h))
    (layout_rx_v0 tn fn rssi toa256 bits pad h1 h2 h3 h4)
  rwa [hlen] at this

/-- Rx v1 datagrams whose modulation nibble is a documented code, and NOPE indications, are accepted with
identical field values. -/
theorem msgcodec_accepted_rx_v1 (tn fn : Nat) (rssi toa256 : Int) (mod tsc : Nat) (ci : Int) (bits : List Nat)
    (h1 : tn < 8) (h2 : fn < 4294967296) (h3 : -255 ≤ rssi ∧ rssi ≤ 0) (h4 : -32768 ≤ toa256 ∧ toa256 ≤ 32767)
    (h5 : mod < 16) (h6 : tsc < 8) (h7 : -32768 ≤ ci ∧ ci ≤ 32767) (hb : isBytes bits = true) :
    (burstLen mod = some bits.length →
      fromBytes pduV1Rx (layoutRxV1 tn fn rssi toa256 0 mod tsc ci bits)
        = .ok (valsRxV1 tn fn rssi toa256 0 mod tsc ci [("soft-bits", .bytes bits)], 11 + bits.length))
    ∧ fromBytes pduV1Rx (layoutRxV1 tn fn rssi toa256 1 mod tsc ci [])
        = .ok (valsRxV1 tn fn rssi toa256 1 mod tsc ci [], 11) := by
  refine ⟨fun hl => ?_, ?_⟩
  · have hlen : (layoutRxV1 tn fn rssi toa256 0 mod tsc ci bits).length = 11 + bits.length := by
      simp [layoutRxV1, be32, be16s]; omega
    have hlay := layout_rx_v1 tn fn rssi toa256 0 mod tsc ci bits h1 h2 h3 h4 h5 h6 h7 (by omega)
    rw [if_pos rfl] at hlay
    have := accepted_of pduV1Rx _ _ _ pdu_wf.2.2.1
      (inrange_rx_v1 tn fn rssi toa256 mod tsc ci bits h1 h2 h3 h4 h5 h6 h7 hb hl) hlay
    rwa [hlen] at this
  · have hlen : (layoutRxV1 tn fn rssi toa256 1 mod tsc ci []).length = 11 := by
      simp [layoutRxV1, be32, be16s]
    have hlay := layout_rx_v1_nope tn fn rssi toa256 mod tsc ci h1 h2 h3 h4 h5 h6 h7
    have := accepted_of pduV1Rx _ _ _ pdu_wf.2.2.1
      (inrange_rx_v1_nope tn fn rssi toa256 mod tsc ci h1 h2 h3 h4 h5 h6 h7) hlay
    rwa [hlen] at this

/-- the `Modulation` enum of the live message codec is the one the Spec speaks about -/
theorem msg_modulations_live : liveMsgModulations = msgModulations := by
  decide +kernel

/-- every (coding, TSC set) the message codec accepts — except GMSK_AB with TSC set 1 — gives a documented
modulation nibble with the message codec's own burst length -/
theorem msgcodec_mod_codes : ∀ coding ∈ List.range 16, ∀ set ∈ List.range 4,
    msgModValid coding set = true → ¬ (coding = 6 ∧ set = 1) →
    msgModCode coding set < 16 ∧ burstLen (msgModCode coding set) = msgBurstLen coding := by
  decide +kernel

/-- FULL statement of "every v1 Rx datagram of the message codec is accepted" (kept visible). -/
def msgcodec_accepted_rx_v1_full : Prop :=
  ∀ (tn fn : Nat) (rssi toa256 : Int) (coding set tsc : Nat) (ci : Int) (bits : List Nat),
    tn < 8 → fn < 4294967296 → (-255 ≤ rssi ∧ rssi ≤ 0) → (-32768 ≤ toa256 ∧ toa256 ≤ 32767) →
    msgModValid coding set = true → tsc < 8 → (-32768 ≤ ci ∧ ci ≤ 32767) → isBytes bits = true →
    msgBurstLen coding = some bits.length →
    fromBytes pduV1Rx (layoutRxV1 tn fn rssi toa256 0 (msgModCode coding set) tsc ci bits)
      = .ok (valsRxV1 tn fn rssi toa256 0 (msgModCode coding set) tsc ci [("soft-bits", .bytes bits)], 11 + bits.length)

/-- proved part: everything but GMSK_AB with TSC set 1 (known finding F11a) -/
theorem msgcodec_accepted_rx_v1_partial (tn fn : Nat) (rssi toa256 : Int) (coding set tsc : Nat) (ci : Int)
    (bits : List Nat) (h1 : tn < 8) (h2 : fn < 4294967296) (h3 : -255 ≤ rssi ∧ rssi ≤ 0)
    (h4 : -32768 ≤ toa256 ∧ toa256 ≤ 32767) (hm : msgModValid coding set = true) (h6 : tsc < 8)
    (h7 : -32768 ≤ ci ∧ ci ≤ 32767) (hb : isBytes bits = true) (hl : msgBurstLen coding = some bits.length)
    (hx : ¬ (coding = 6 ∧ set = 1)) :
    fromBytes pduV1Rx (layoutRxV1 tn fn rssi toa256 0 (msgModCode coding set) tsc ci bits)
      = .ok (valsRxV1 tn fn rssi toa256 0 (msgModCode coding set) tsc ci [("soft-bits", .bytes bits)], 11 + bits.length) := by
  have hc : coding < 16 ∧ set < 4 := by
    simp only [msgModValid, msgModulations, List.map_cons, List.map_nil, Bool.and_eq_true] at hm
    obtain ⟨hm1, hm2⟩ := hm
    have : coding = 0 ∨ coding = 4 ∨ coding = 6 ∨ coding = 8 ∨ coding = 10 ∨ coding = 12 := by
      simpa [List.contains_cons] using hm1
    refine ⟨by omega, ?_⟩
    split at hm2 <;> simp at hm2 <;> omega
  obtain ⟨k1, k2⟩ := msgcodec_mod_codes coding (List.mem_range.2 hc.1) set (List.mem_range.2 hc.2) hm hx
  exact (msgcodec_accepted_rx_v1 tn fn rssi toa256 _ tsc ci bits h1 h2 h3 h4 k1 h6 h7 hb).1 (by rw [k2, hl])

/-- F11a: a valid `RxMsg` v1 with ModGMSK_AB and TSC set 1 puts the RFU code `0111` on the wire, which
`PDUv1Rx` rejects — the full statement is false. -/
theorem msgcodec_accepted_rx_v1_full_fails : ¬ msgcodec_accepted_rx_v1_full := by
  intro h
  have := h 0 0 0 0 6 1 0 0 (List.replicate 148 0) (by decide) (by decide) (by decide) (by decide) (by decide)
    (by decide) (by decide) (by decide +kernel) (by decide +kernel)
  have hfail : fromBytes pduV1Rx (layoutRxV1 0 0 0 0 0 (msgModCode 6 1) 0 0 (List.replicate 148 0))
      = .error .decode := by decide +kernel
  rw [hfail] at this
  cases this

/-- F11b: `TxMsg.gen_msg(legacy=True)` appends two octets; `PDUv0Tx` has no `pad` field, so the datagram is
accepted but the two octets end up in `hard-bits` (150 octets): the field values are not identical. -/
theorem msgcodec_tx_legacy_not_identical (tn fn pwr : Nat) (bits : List Nat) (h1 : tn < 8) (h2 : fn < 4294967296)
    (h3 : pwr < 256) (hb : isBytes bits = true) :
    fromBytes pduV0Tx (layoutTx 0 tn fn pwr bits ++ [0, 0]) = .ok (valsTx 0 tn fn pwr (bits ++ [0, 0]), 6 + bits.length + 2)
    ∧ valsTx 0 tn fn pwr (bits ++ [0, 0]) ≠ valsTx 0 tn fn pwr bits := by
  have hb2 : isBytes (bits ++ [0, 0]) = true := by rw [isBytes_append, hb]; decide
  have := (msgcodec_accepted_tx 0 tn fn pwr (bits ++ [0, 0]) h1 h2 h3 hb2).1 rfl
  have e : layoutTx 0 tn fn pwr (bits ++ [0, 0]) = layoutTx 0 tn fn pwr bits ++ [0, 0] := by simp [layoutTx]
  rw [e] at this
  refine ⟨by simpa [Nat.add_assoc] using this, ?_⟩
  intro hc
  simp only [valsTx, List.cons.injEq, Prod.mk.injEq, Val.bytes.injEq, and_true, true_and] at hc
  have := congrArg List.length hc
  simp at this

/-! ## version 2 with any number of batched sub-PDUs -/

/-- a batched sub-PDU (NOPE indication, 8 octets) -/
def bpduItem : Vals := [("tn", .int 3), ("batch", .int 1), ("shadow", .int 0), ("trxn", .int 5), ("nope", .int 1),
  ("mod", .int 0), ("tsc", .int 0), ("rssi", .int (-70)), ("toa256", .int (-3)), ("cir", .int 100)]

/-- the primary part of a v2 Rx PDU (NOPE indication, 12 octets) -/
def v2Primary : Vals := [("ver", .int 2), ("tn", .int 1), ("batch", .int 1), ("trxn", .int 0), ("nope", .int 1),
  ("mod", .int 0), ("tsc", .int 0), ("rssi", .int (-60)), ("toa256", .int 0), ("cir", .int 0), ("fn", .int 42)]

theorem v2rx_shape : pduV2Rx = ⟨true, [hdr2, mtsSet, .int "rssi" .always 1 .big false 0 (-1),
    .int "toa256" .always 2 .big true 0 1, .int "cir" .always 2 .big true 0 1, .int "fn" .always 4 .big false 0 1,
    .buf "soft-bits" (.flagFalse "nope") (.table "mod" burstTable),
    .seq "bpdu" .always .rest bpduV2Rx]⟩ := rfl

theorem bpduItem_inrange (r : Nat) : inRangeFields bpduV2Rx [] bpduItem r = some 8 :=
  inRangeFields_cons_enc rfl (hdr2b_field 3 1 0 5 (by decide) (by decide) (by decide) (by decide)) rfl <|
  inRangeFields_cons_enc rfl (mts_field _ 1 0 0 (by decide) (by decide) (by decide) (by simp [Vals.keys])) rfl <|
  inRangeFields_cons_enc rfl (neg_u8_field "rssi" _ (-70) (by simp [Vals.keys]) (by decide) (by decide)) rfl <|
  inRangeFields_cons_enc rfl (i16_field "toa256" _ (-3) (by simp [Vals.keys]) (by decide) (by decide)) rfl <|
  inRangeFields_cons_enc rfl (i16_field "cir" _ 100 (by simp [Vals.keys]) (by decide) (by decide)) rfl <|
  inRangeFields_cons_absent_of (f := .buf "soft-bits" (.flagFalse "nope") (.table "mod" burstTable))
    (by simp [FDef.pres, getPres, Vals.get, Val.truthy]) <|
  inRangeFields_nil.2 ⟨rfl, rfl⟩

theorem bpduItems_inrange : ∀ k : Nat,
    inRangeItems (fun iv r => inRangeFields bpduV2Rx [] iv r) (List.replicate k (.dict bpduItem)) = some (8 * k)
  | 0 => rfl
  | k + 1 => inRangeItems_cons.2
      ⟨bpduItem, 8 * k, 8, rfl, bpduItems_inrange k, bpduItem_inrange _, by decide, by omega⟩

/-- for EVERY k there is an in-range v2 PDU with exactly k batched sub-PDUs (12 + 8k octets) -/
theorem v2_batched_inrange (k : Nat) :
    declLen pduV2Rx (v2Primary ++ [("bpdu", .list (List.replicate k (.dict bpduItem)))]) 0 = some (12 + 8 * k) := by
  have key :=
    inRangeFields_cons_enc (R := 0) rfl (hdr2_field 1 1 0 (by decide) (by decide) (by decide)) rfl <|
    inRangeFields_cons_enc rfl (mts_field _ 1 0 0 (by decide) (by decide) (by decide) (by simp [Vals.keys])) rfl <|
    inRangeFields_cons_enc rfl (neg_u8_field "rssi" _ (-60) (by simp [Vals.keys]) (by decide) (by decide)) rfl <|
    inRangeFields_cons_enc rfl (i16_field "toa256" _ 0 (by simp [Vals.keys]) (by decide) (by decide)) rfl <|
    inRangeFields_cons_enc rfl (i16_field "cir" _ 0 (by simp [Vals.keys]) (by decide) (by decide)) rfl <|
    inRangeFields_cons_enc rfl (u32_field "fn" _ 42 (by simp [Vals.keys]) (by decide)) rfl <|
    inRangeFields_cons_absent_of (f := .buf "soft-bits" (.flagFalse "nope") (.table "mod" burstTable))
      (by simp [FDef.pres, getPres, Vals.get, Val.truthy]) <|
    inRangeFields_cons_of (f := .seq "bpdu" .always .rest bpduV2Rx) rfl
      (inRangeField_seq.2 ⟨_, rfl, by simp [Vals.keys], bpduItems_inrange k, rfl⟩) rfl <|
    inRangeFields_nil.2 ⟨rfl, rfl⟩
  exact key.trans (congrArg some (by omega))

/-- A version-2 PDU with ANY number of batched sub-PDUs round-trips with every sub-PDU intact:
for every in-range value (no bound on the length of `bpdu`) decoding the encoding returns the value — the
whole list of sub-PDUs included — and such values exist for every k. -/
theorem v2_batched :
    (∀ (d : EnvDef), d = pduV2Rx ∨ d = pduV2Tx → ∀ (v : Vals) (items : List Val),
      v.get "bpdu" = .ok (.list items) → InRange d v 0 →
      ∃ b, toBytes d v = .ok b ∧ ∃ v', fromBytes d b = .ok (v', b.length) ∧ v' = v
        ∧ v'.get "bpdu" = .ok (.list items))
    ∧ (∀ k : Nat, ∃ v b, v.get "bpdu" = .ok (.list (List.replicate k (.dict bpduItem))) ∧ InRange pduV2Rx v 0
        ∧ toBytes pduV2Rx v = .ok b ∧ b.length = 12 + 8 * k ∧ fromBytes pduV2Rx b = .ok (v, b.length)) := by
  refine ⟨?_, ?_⟩
  · intro d hd v items hv hr
    have hw : WF d := by rcases hd with rfl | rfl; exact pdu_wf.2.2.2.2.1; exact pdu_wf.2.2.2.2.2
    obtain ⟨b, h1, _, h3⟩ := C16.dec_enc d v hw hr
    exact ⟨b, h1, v, h3, rfl, hv⟩
  · intro k
    have hr := v2_batched_inrange k
    obtain ⟨b, h1, h2, h3⟩ := C16.dec_enc pduV2Rx _ pdu_wf.2.2.2.2.1 (by unfold InRange; rw [hr]; rfl)
    refine ⟨_, b, by simp [v2Primary, Vals.get], by unfold InRange; rw [hr]; rfl, h1, ?_, h3⟩
    rw [hr] at h2; simpa using h2.symm

/-! ## the documented octet layout, version 2 -/

def valsRxBatched (p : RxPart) : Vals :=
  [("tn", .int p.tn), ("batch", .int p.batch), ("shadow", .int p.shadow), ("trxn", .int p.trxn), ("nope", .int p.nope),
   ("mod", .int p.mod), ("tsc", .int p.tsc), ("rssi", .int p.rssi), ("toa256", .int p.toa256), ("cir", .int p.cir),
   ("soft-bits", .bytes p.bits)]

def valsV2Rx (fn : Nat) (p : RxPart) (subs : List RxPart) : Vals :=
  [("ver", .int 2), ("tn", .int p.tn), ("batch", .int p.batch), ("trxn", .int p.trxn), ("nope", .int p.nope),
   ("mod", .int p.mod), ("tsc", .int p.tsc), ("rssi", .int p.rssi), ("toa256", .int p.toa256), ("cir", .int p.cir),
   ("fn", .int fn), ("soft-bits", .bytes p.bits), ("bpdu", .list (subs.map (fun q => Val.dict (valsRxBatched q))))]

def valsTxBatched (p : TxPart) : Vals :=
  [("tn", .int p.tn), ("batch", .int p.batch), ("shadow", .int p.shadow), ("trxn", .int p.trxn), ("nope", .int p.nope),
   ("mod", .int p.mod), ("tsc", .int p.tsc), ("pwr", .int p.pwr), ("scpir", .int p.scpir), ("hard-bits", .bytes p.bits)]

def valsV2Tx (fn : Nat) (p : TxPart) (subs : List TxPart) : Vals :=
  [("ver", .int 2), ("tn", .int p.tn), ("batch", .int p.batch), ("trxn", .int p.trxn), ("nope", .int p.nope),
   ("mod", .int p.mod), ("tsc", .int p.tsc), ("pwr", .int p.pwr), ("scpir", .int p.scpir),
   ("fn", .int fn), ("hard-bits", .bytes p.bits), ("bpdu", .list (subs.map (fun q => Val.dict (valsTxBatched q))))]

/-- the field structure of the v2 classes and their sub-PDUs, as regenerated from the live module -/
theorem v2_shape :
    bpduV2Rx = [hdr2b, mtsSet, .int "rssi" .always 1 .big false 0 (-1), .int "toa256" .always 2 .big true 0 1,
      .int "cir" .always 2 .big true 0 1, .buf "soft-bits" (.flagFalse "nope") (.table "mod" burstTable)]
    ∧ bpduV2Tx = [hdr2b, mtsSet, .int "pwr" .always 1 .big false 0 1, .int "scpir" .always 1 .big true 0 1,
      .spare "spare" .always (.fixed 3) [0], .buf "hard-bits" (.flagFalse "nope") (.table "mod" burstTable)]
    ∧ pduV2Tx = ⟨true, [hdr2, mtsSet, .int "pwr" .always 1 .big false 0 1, .int "scpir" .always 1 .big true 0 1,
      .spare "spare" .always (.fixed 3) [0], .int "fn" .always 4 .big false 0 1,
      .buf "hard-bits" (.flagFalse "nope") (.table "mod" burstTable), .seq "bpdu" .always .rest bpduV2Tx]⟩ :=
  ⟨rfl, rfl, rfl⟩

theorem layout_v2_rx_batched (p : RxPart) (hp : p.valid) :
    envTo bpduV2Rx (valsRxBatched p) = .ok (layoutV2RxBatched p) := by
  obtain ⟨h1, h2, h3, h4, h5, h6, h7, h8, h9, h10⟩ := hp
  have key :=
    envTo_cons_enc (hdr2b_field p.tn p.batch p.shadow p.trxn h1 h2 h3 h4) <|
    envTo_cons_enc (mts_field _ p.nope p.mod p.tsc h5 h6 h7 (by simp [Vals.keys])) <|
    envTo_cons_enc (neg_u8_field "rssi" _ p.rssi (by simp [Vals.keys]) h8.1 h8.2) <|
    envTo_cons_enc (i16_field "toa256" _ p.toa256 (by simp [Vals.keys]) h9.1 h9.2) <|
    envTo_cons_enc (i16_field "cir" _ p.cir (by simp [Vals.keys]) h10.1 h10.2) <|
    envTo_cons_of (c := [("soft-bits", .bytes p.bits)]) (rst := [])
      (burst_enc "soft-bits" burstTable _ p.nope p.bits (by simp [Vals.get]) (by simp [Vals.get])) <|
    envTo_nil _
  exact key.trans (by simp [layoutV2RxBatched])

theorem layout_v2_tx_batched (p : TxPart) (hp : p.valid) :
    envTo bpduV2Tx (valsTxBatched p) = .ok (layoutV2TxBatched p) := by
  obtain ⟨h1, h2, h3, h4, h5, h6, h7, h8, h9⟩ := hp
  have key :=
    envTo_cons_enc (hdr2b_field p.tn p.batch p.shadow p.trxn h1 h2 h3 h4) <|
    envTo_cons_enc (mts_field _ p.nope p.mod p.tsc h5 h6 h7 (by simp [Vals.keys])) <|
    envTo_cons_enc (u8_field "pwr" _ p.pwr (by simp [Vals.keys]) h8) <|
    envTo_cons_enc (i8_field "scpir" _ p.scpir (by simp [Vals.keys]) h9.1 h9.2) <|
    envTo_cons_of (c := []) (spare3_enc _) <|
    envTo_cons_of (c := [("hard-bits", .bytes p.bits)]) (rst := [])
      (burst_enc "hard-bits" burstTable _ p.nope p.bits (by simp [Vals.get]) (by simp [Vals.get])) <|
    envTo_nil _
  exact key.trans (by simp [layoutV2TxBatched])

/-- version 2, Rx: the primary part followed by ANY number of batched sub-PDUs encodes to the documented layout -/
theorem layout_v2_rx (fn : Nat) (p : RxPart) (subs : List RxPart) (hfn : fn < 4294967296) (hp : p.valid)
    (hs : ∀ q ∈ subs, q.valid) :
    toBytes pduV2Rx (valsV2Rx fn p subs) = .ok (layoutV2Rx fn p subs) := by
  obtain ⟨h1, h2, _, h4, h5, h6, h7, h8, h9, h10⟩ := hp
  have key :=
    envTo_cons_enc (hdr2_field p.tn p.batch p.trxn h1 h2 h4) <|
    envTo_cons_enc (mts_field _ p.nope p.mod p.tsc h5 h6 h7 (by simp [Vals.keys])) <|
    envTo_cons_enc (neg_u8_field "rssi" _ p.rssi (by simp [Vals.keys]) h8.1 h8.2) <|
    envTo_cons_enc (i16_field "toa256" _ p.toa256 (by simp [Vals.keys]) h9.1 h9.2) <|
    envTo_cons_enc (i16_field "cir" _ p.cir (by simp [Vals.keys]) h10.1 h10.2) <|
    envTo_cons_enc (u32_field "fn" _ fn (by simp [Vals.keys]) hfn) <|
    envTo_cons_of (c := [("soft-bits", .bytes p.bits)])
      (burst_enc "soft-bits" burstTable _ p.nope p.bits (by simp [Vals.get]) (by simp [Vals.get])) <|
    envTo_cons_of (seq_enc "bpdu" bpduV2Rx _ [] _ _ (by simp [Vals.keys])
      (seqEnc_flat _ valsRxBatched layoutV2RxBatched subs (fun q hq => layout_v2_rx_batched q (hs q hq)))) <|
    envTo_nil _
  exact key.trans (by simp [layoutV2Rx, layoutV2RxPrimary])

/-- version 2, Tx -/
theorem layout_v2_tx (fn : Nat) (p : TxPart) (subs : List TxPart) (hfn : fn < 4294967296) (hp : p.valid)
    (hs : ∀ q ∈ subs, q.valid) :
    toBytes pduV2Tx (valsV2Tx fn p subs) = .ok (layoutV2Tx fn p subs) := by
  obtain ⟨h1, h2, _, h4, h5, h6, h7, h8, h9⟩ := hp
  have key :=
    envTo_cons_enc (hdr2_field p.tn p.batch p.trxn h1 h2 h4) <|
    envTo_cons_enc (mts_field _ p.nope p.mod p.tsc h5 h6 h7 (by simp [Vals.keys])) <|
    envTo_cons_enc (u8_field "pwr" _ p.pwr (by simp [Vals.keys]) h8) <|
    envTo_cons_enc (i8_field "scpir" _ p.scpir (by simp [Vals.keys]) h9.1 h9.2) <|
    envTo_cons_of (c := []) (spare3_enc _) <|
    envTo_cons_enc (u32_field "fn" _ fn (by simp [Vals.keys]) hfn) <|
    envTo_cons_of (c := [("hard-bits", .bytes p.bits)])
      (burst_enc "hard-bits" burstTable _ p.nope p.bits (by simp [Vals.get]) (by simp [Vals.get])) <|
    envTo_cons_of (seq_enc "bpdu" bpduV2Tx _ [] _ _ (by simp [Vals.keys])
      (seqEnc_flat _ valsTxBatched layoutV2TxBatched subs (fun q hq => layout_v2_tx_batched q (hs q hq)))) <|
    envTo_nil _
  exact key.trans (by simp [layoutV2Tx, layoutV2TxPrimary])

/-! ## non-vacuity -/

example : InRange pduV0Tx (valsTx 0 7 2715647 255 (List.replicate 148 1)) 0 := by
  unfold InRange
  rw [(inrange_tx 0 7 2715647 255 _ (by decide) (by decide) (by decide) (by decide)).1 rfl]; rfl

example : fromBytes pduV0Tx [0x07, 0, 0, 0, 1, 10, 1, 0, 1] = .ok (valsTx 0 7 1 10 [1, 0, 1], 9) := by decide +kernel
example : fromBytes pduV1Tx [0x07, 0, 0, 0, 1, 10, 1, 0, 1] = .error .decode := by decide +kernel

end OsmoVerif.Props.C17
