/-
C04 — TRXD octets follow the protocol layout; Python and trxcon (C) agree.
The layout-level theorems are in Props/C04Py (Python codec = Spec.TrxdLayout, both directions,
versions 0 and 1) and Props/Trxcon (trxcon decodes / emits Spec.TrxdLayout).  This file composes
them into the cross-implementation statements of the property: every version-0 burst the toolkit
sends towards L1 is decoded by trxcon to the same frame, timeslot, RSSI, ToA and soft bits, and every
burst trxcon emits is parsed by the toolkit to the values trxcon was given.
-/
import OsmoVerif.Props.C04Py
import OsmoVerif.Props.C13
import OsmoVerif.Props.C01
import OsmoVerif.Props.Trxcon

namespace OsmoVerif.Props.C04
open OsmoVerif OsmoVerif.Trxd OsmoVerif.Spec.TrxdRanges OsmoVerif.Spec.TrxdLayout OsmoVerif.TrxconIf

/-- Every valid version-0 Rx message (soft bits in −127..127), with or without legacy padding: the
octets the Python encoder produces are decoded by trxcon's `trx_data_rx_cb` to a burst indication
with exactly the message's frame number, timeslot, RSSI, ToA256 and soft bits. -/
theorem trxcon_decodes_py (m : RxMsg) (legacy : Bool) (adv : Nat)
    (hv : m.validate = .ok ()) (hw : m.WellTyped) (h0 : m.ver = 0)
    (hs : ∀ b ∈ m.burst, ∀ s ∈ b, -127 ≤ s ∧ s ≤ 127) :
    ∃ (octets : Bytes) (fn tn : Nat) (rssi toa : Int) (soft : List Int),
      m.genMsg legacy = .ok octets ∧
      m.fn = some (fn : Int) ∧ m.tn = some (tn : Int) ∧ m.rssi = some rssi ∧ m.toa256 = some toa ∧
      m.burst = some soft ∧
      cRx octets adv = .ind ⟨tn, fn, rssi, toa, soft⟩ ⟨TrxconIf.u32 (fn + TrxconIf.u32 adv) % 2715648, tn⟩ := by
  obtain ⟨f, hf, hg⟩ := C04Py.gen_eq_layout_rx m legacy hv hw
  obtain ⟨ev, efn, etn, erssi, etoa, eburst, -⟩ := C04Py.fields_rx_spec m f hf
  have hin := (C13.validate_rx_iff m).mp hv
  obtain ⟨-, hfn, htn, hr, ht, hb0, -⟩ := hin
  rw [efn] at hfn; rw [etn] at htn; rw [erssi] at hr; rw [etoa] at ht
  simp only [within] at hfn htn hr ht
  have hbl := hb0 h0
  cases hbs : m.burst with
  | none => rw [hbs] at hbl; exact hbl.elim
  | some soft =>
    rw [hbs] at hbl
    simp only [burstLen148or444] at hbl
    have hfv : f.ver = 0 := by
      have : (f.ver : Int) = 0 := by rw [← ev]; exact h0
      exact_mod_cast this
    have hfs : f.soft = some soft := by rw [← eburst, hbs]
    have hsr : ∀ s ∈ soft, -127 ≤ s ∧ s ≤ 127 := hs soft (by rw [hbs]; exact rfl)
    refine ⟨_, f.fn, f.tn, f.rssi, f.toa256, soft, hg, efn, etn, erssi, etoa, rfl, ?_⟩
    exact Trxcon.trxcon_decodes_layout f legacy soft adv hfv hfs (by omega) (by omega)
      ⟨by omega, by omega⟩ ht hbl hsr

/-- Every burst request trxcon transmits (TN 0..7, any 32-bit FN, attenuation octet, 148 or 444 hard
bits): the octets `trx_if_handle_phyif_burst_req` passes to `send()` are parsed by the toolkit's
`TxMsg.parse_msg` to exactly the values trxcon was given (version 0). -/
theorem py_parses_trxcon (tn fn pwr : Nat) (bits : List Nat)
    (htn : tn < 8) (hfn : fn < 4294967296) (hp : pwr < 256)
    (hl : bits.length = 148 ∨ bits.length = 444) :
    ∃ octets, cTx ⟨tn, fn, pwr, bits, bits.length⟩ = .sent 0 octets ∧
      TxMsg.parseMsg octets = .ok ⟨0, some (fn : Int), some (tn : Int), some (pwr : Int), some bits⟩ := by
  refine ⟨_, Trxcon.trxcon_emits_layout tn fn pwr bits htn hfn hp (by omega), ?_⟩
  exact TxMsg.parse_layout ⟨0, fn, tn, pwr, bits⟩ false (by show (0:Nat) < 2; omega) htn hfn hl

/-- … and what the toolkit parsed is a valid message when the frame number is inside the hyperframe
(`validate` does not look at the bit octets; it then round-trips through the Python encoder, C01). -/
theorem py_parses_trxcon_valid (tn fn pwr : Nat) (bits : List Nat)
    (htn : tn < 8) (hfn : fn < 2715648) (hp : pwr < 256)
    (hl : bits.length = 148 ∨ bits.length = 444) :
    (⟨0, some (fn : Int), some (tn : Int), some (pwr : Int), some bits⟩ : TxMsg).validate = .ok () := by
  rw [C13.validate_tx_iff]
  refine ⟨Or.inl rfl, ?_, ?_, ?_, ?_⟩ <;> simp only [within, burstLen148or444] <;> first | omega | exact hl

/-- a concrete valid v0 Rx message at the range boundaries -/
def exRx : RxMsg :=
  { RxMsg.fresh with
    fn := some 2715647
    tn := some 7
    rssi := some (-120)
    toa256 := some (-32768)
    burst := some (List.replicate 148 (-127)) }

/-- non-vacuity: the hypotheses of `trxcon_decodes_py` are satisfiable -/
example : exRx.validate = .ok () ∧ exRx.WellTyped ∧ exRx.ver = 0 ∧
    (∀ b ∈ exRx.burst, ∀ s ∈ b, -127 ≤ s ∧ s ≤ 127) := by decide +kernel

end OsmoVerif.Props.C04
