/-
C13 — Validation accepts exactly the protocol value ranges; nothing invalid is sent.
Property theorems only.  Model: `OsmoVerif.Model.Trxd` (bounds from the regenerated
`Gen.Trxd`), Spec: `OsmoVerif.Spec.TrxdRanges` (the protocol's literal numbers),
lemmas: `OsmoVerif.Lemmas.Trxd`.
-/
import OsmoVerif.Lemmas.Trxd

namespace OsmoVerif.Props.C13
open OsmoVerif OsmoVerif.Trxd OsmoVerif.Spec.TrxdRanges

/-- A Tx message validates iff every field lies in its protocol range. -/
theorem validate_tx_iff (m : TxMsg) : m.validate = .ok () ↔ InRangeTx m :=
  TxMsg.validate_iff m

/-- An Rx message validates iff every field lies in its protocol range. -/
theorem validate_rx_iff (m : RxMsg) : m.validate = .ok () ↔ InRangeRx m :=
  RxMsg.validate_iff m

/-- `validate()` never raises anything but ValueError (so "does not validate" = ValueError). -/
theorem validate_tx_refuses_iff (m : TxMsg) : m.validate = .error .valueError ↔ ¬ InRangeTx m  :=
  refuses_iff (validate_tx_iff m) (TxMsg.validate_err m)

theorem validate_rx_refuses_iff (m : RxMsg) : m.validate = .error .valueError ↔ ¬ InRangeRx m  :=
  refuses_iff (validate_rx_iff m) (RxMsg.validate_err m)

/-- Encoding a Tx message is refused with ValueError for exactly the messages that are not in
range, and yields octets for all others (legacy padding on or off). -/
theorem gen_refuses_iff_tx (m : TxMsg) (legacy : Bool) :
    (m.genMsg legacy = .error .valueError ↔ ¬ InRangeTx m) ∧
    (InRangeTx m → ∃ b, m.genMsg legacy = .ok b)  :=
  gen_refuses_iff
    (fun hn => by simp only [TxMsg.genMsg, (validate_tx_refuses_iff m).mpr hn, bind, Except.bind])
    (fun h => (TxMsg.genMsg_layout m legacy h).elim fun _ hf => ⟨_, hf.2⟩)

/-- Encoding an Rx message is refused with ValueError for exactly the messages that are not in
range, and yields octets for all others. -/
theorem gen_refuses_iff_rx (m : RxMsg) (legacy : Bool) :
    (m.genMsg legacy = .error .valueError ↔ ¬ InRangeRx m) ∧
    (InRangeRx m → ∃ b, m.genMsg legacy = .ok b)  :=
  gen_refuses_iff
    (fun hn => by simp only [RxMsg.genMsg, (validate_rx_refuses_iff m).mpr hn, bind, Except.bind])
    (RxMsg.genMsg_ok m legacy)

/-- `DATAInterface.send_msg` hands exactly one datagram (the encoding) to the socket iff the
message is in range; otherwise it sends nothing and returns normally (no exception). -/
theorem send_emits_iff_tx (m : TxMsg) (legacy : Bool) :
    ((∃ b, sendMsg (m.genMsg legacy) = .ok [b]) ↔ InRangeTx m) ∧
    (InRangeTx m → ∃ b, m.genMsg legacy = .ok b ∧ sendMsg (m.genMsg legacy) = .ok [b]) ∧
    (¬ InRangeTx m → sendMsg (m.genMsg legacy) = .ok [])  :=
  sendMsg_iff (gen_refuses_iff_tx m legacy).1 (gen_refuses_iff_tx m legacy).2

theorem send_emits_iff_rx (m : RxMsg) (legacy : Bool) :
    ((∃ b, sendMsg (m.genMsg legacy) = .ok [b]) ↔ InRangeRx m) ∧
    (InRangeRx m → ∃ b, m.genMsg legacy = .ok b ∧ sendMsg (m.genMsg legacy) = .ok [b]) ∧
    (¬ InRangeRx m → sendMsg (m.genMsg legacy) = .ok [])  :=
  sendMsg_iff (gen_refuses_iff_rx m legacy).1 (gen_refuses_iff_rx m legacy).2

/-! ### non-vacuity: both sides of every equivalence are inhabited by non-trivial messages -/

/-- a valid Tx message at the upper ends of its ranges (FN 2715647, TN 7, attenuation 255, EDGE length) -/
example : InRangeTx ⟨1, some 2715647, some 7, some 255, some (List.replicate 444 1)⟩ := by decide +kernel
/-- the frame number just above the range is refused (the bound finding F2 is about) -/
example : (⟨0, some 2715648, some 0, some 0, some (List.replicate 148 0)⟩ : TxMsg).validate
    = .error .valueError := by decide +kernel
example : ¬ InRangeTx ⟨0, some 2715648, some 0, some 0, some (List.replicate 148 0)⟩ := by decide +kernel
/-- a valid version-1 Rx message: 32QAM, TSC set 1, TSC 7, C/I at the lower bound -/
example : InRangeRx ⟨1, some 0, some 0, some (-120), some (-32768), Modulation.ofName? "Mod32QAM", false,
    some 1, some 7, some (-1280), some (List.replicate 740 (-127))⟩ := by decide +kernel
/-- a valid NOPE indication (no burst, modulation/TSC unset) -/
example : InRangeRx ⟨1, some 5, some 3, some (-47), some 32767, none, true, none, none, some 1280, none⟩ := by
  decide +kernel
/-- a NOPE indication that carries a burst is refused -/
example : ¬ InRangeRx ⟨1, some 5, some 3, some (-47), some 32767, none, true, none, none, some 1280,
    some (List.replicate 148 0)⟩ := by decide +kernel
/-- TSC set 2 is in range for GMSK only -/
example : InRangeRx ⟨1, some 5, some 3, some (-47), some 0, some Modulation.gmsk, false, some 2, some 0, some 0,
    some (List.replicate 148 0)⟩ ∧
    ¬ InRangeRx ⟨1, some 5, some 3, some (-47), some 0, Modulation.ofName? "ModGMSK_AB", false, some 2, some 0,
      some 0, some (List.replicate 148 0)⟩ := by decide +kernel
/-- a valid message is sent as exactly one datagram; an invalid one is dropped without exception -/
example : sendMsg ((⟨0, some 1, some 2, some 3, some (List.replicate 148 1)⟩ : TxMsg).genMsg true)
    = .ok [[2, 0, 0, 0, 1, 3] ++ List.replicate 148 1 ++ [0, 0]] := by decide +kernel
example : sendMsg ((⟨0, some 1, some 8, some 3, some (List.replicate 148 1)⟩ : TxMsg).genMsg true) = .ok [] := by
  decide +kernel

end OsmoVerif.Props.C13
