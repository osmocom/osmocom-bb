/-
C15 — Capture files return exactly what was stored, even after truncation.
Model: `OsmoVerif.Model.TrxdDump` (DATADump / DATADumpFile over a byte list with cursor), on top of the
TRXD model; uses the round-trip theorems of C01.  Lemmas: `OsmoVerif.Lemmas.TrxdDump`.
"Equal in every field" is, as in C01, equality with `carried m` (the fields the header version transports).
-/
import OsmoVerif.Props.C01
import OsmoVerif.Lemmas.TrxdDump
import OsmoVerif.Lemmas.TrxdDumpHist

namespace OsmoVerif.Props.C15
open OsmoVerif OsmoVerif.Trxd OsmoVerif.TrxdDump OsmoVerif.Spec.TrxdRanges OsmoVerif.Spec.TrxdLayout

/-- a message the toolkit accepts (Rx: soft bits in -127..127, as in C01) -/
def MsgValid : Msg → Prop
  | .tx m => C01.TxValid m
  | .rx m => C01.RxValid m ∧ C01.SoftRange m

instance (m : Msg) : Decidable (MsgValid m) := by cases m <;> unfold MsgValid <;> infer_instance

/-- the message a stored message reads back as -/
def carriedMsg : Msg → Msg
  | .tx m => .tx m
  | .rx m => .rx (C01.carried m)

def kindOf : Msg → Kind
  | .tx _ => .tx
  | .rx _ => .rx

/-- the `count` limitation of `parse_all` -/
def takeCount (count : Option Nat) (ms : List Msg) : List Msg :=
  match count with
  | none => ms
  | some c => ms.take c

/-! ### a valid message is written as one well-formed record -/

/-- proof device: the TRXD octets of a message (only used for valid messages) -/
def rawOf (m : Msg) : Bytes :=
  match (match m with | .tx t => t.genMsg | .rx r => r.genMsg) with
  | .ok raw => raw
  | .error _ => []

def stored (m : Msg) : Rec × Msg := (⟨kindOf m, rawOf m⟩, carriedMsg m)

/-- the encodings are short enough for the 16 bits the capture file stores their length in -/
theorem layoutTx_length (f : TxFields) (l : Bool) : (layoutTx f l).length ≤ 6 + f.bits.length + 2 := by
  have : (pad f.ver l).length ≤ 2 := by rcases pad_cases f.ver l with h | h <;> rw [h] <;> decide
  simp only [layoutTx, hdr, be32, List.length_append, List.length_cons, List.length_nil]
  omega

theorem rxHdrLayout_length (f : RxFields) : (rxHdrLayout f).length ≤ 11 := by
  simp only [rxHdrLayout, hdr, be32, s16be, List.length_append, List.length_cons, List.length_nil]
  split <;> simp

theorem modLen_le (c n : Nat) (h : modLen c = some n) : n ≤ 740 := by
  unfold modLen at h
  split at h <;> simp only [Option.some.injEq, reduceCtorEq] at h <;> omega

theorem rx_burst_le (m : RxMsg) (h : InRangeRx m) (b : List Int) (hb : m.burst = some b) :
    b.length ≤ 740 := by
  obtain ⟨hv, -, -, -, -, h0, h1⟩ := h
  rcases hv with hv | hv
  · have := h0 hv
    simp only [hb, burstLen148or444] at this
    omega
  · obtain ⟨-, hr⟩ := h1 hv
    cases hn : m.nopeInd with
    | true => simp only [hn, if_true, hb, reduceCtorEq] at hr
    | false =>
      rw [hn, if_neg (by decide)] at hr
      obtain ⟨mod, -, -, -, hbl⟩ := (inRangeMts_iff m).mp hr
      rw [hb] at hbl
      exact modLen_le _ _ hbl

theorem dump_valid (m : Msg) (h : MsgValid m) :
    dumpMsg m = .ok (stored m).1.bytes ∧ (stored m).1.raw.length < 65536 ∧
    parseRaw (stored m).1.kind (stored m).1.raw = .msg (stored m).2 := by
  -- what either message class supplies: the octets, a bound on their number, the round trip of C01
  suffices hs : ∃ raw, (match m with | .tx t => t.genMsg | .rx r => r.genMsg) = .ok raw ∧ raw.length < 65536 ∧
      parseRaw (kindOf m) raw = .msg (carriedMsg m) by
    obtain ⟨raw, hg, hlen, hrt⟩ := hs
    have hraw : rawOf m = raw := by simp only [rawOf, hg]
    have hp : packBE16u raw.length = .ok [raw.length / 256 % 256, raw.length % 256] := by
      simp only [packBE16u, hlen, if_true]
    refine ⟨?_, by simp only [stored, hraw]; exact hlen, by simp only [stored, hraw]; exact hrt⟩
    cases m <;> simp only at hg <;>
      simp only [dumpMsg, hg, hp, bind, Except.bind, pure, Except.pure, stored, hraw, Rec.bytes, kindOf, tagOf]
  cases m with
  | tx t =>
    have hr := (TxMsg.validate_iff t).mp h
    obtain ⟨f, hf, hg⟩ := TxMsg.genMsg_layout t false hr
    have hb : f.bits.length = 148 ∨ f.bits.length = 444 := by
      have := hr.2.2.2.2
      rw [TxMsg.eq_of_fields? t f hf] at this
      exact this
    have hlen := layoutTx_length f false
    have hrt := C01.tx_roundtrip t false h
    rw [hg] at hrt
    simp only [bind, Except.bind] at hrt
    exact ⟨_, hg, by omega, by simp only [kindOf, parseRaw, hrt, carriedMsg]⟩
  | rx r =>
    have hr := (RxMsg.validate_iff r).mp h.1
    obtain ⟨f, -, -, hg⟩ := RxMsg.genMsg_split r false hr
    have hp : (pad f.ver false).length ≤ 2 := by rcases pad_cases f.ver false with h | h <;> rw [h] <;> decide
    have hh := rxHdrLayout_length f
    have hb : ((r.burst.map fun b => b.map fun s => softOctet (ubyte2s (sbyte s))).getD []).length ≤ 740 := by
      cases hb : r.burst with
      | none => simp
      | some b => simpa using rx_burst_le r hr b hb
    have hrt := C01.rx_roundtrip r false h.1 h.2
    rw [hg] at hrt
    simp only [bind, Except.bind] at hrt
    exact ⟨_, hg, by simp only [List.length_append]; omega, by simp only [kindOf, parseRaw, hrt, carriedMsg]⟩

theorem stored_wf (ms : List Msg) (hv : ∀ m ∈ ms, MsgValid m) : StoredWF (ms.map stored) := by
  intro x hx
  obtain ⟨m, hm, rfl⟩ := List.mem_map.mp hx
  exact (dump_valid m (hv m hm)).2

theorem appendAll_valid (ms : List Msg) (hv : ∀ m ∈ ms, MsgValid m) (d : Bytes) :
    appendAll ⟨d, d.length⟩ ms
      = .ok ⟨d ++ recsBytes (ms.map (fun m => (stored m).1)), (d ++ recsBytes (ms.map (fun m => (stored m).1))).length⟩ := by
  induction ms generalizing d with
  | nil => simp [appendAll, recsBytes]
  | cons m ms ih =>
    have hd := (dump_valid m (hv m (List.mem_cons_self ..))).1
    have := ih (fun m' hm' => hv m' (List.mem_cons_of_mem _ hm')) (d ++ (stored m).1.bytes)
    simp only [appendAll, appendMsg, File.seekEnd, hd, bind, Except.bind, pure, Except.pure, write_at_end, this,
      List.map_cons, recsBytes_cons, List.append_assoc]

/-- the capture file holding exactly the messages `ms` -/
def fileOf (ms : List Msg) : Bytes := recsBytes (ms.map (fun m => (stored m).1))

theorem fileOf_appendAll (ms : List Msg) (hv : ∀ m ∈ ms, MsgValid m) :
    appendAll ⟨[], 0⟩ ms = .ok ⟨fileOf ms, (fileOf ms).length⟩ := by
  have ha := appendAll_valid ms hv []
  simpa only [List.nil_append, List.length_nil, fileOf] using ha

theorem capture_of (ms : List Msg) (hv : ∀ m ∈ ms, MsgValid m) (p : Bytes) (hp : IsCutTail p) :
    Capture (recsBytes ((ms.map stored).map (·.1)) ++ p) (ms.map stored) :=
  ⟨⟨p, rfl, hp⟩, stored_wf ms hv⟩

theorem stored_msgs (ms : List Msg) : (ms.map stored).map (·.2) = ms.map carriedMsg := by
  simp [stored, List.map_map, Function.comp]

theorem stored_recs (ms : List Msg) : (ms.map stored).map (·.1) = ms.map (fun m => (stored m).1) := by
  simp [List.map_map, Function.comp]

theorem loopSpec_takeCount (count : Option Nat) (ms : List Msg) (hc : ∀ c, count = some c → 1 ≤ c) :
    loopSpec count [] ms = takeCount count ms := by
  cases count with
  | none => simp [loopSpec_none, takeCount]
  | some c =>
    have := hc c rfl
    rw [loopSpec_some c [] ms (by simp; omega)]
    simp [takeCount]

/-! ### a fresh reader on a capture -/

/-- what an operation must answer when `ms` are the messages appended so far: the statements of
`parse_msg_idx` (and `None` beyond the stored messages) and `skip_count_slice` -/
def expectedAns (ms : List Msg) : Op → Ans
  | .appendMsg _ => .done
  | .appendAll _ => .done
  | .parseMsg i => .res (if h : i < ms.length then .msg (carriedMsg ms[i]) else .none)
  | .parseAll skip count =>
    .all (match skip with
          | none => some (takeCount count (ms.map carriedMsg))
          | some s => if s ≤ ms.length then some (takeCount count ((ms.drop s).map carriedMsg)) else none)
  | .truncate _ => .cut

/-- read operations (with count >= 1) -/
def ReadOp : Op → Prop
  | .parseMsg _ => True
  | .parseAll _ count => ∀ c, count = some c → 1 ≤ c
  | _ => False

/-- a fresh reader on content made of the complete records of `st` followed by a cut tail -/
theorem fresh_read {data : Bytes} {st : List Msg} (c : Capture data (st.map stored)) (op : Op)
    (hr : ReadOp op) :
    (specStep data op).2 = data ∧
    ((specStep data op).1 = expectedAns st op ∨
      ∃ s cnt, op = .parseAll (some s) cnt ∧ st.length < s ∧ (specStep data op).1 = .all (some [])) := by
  cases op with
  | appendMsg m => exact hr.elim
  | appendAll l => exact hr.elim
  | truncate n => exact hr.elim
  | parseMsg i =>
    by_cases hi : i < st.length
    · obtain ⟨f', hf'⟩ := parseMsg_idx c 0 i (by simpa using hi)
      refine ⟨by simp only [specStep, hf'], Or.inl ?_⟩
      simp only [specStep, hf', expectedAns, hi, dite_true, List.getElem_map, stored]
    · obtain ⟨f', hf'⟩ := parseMsg_beyond c 0 i (by simp; omega)
      refine ⟨by simp only [specStep, hf'], Or.inl ?_⟩
      simp only [specStep, hf', expectedAns, hi, dite_false]
  | parseAll skip count =>
    have hc : ∀ c, count = some c → 1 ≤ c := hr
    cases skip with
    | none =>
      obtain ⟨f', hf'⟩ := parseAll_noskip c 0 count
      refine ⟨by simp only [specStep, hf'], Or.inl ?_⟩
      simp only [specStep, hf', expectedAns, loopSpec_takeCount count _ hc, stored_msgs]
    | some s =>
      by_cases hs : s ≤ st.length
      · obtain ⟨f', hf'⟩ := parseAll_skip c 0 s count (by simpa using hs)
        refine ⟨by simp only [specStep, hf'], Or.inl ?_⟩
        simp only [specStep, hf', expectedAns, loopSpec_takeCount count _ hc, hs, if_true, ← List.map_drop,
          stored_msgs]
      · obtain ⟨f', hf'⟩ := parseAll_beyond c 0 s count (by simp; omega)
        rcases hf' with hf' | hf'
        · refine ⟨by simp only [specStep, hf'], Or.inl ?_⟩
          simp only [specStep, hf', expectedAns, hs, if_false]
        · exact ⟨by simp only [specStep, hf'], Or.inr ⟨s, count, rfl, by omega, by simp only [specStep, hf']⟩⟩

/-- on an uncut capture a skip beyond the stored messages is always the range error -/
theorem fresh_read_uncut (st : List Msg) (hv : ∀ m ∈ st, MsgValid m) (op : Op) (hr : ReadOp op) :
    specStep (fileOf st) op = (expectedAns st op, fileOf st) := by
  have c := capture_of st hv [] (Or.inl rfl)
  simp only [List.append_nil, stored_recs] at c
  obtain ⟨h2, h1⟩ := fresh_read c op hr
  rcases h1 with h1 | ⟨s, cnt, rfl, hs, _⟩
  · exact Prod.ext h1 h2
  · obtain ⟨f', hf'⟩ := seek2msg_beyond_eof c (by rw [stored_recs]) 0 s (by simpa using hs)
    have hns : ¬ s ≤ st.length := by omega
    simp only [specStep, parseAll, hf', bind, Except.bind, pure, Except.pure, Bool.false_eq_true,
      not_false_eq_true, if_true, expectedAns, hns, if_false, fileOf]

/-! ### the property -/

/-- skip / count select exactly the corresponding slice; a skip beyond the stored messages is the
documented range error (`False`). -/
theorem skip_count_slice (ms : List Msg) (hv : ∀ m ∈ ms, MsgValid m) (skip : Option Nat) (count : Option Nat)
    (hc : ∀ c, count = some c → 1 ≤ c) :
    ∃ f f', appendAll ⟨[], 0⟩ ms = .ok f ∧
      parseAll f skip count =
        .ok ((match skip with
              | none => some (takeCount count (ms.map carriedMsg))
              | some s => if s ≤ ms.length then some (takeCount count ((ms.drop s).map carriedMsg)) else none), f') := by
  have h := fresh_read_uncut ms hv (.parseAll skip count) hc
  obtain ⟨r, f', hr, -⟩ := parseAll_total ⟨fileOf ms, (fileOf ms).length⟩ skip count
  simp only [specStep, ← parseAll_cursor (fileOf ms) (fileOf ms).length, hr, expectedAns, Prod.mk.injEq,
    Ans.all.injEq, and_true] at h
  exact ⟨_, f', fileOf_appendAll ms hv, h ▸ hr⟩

/-- Messages appended to a capture file are returned by a full read in the same order and equal in
every (transported) field. -/
theorem parse_all_stored (ms : List Msg) (hv : ∀ m ∈ ms, MsgValid m) :
    ∃ f f', appendAll ⟨[], 0⟩ ms = .ok f ∧
      parseAll f none none = .ok (some (ms.map carriedMsg), f') :=
  skip_count_slice ms hv none none (fun _ h => nomatch h)

/-- The i-th message is returned by random access, for every i. -/
theorem parse_msg_idx (ms : List Msg) (hv : ∀ m ∈ ms, MsgValid m) (i : Nat) (hi : i < ms.length) :
    ∃ f f', appendAll ⟨[], 0⟩ ms = .ok f ∧ parseMsg f i = .ok (.msg (carriedMsg ms[i]), f') := by
  have h := fresh_read_uncut ms hv (.parseMsg i) trivial
  obtain ⟨r, f', hr, -⟩ := parseMsg_total ⟨fileOf ms, (fileOf ms).length⟩ i
  simp only [specStep, ← parseMsg_cursor (fileOf ms) (fileOf ms).length, hr, expectedAns, hi, dite_true,
    Prod.mk.injEq, Ans.res.injEq, and_true] at h
  exact ⟨_, f', fileOf_appendAll ms hv, h ▸ hr⟩

/-- exactly the first `k` messages of `ms` were completely written within the first `cut` octets:
the file holding the first `k` messages is no longer than `cut`, the one holding `k + 1` is longer -/
def CompleteBefore (ms : List Msg) (cut k : Nat) : Prop :=
  k ≤ ms.length ∧
  (∃ fk, appendAll ⟨[], 0⟩ (ms.take k) = .ok fk ∧ fk.data.length ≤ cut) ∧
  (k < ms.length → ∃ fk1, appendAll ⟨[], 0⟩ (ms.take (k + 1)) = .ok fk1 ∧ cut < fk1.data.length)

/-- a capture cut at any offset consists of the completely written records and a cut tail -/
theorem cut_capture (ms : List Msg) (hv : ∀ m ∈ ms, MsgValid m) (cut : Nat) :
    ∃ f k, appendAll ⟨[], 0⟩ ms = .ok f ∧ CompleteBefore ms cut k ∧
      Capture (f.data.take cut) ((ms.take k).map stored) := by
  have hl : ∀ r ∈ ms.map (fun m => (stored m).1), r.raw.length < 65536 := by
    intro r hr
    obtain ⟨m, hm, rfl⟩ := List.mem_map.mp hr
    exact (dump_valid m (hv m hm)).2.1
  obtain ⟨p, hp, htail, hk, hs1, hs2⟩ := take_recsBytes (ms.map (fun m => (stored m).1)) cut hl
  have hvk : ∀ n, ∀ m ∈ ms.take n, MsgValid m := fun n m hm => hv m (List.mem_of_mem_take hm)
  refine ⟨_, completeRecs (ms.map (fun m => (stored m).1)) cut, fileOf_appendAll ms hv,
    ⟨by simpa using hk, ?_, ?_⟩, ⟨p, ?_, htail⟩, stored_wf _ (hvk _)⟩
  · exact ⟨_, fileOf_appendAll _ (hvk _), by simpa only [fileOf, List.map_take] using hs1⟩
  · exact fun hlt => ⟨_, fileOf_appendAll _ (hvk _),
      by simpa only [fileOf, List.map_take] using hs2 (by simpa using hlt)⟩
  · simp only [fileOf, hp, stored_recs, List.map_take]

/-- If the file is cut at any byte offset, a full read returns exactly the messages completely
written before the cut, without raising. -/
theorem truncated_prefix (ms : List Msg) (hv : ∀ m ∈ ms, MsgValid m) (cut : Nat) :
    ∃ f k f', appendAll ⟨[], 0⟩ ms = .ok f ∧ CompleteBefore ms cut k ∧
      parseAll ⟨f.data.take cut, 0⟩ none none = .ok (some ((ms.take k).map carriedMsg), f') := by
  obtain ⟨f, k, ha, hk, c⟩ := cut_capture ms hv cut
  obtain ⟨f', hf'⟩ := parseAll_noskip c 0 none
  exact ⟨f, k, f', ha, hk, by rw [hf', loopSpec_none, stored_msgs]; rfl⟩

/-- Random access on a cut file: the i-th message if it was completely written, `None` otherwise;
never an exception. -/
theorem truncated_parse_msg (ms : List Msg) (hv : ∀ m ∈ ms, MsgValid m) (cut i : Nat) :
    ∃ f k f', appendAll ⟨[], 0⟩ ms = .ok f ∧ CompleteBefore ms cut k ∧
      parseMsg ⟨f.data.take cut, 0⟩ i =
        .ok ((if h : i < ms.length then (if i < k then .msg (carriedMsg ms[i]) else .none) else .none), f') := by
  obtain ⟨f, k, ha, hk, c⟩ := cut_capture ms hv cut
  by_cases hi : i < k
  · have hil : i < ms.length := by have := hk.1; omega
    obtain ⟨f', hf'⟩ := parseMsg_idx c 0 i (by simp; omega)
    refine ⟨f, k, f', ha, hk, ?_⟩
    rw [hf']
    simp [hil, hi, stored]
  · obtain ⟨f', hf'⟩ := parseMsg_beyond c 0 i (by simp; omega)
    refine ⟨f, k, f', ha, hk, ?_⟩
    rw [hf']
    simp [hi]

/-- skip / count on a cut file: the corresponding slice of the completely written messages; a skip
beyond them gives the range error `False` or (when the header of the cut record survived) the empty
list; never an exception, never a message that was not completely written. -/
theorem truncated_skip_count (ms : List Msg) (hv : ∀ m ∈ ms, MsgValid m) (cut s : Nat) (count : Option Nat)
    (hc : ∀ c, count = some c → 1 ≤ c) :
    ∃ f k f', appendAll ⟨[], 0⟩ ms = .ok f ∧ CompleteBefore ms cut k ∧
      (s ≤ k → parseAll ⟨f.data.take cut, 0⟩ (some s) count
                = .ok (some (takeCount count (((ms.take k).drop s).map carriedMsg)), f')) ∧
      (k < s → parseAll ⟨f.data.take cut, 0⟩ (some s) count = .ok (none, f') ∨
               parseAll ⟨f.data.take cut, 0⟩ (some s) count = .ok (some [], f')) := by
  obtain ⟨f, k, ha, hk, c⟩ := cut_capture ms hv cut
  have hkl : ((ms.take k).map stored).length = k := by simp [Nat.min_eq_left hk.1]
  by_cases hs : s ≤ k
  · obtain ⟨f', hf'⟩ := parseAll_skip c 0 s count (by omega)
    refine ⟨f, k, f', ha, hk, fun _ => ?_, fun h => by omega⟩
    rw [hf', loopSpec_takeCount count _ hc]
    simp only [← List.map_drop, stored_msgs]
  · obtain ⟨f', hf'⟩ := parseAll_beyond c 0 s count (by omega)
    exact ⟨f, k, f', ha, hk, fun h => by omega, fun _ => hf'⟩

/-! ### histories on ONE capture-file object

`runHist f ops` runs the operations one after the other on the same object (content and cursor as the
previous operation left them); `specHist d ops` answers every read with a fresh reader on the current
content. -/

/-- History independence, for EVERY content, cursor and history (valid or invalid messages, out-of-range
accesses, reads on garbage, crashes, appends after reads): no read method raises, every operation
answers exactly what the stored bytes alone determine (a read: what a fresh reader returns on the
current content; earlier reads, failed or out-of-range accesses and the cursor they left never
influence a later result), and the content evolves by appending records at its end / cutting only. -/
theorem history_independence (f : File) (ops : List Op) :
    ∃ fe, runHist f ops = ((specHist f.data ops).1, some fe) ∧ fe.data = (specHist f.data ops).2 :=
  runHist_spec ops f

/-- A read after ANY history on the object returns what a fresh reader returns on the bytes stored at
that moment. -/
theorem read_after_history (f : File) (pre : List Op) (idx : Nat) (skip count : Option Nat) :
    ∃ fe r f1 l f2, runHist f pre = ((specHist f.data pre).1, some fe) ∧
      parseMsg ⟨fe.data, 0⟩ idx = .ok (r, f1) ∧
      (runHist f (pre ++ [.parseMsg idx])).1 = (runHist f pre).1 ++ [.res r] ∧
      parseAll ⟨fe.data, 0⟩ skip count = .ok (l, f2) ∧
      (runHist f (pre ++ [.parseAll skip count])).1 = (runHist f pre).1 ++ [.all l] := by
  obtain ⟨fe, h1, hd⟩ := runHist_spec pre f
  obtain ⟨r, f1, hr, _⟩ := parseMsg_total ⟨fe.data, 0⟩ idx
  obtain ⟨l, f2, hl, _⟩ := parseAll_total ⟨fe.data, 0⟩ skip count
  obtain ⟨fe2, h2, _⟩ := runHist_spec (pre ++ [.parseMsg idx]) f
  obtain ⟨fe3, h3, _⟩ := runHist_spec (pre ++ [.parseAll skip count]) f
  refine ⟨fe, r, f1, l, f2, h1, hr, ?_, hl, ?_⟩
  · rw [h2, h1, specHist_append]
    simp only [specHist, specStep, ← hd, hr]
  · rw [h3, h1, specHist_append]
    simp only [specHist, specStep, ← hd, hl]

/-- the messages appended after an operation -/
def storedAfter (ms : List Msg) : Op → List Msg
  | .appendMsg m => ms ++ [m]
  | .appendAll l => ms ++ l
  | _ => ms

/-- the answers the property demands of a history, `ms` being the messages appended before it -/
def expectedHist (ms : List Msg) : List Op → List Ans
  | [] => []
  | op :: ops => expectedAns ms op :: expectedHist (storedAfter ms op) ops

/-- the messages appended by a history -/
def storedBy (ms : List Msg) : List Op → List Msg
  | [] => ms
  | op :: ops => storedBy (storedAfter ms op) ops

/-- operations of the property's histories: appends of valid messages, reads with count >= 1 -/
def ValidOp : Op → Prop
  | .appendMsg m => MsgValid m
  | .appendAll l => ∀ m ∈ l, MsgValid m
  | .parseMsg _ => True
  | .parseAll _ count => ∀ c, count = some c → 1 ≤ c
  | .truncate _ => False

instance (op : Op) : Decidable (ValidOp op) := by
  cases op with
  | appendMsg m => unfold ValidOp; infer_instance
  | appendAll l => unfold ValidOp; infer_instance
  | parseMsg i => unfold ValidOp; infer_instance
  | parseAll s count =>
    cases count with
    | none => exact isTrue (fun c h => by cases h)
    | some c =>
      by_cases h : 1 ≤ c
      · exact isTrue (fun c' h' => by cases h'; exact h)
      · exact isFalse (fun h' => h (h' c rfl))
  | truncate n => unfold ValidOp; infer_instance

theorem fileOf_append (a b : List Msg) : fileOf (a ++ b) = fileOf a ++ fileOf b := by
  simp only [fileOf, List.map_append, recsBytes_append]

theorem dumpAll_valid (l : List Msg) (hv : ∀ m ∈ l, MsgValid m) : dumpAll l = (none, fileOf l) := by
  induction l with
  | nil => rfl
  | cons m l ih =>
    have hd := (dump_valid m (hv m (List.mem_cons_self ..))).1
    have := ih (fun m' hm' => hv m' (List.mem_cons_of_mem _ hm'))
    simp only [dumpAll, hd, this, fileOf, List.map_cons, recsBytes_cons]

theorem specStep_valid (ms : List Msg) (hv : ∀ m ∈ ms, MsgValid m) (op : Op) (ho : ValidOp op) :
    specStep (fileOf ms) op = (expectedAns ms op, fileOf (storedAfter ms op)) ∧
    (∀ m ∈ storedAfter ms op, MsgValid m) := by
  cases op with
  | appendMsg m =>
    have hm : MsgValid m := ho
    have hd := (dump_valid m hm).1
    have h1 : fileOf [m] = (stored m).1.bytes := by
      simp only [fileOf, List.map_cons, List.map_nil, recsBytes, List.flatten_cons, List.flatten_nil, List.append_nil]
    exact ⟨by simp only [specStep, hd, expectedAns, storedAfter, fileOf_append, h1],
      List.forall_mem_append.mpr ⟨hv, fun m' h => List.mem_singleton.mp h ▸ hm⟩⟩
  | appendAll l =>
    have hl : ∀ m ∈ l, MsgValid m := ho
    exact ⟨by simp only [specStep, dumpAll_valid l hl, expectedAns, storedAfter, fileOf_append],
      List.forall_mem_append.mpr ⟨hv, hl⟩⟩
  | parseMsg i => exact ⟨fresh_read_uncut ms hv _ trivial, hv⟩
  | parseAll skip count => exact ⟨fresh_read_uncut ms hv _ ho, hv⟩
  | truncate n => exact ho.elim

theorem specHist_valid : ∀ (ops : List Op) (ms : List Msg), (∀ m ∈ ms, MsgValid m) → (∀ op ∈ ops, ValidOp op) →
    specHist (fileOf ms) ops = (expectedHist ms ops, fileOf (storedBy ms ops)) ∧
    (∀ m ∈ storedBy ms ops, MsgValid m) := by
  intro ops
  induction ops with
  | nil => intro ms hv _; exact ⟨rfl, hv⟩
  | cons op ops ih =>
    intro ms hv ho
    obtain ⟨h1, hv'⟩ := specStep_valid ms hv op (ho op (List.mem_cons_self ..))
    obtain ⟨h2, hv''⟩ := ih (storedAfter ms op) hv' (fun o h => ho o (List.mem_cons_of_mem _ h))
    exact ⟨by simp only [specHist, h1, h2, expectedHist, storedBy], hv''⟩

/-- For every history of appends of valid messages and reads on one object (starting with the empty
capture): every `parse_msg(i)` returns the i-th of the messages appended so far (`None` beyond them),
every `parse_all(skip, count)` exactly the corresponding slice of the messages appended so far (`False`
for a skip beyond them) - whatever was read, missed or appended before -, and the file at the end is
byte for byte the file one `append_all` of all the messages produces. -/
theorem history_reads_stored (ops : List Op) (ho : ∀ op ∈ ops, ValidOp op) :
    ∃ fe, runHist ⟨[], 0⟩ ops = (expectedHist [] ops, some fe) ∧
      appendAll ⟨[], 0⟩ (storedBy [] ops) = .ok ⟨fe.data, fe.data.length⟩ := by
  obtain ⟨fe, h1, hd⟩ := runHist_spec ops ⟨[], 0⟩
  obtain ⟨h2, hv⟩ := specHist_valid ops [] (fun m h => by cases h) ho
  have h0 : fileOf [] = [] := rfl
  rw [h0] at h2
  simp only [h2] at h1 hd
  exact ⟨fe, h1, by rw [hd]; exact fileOf_appendAll _ hv⟩

/-- the same from any state of the object that holds the messages `ms` (cursor anywhere) -/
theorem history_reads_stored_from (ms : List Msg) (hv : ∀ m ∈ ms, MsgValid m) (pos : Nat) (ops : List Op)
    (ho : ∀ op ∈ ops, ValidOp op) :
    ∃ f fe, appendAll ⟨[], 0⟩ ms = .ok f ∧ runHist ⟨f.data, pos⟩ ops = (expectedHist ms ops, some fe) ∧
      appendAll ⟨[], 0⟩ (storedBy ms ops) = .ok ⟨fe.data, fe.data.length⟩ := by
  obtain ⟨fe, h1, hd⟩ := runHist_spec ops ⟨fileOf ms, pos⟩
  obtain ⟨h2, hv'⟩ := specHist_valid ops ms hv ho
  simp only [h2] at h1 hd
  exact ⟨_, fe, fileOf_appendAll ms hv, h1, by rw [hd]; exact fileOf_appendAll _ hv'⟩

/-- what a read on a cut file must answer, `st` being the messages completely written before the cut:
the answer for the stored list `st`; for a skip beyond them also the empty list (when the header of the
cut record survived) - no message, no exception -/
def CutAnswer (st : List Msg) (op : Op) (a : Ans) : Prop :=
  a = expectedAns st op ∨ ∃ s cnt, op = .parseAll (some s) cnt ∧ st.length < s ∧ a = .all (some [])

/-- every read of a list answers as `CutAnswer` demands -/
def CutAnswers (st : List Msg) : List Op → List Ans → Prop
  | [], [] => True
  | op :: ops, a :: as => CutAnswer st op a ∧ CutAnswers st ops as
  | _, _ => False

theorem specHist_reads {data : Bytes} {st : List Msg} (c : Capture data (st.map stored)) :
    ∀ (reads : List Op), (∀ op ∈ reads, ReadOp op) →
      (specHist data reads).2 = data ∧ CutAnswers st reads (specHist data reads).1 := by
  intro reads
  induction reads with
  | nil => intro _; exact ⟨rfl, trivial⟩
  | cons op reads ih =>
    intro hr
    obtain ⟨h2, h1⟩ := fresh_read c op (hr op (List.mem_cons_self ..))
    obtain ⟨ih2, ih1⟩ := ih (fun o h => hr o (List.mem_cons_of_mem _ h))
    simp only [specHist, h2]
    exact ⟨ih2, h1, ih1⟩

/-- Crash after any history: appends of valid messages and reads on one object, then the file is cut at
ANY byte offset and opened again, then any reads (repeated, out of range, in any order): the answers
before the crash are those of `history_reads_stored`; after it every read returns exactly what is due
for the messages completely written before the cut (`CompleteBefore`), never an exception. -/
theorem history_then_crash (pre reads : List Op) (cut : Nat) (ho : ∀ op ∈ pre, ValidOp op)
    (hr : ∀ op ∈ reads, ReadOp op) :
    ∃ fe k as, runHist ⟨[], 0⟩ (pre ++ .truncate cut :: reads) = (expectedHist [] pre ++ .cut :: as, some fe) ∧
      CompleteBefore (storedBy [] pre) cut k ∧
      CutAnswers ((storedBy [] pre).take k) reads as ∧
      (∃ f, appendAll ⟨[], 0⟩ (storedBy [] pre) = .ok f ∧ fe.data = f.data.take cut) := by
  obtain ⟨fe, h1, hd⟩ := runHist_spec (pre ++ .truncate cut :: reads) ⟨[], 0⟩
  obtain ⟨h2, hv⟩ := specHist_valid pre [] (fun m h => by cases h) ho
  have h0 : fileOf [] = [] := rfl
  rw [h0] at h2
  obtain ⟨f, k, ha, hk, c⟩ := cut_capture (storedBy [] pre) hv cut
  have hfd : f.data = fileOf (storedBy [] pre) := by
    have := fileOf_appendAll (storedBy [] pre) hv
    rw [ha] at this
    exact congrArg File.data (Except.ok.inj this)
  obtain ⟨h4, h3⟩ := specHist_reads c reads hr
  simp only [specHist_append, h2, specHist, specStep, ← hfd, h4] at h1 hd
  exact ⟨fe, k, _, h1, hk, h3, f, ha, hd⟩

/-- Crash exactly behind the k-th record (nothing of a later record survives), after any history of
appends and reads: the object opened on the cut file behaves for EVERY further history - further appends
included - as a capture holding the first k messages. -/
theorem history_crash_on_boundary (pre post : List Op) (k : Nat) (ho : ∀ op ∈ pre, ValidOp op)
    (hp : ∀ op ∈ post, ValidOp op) :
    ∃ fk fe, appendAll ⟨[], 0⟩ ((storedBy [] pre).take k) = .ok fk ∧
      runHist ⟨[], 0⟩ (pre ++ .truncate fk.data.length :: post)
        = (expectedHist [] pre ++ .cut :: expectedHist ((storedBy [] pre).take k) post, some fe) ∧
      appendAll ⟨[], 0⟩ (storedBy ((storedBy [] pre).take k) post) = .ok ⟨fe.data, fe.data.length⟩ := by
  obtain ⟨h2, hv⟩ := specHist_valid pre [] (fun m h => by cases h) ho
  have h0 : fileOf [] = [] := rfl
  rw [h0] at h2
  have hvk : ∀ m ∈ (storedBy [] pre).take k, MsgValid m := fun m hm => hv m (List.mem_of_mem_take hm)
  obtain ⟨h3, hv3⟩ := specHist_valid post _ hvk hp
  have hsplit : fileOf (storedBy [] pre)
      = fileOf ((storedBy [] pre).take k) ++ fileOf ((storedBy [] pre).drop k) := by
    rw [← fileOf_append, List.take_append_drop]
  have htake : (fileOf (storedBy [] pre)).take (fileOf ((storedBy [] pre).take k)).length
      = fileOf ((storedBy [] pre).take k) := by
    rw [hsplit, List.take_left]
  obtain ⟨fe, h1, hd⟩ := runHist_spec
    (pre ++ .truncate (fileOf ((storedBy [] pre).take k)).length :: post) ⟨[], 0⟩
  simp only [specHist_append, h2, specHist, specStep, htake, h3] at h1 hd
  exact ⟨_, fe, fileOf_appendAll _ hvk, h1, by rw [hd]; exact fileOf_appendAll _ hv3⟩

/-! ### non-vacuity -/

/-- a stored list with all classes of messages: v0 Tx, v1 Rx 8-PSK, NOPE indication -/
example : ∀ m ∈ ([.tx ⟨0, some 0, some 0, some 0, some (List.replicate 148 1)⟩,
      .rx ⟨1, some 2715647, some 7, some (-47), some (-1), Modulation.ofName? "Mod8PSK", false, some 1, some 7,
        some (-1280), some (List.replicate 444 (-127))⟩,
      .rx ⟨1, some 5, some 3, some (-120), some 0, none, true, none, none, some 1280, none⟩] : List Msg),
    MsgValid m := by decide +kernel

/-- a history with an out-of-range access and a partial read before further appends, then reads of the
new messages: the operations satisfy the hypotheses of `history_reads_stored` / `history_then_crash` -/
def exampleHist : List Op :=
  [.appendAll [.tx ⟨0, some 0, some 0, some 0, some (List.replicate 148 1)⟩,
               .rx ⟨1, some 5, some 3, some (-120), some 0, none, true, none, none, some 1280, none⟩],
   .parseMsg 5, .parseAll (some 3) none, .parseMsg 0,
   .appendMsg (.tx ⟨1, some 2715647, some 7, some 255, some (List.replicate 444 0)⟩),
   .parseMsg 2, .parseAll (some 2) (some 1), .parseAll none none]

example : ∀ op ∈ exampleHist, ValidOp op := by decide +kernel

/-- ... and the answers demanded are not trivial: `None`, `False`, the first message, then the message
appended after the failed accesses, by index and by skip -/
example : expectedHist [] exampleHist =
    [.done, .res .none, .all none,
     .res (.msg (.tx ⟨0, some 0, some 0, some 0, some (List.replicate 148 1)⟩)),
     .done,
     .res (.msg (.tx ⟨1, some 2715647, some 7, some 255, some (List.replicate 444 0)⟩)),
     .all (some [.tx ⟨1, some 2715647, some 7, some 255, some (List.replicate 444 0)⟩]),
     .all (some [.tx ⟨0, some 0, some 0, some 0, some (List.replicate 148 1)⟩,
                 .rx (C01.carried ⟨1, some 5, some 3, some (-120), some 0, none, true, none, none, some 1280, none⟩),
                 .tx ⟨1, some 2715647, some 7, some 255, some (List.replicate 444 0)⟩])] := by
  decide +kernel

example : ∀ op ∈ ([.parseMsg 0, .parseMsg 7, .parseAll (some 1) (some 2), .parseAll none none] : List Op), ReadOp op := by
  intro op h
  simp only [List.mem_cons, List.mem_nil_iff, or_false] at h
  rcases h with rfl | rfl | rfl | rfl <;> simp [ReadOp]

end OsmoVerif.Props.C15
