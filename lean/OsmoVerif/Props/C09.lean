/-
C09 — Clock source: consecutive frame numbers, one per frame, no accumulated drift.
Property theorems only; model: `OsmoVerif.Model.Clck`, lemmas: `OsmoVerif.Lemmas.Clck`.

Reading guide.  `worker c start t0 ds` is the real `_worker` entered at virtual time `t0` with
`clck_src = start`; `ds` is the scripted handler duration of every tick (arbitrary naturals, in
ns: below, at or above one tick period), its length is the number of ticks before the breaker.
`(worker …).1[k]?` is tick k: `time` = the virtual time `T k` at which its `wait` returned and
`send_clck_ind` (indications, then handler) ran, `fn` = the frame number handed to the handler,
`sends` = the payloads per link, `call` = the handler call, `dt` = the argument of its `wait`.
`dur c d` = `d` if a handler is installed, else 0.
All statements hold for every tick period `c.tTick`; `t_tick_is_frame` pins the period of the
current tree.
-/
import OsmoVerif.Lemmas.Clck

namespace OsmoVerif.Props.C09
open OsmoVerif OsmoVerif.Clck

/-- one TDMA frame period, 4.615 ms, in ns (the property text) -/
def framePeriodNs : Nat := 4615000

/-- the hyperframe the property speaks about -/
def hyperframe : Nat := 2715648

/-- the octets of `"IND CLOCK "` -/
def indText : List Nat := [73, 78, 68, 32, 67, 76, 79, 67, 75, 32]

theorem indText_is_ascii : indText = "IND CLOCK ".toList.map Char.toNat := by decide +kernel

/-- `'IND CLOCK <fn>'` NUL-terminated, as octets (the property text) -/
def indication (fn : Nat) : List Nat := indText ++ decDigits fn ++ [0]

/-- F4: the tick period the worker of the current tree really uses (measured spacing of
zero-cost ticks under the virtual clock) is one TDMA frame period, also for the first tick. -/
theorem t_tick_is_frame : Gen.tTickNs = framePeriodNs ∧ Gen.clckFirstOffsetNs = framePeriodNs := by
  decide +kernel

/-- the regenerated constants: counter modulus (measured on the real `send_clck_ind`) and
`GSM_HYPERFRAME` are the hyperframe; defaults of the constructor; text of the indication. -/
theorem clck_consts :
    Gen.clckWrap = hyperframe ∧ Gen.clckGsmHyperframe = hyperframe ∧
    Gen.clckDefaultIndPeriod = 102 ∧ Gen.clckDefaultStart = 0 ∧
    (∀ fn, payload fn = indication fn) := by
  refine ⟨by decide +kernel, by decide +kernel, by decide +kernel, by decide +kernel, ?_⟩
  intro fn
  simp only [payload, indication]
  have h1 : Gen.clckIndPrefix = indText := by decide +kernel
  have h2 : Gen.clckIndSuffix = [0] := by decide +kernel
  rw [h1, h2]

/-! ### the worker runs: one tick per scripted duration, no exception -/

/-- with a positive indication period the worker fires exactly one tick per scripted duration
and leaves through the breaker (it never raises). -/
theorem runs_every_tick (c : Cfg) (start : Nat) (t0 : Int) (ds : List Nat) (hp : 0 < c.period) :
    (worker c start t0 ds).1.length = ds.length ∧
    ∃ dt t src, (worker c start t0 ds).2 = .broke dt t src :=
  ⟨loop_length c hp ds _, loop_end c hp ds _⟩

/-- the excluded configuration: `ind_period = 0` makes `clck_src % ind_period` raise
`ZeroDivisionError` in the first tick, before anything is sent or called. -/
theorem period_zero_raises (c : Cfg) (start : Nat) (t0 : Int) (d : Nat) (ds : List Nat)
    (hp : c.period = 0) :
    worker c start t0 (d :: ds) =
      ([], .raised (c.tTick : Int) (t0 + (c.tTick : Int)) start [] none "ZeroDivisionError") := by
  simp only [worker]
  rw [loop]
  have hn : (sendClckInd c start) = { sends := [], call := none, next := .error "ZeroDivisionError" } := by
    unfold sendClckInd; rw [if_pos hp]
  simp only [hn]
  have h2 : (deadline c { tNext := t0, now := t0, src := start }).2 = (c.tTick : Int) := by
    rw [deadline_snd]; simp only; omega
  rw [h2]

/-! ### timing -/

/-- the first tick fires one tick period after the worker is entered, with the start frame. -/
theorem first_tick (c : Cfg) (start : Nat) (t0 : Int) (ds : List Nat) (a : Tick) (hp : 0 < c.period)
    (ha : (worker c start t0 ds).1[0]? = some a) :
    a.time = t0 + (c.tTick : Int) ∧ a.fn = start ∧ a.dt = (c.tTick : Int) := by
  have h := loop_head c hp ds _ a ha
  subst h
  simp only [tickOf]
  rw [deadline_snd]
  simp only
  refine ⟨?_, trivial, ?_⟩ <;> omega

/-- **tick spacing.**  Tick k+1 fires exactly one tick period after tick k *fired* (not after its
handler returned), unless the handler of tick k overran the period: then it fires the moment
the handler returns.  `T (k+1) − T k = max t_tick (d k)`. -/
theorem tick_spacing (c : Cfg) (start : Nat) (t0 : Int) (ds : List Nat) (k : Nat) (a b : Tick) (d : Nat)
    (hp : 0 < c.period)
    (ha : (worker c start t0 ds).1[k]? = some a) (hb : (worker c start t0 ds).1[k + 1]? = some b)
    (hd : ds[k]? = some d) :
    b.time - a.time = max (c.tTick : Int) (dur c d : Int) := by
  have h := (loop_consecutive c hp ds _ k a b d ha hb hd).1
  omega

/-- never a catch-up burst: two ticks are never closer than one tick period, whatever the
handler durations were before. -/
theorem no_catch_up (c : Cfg) (start : Nat) (t0 : Int) (ds : List Nat) (k : Nat) (a b : Tick)
    (hp : 0 < c.period)
    (ha : (worker c start t0 ds).1[k]? = some a) (hb : (worker c start t0 ds).1[k + 1]? = some b) :
    (c.tTick : Int) ≤ b.time - a.time := by
  obtain ⟨a', d, ha', _, h, _⟩ := loop_prev c hp ds _ k b hb
  cases ha.symm.trans ha'
  omega

/-- the argument of every `wait` is non-negative, and it is what is left of the period after
the previous handler: `dt (k+1) = max 0 (t_tick − d k)`. -/
theorem wait_argument (c : Cfg) (start : Nat) (t0 : Int) (ds : List Nat) (k : Nat) (a b : Tick) (d : Nat)
    (hp : 0 < c.period)
    (ha : (worker c start t0 ds).1[k]? = some a) (hb : (worker c start t0 ds).1[k + 1]? = some b)
    (hd : ds[k]? = some d) :
    0 ≤ a.dt ∧ b.dt = max 0 ((c.tTick : Int) - (dur c d : Int)) :=
  ⟨(loop_tick_local c hp ds _ k a ha).2.2, (loop_consecutive c hp ds _ k a b d ha hb hd).2.2⟩

/-- grid lemma: from any tick i on, as long as no handler overruns the period, tick i+m fires
exactly m periods after tick i. -/
theorem no_drift_from (c : Cfg) (start : Nat) (t0 : Int) (ds : List Nat) (hp : 0 < c.period)
    (i : Nat) (a : Tick) (ha : (worker c start t0 ds).1[i]? = some a) :
    ∀ (m : Nat) (b : Tick), (worker c start t0 ds).1[i + m]? = some b →
      (∀ j d, i ≤ j → j < i + m → ds[j]? = some d → dur c d ≤ c.tTick) →
      b.time = a.time + (m : Int) * (c.tTick : Int) := by
  intro m
  induction m with
  | zero =>
    intro b hb _
    cases ha.symm.trans hb
    omega
  | succ m ih =>
    intro b hb hle
    obtain ⟨p, d, hpk, hd, hsp, _⟩ := loop_prev c hp ds _ (i + m) b hb
    have hdle : dur c d ≤ c.tTick := hle (i + m) d (by omega) (by omega) hd
    have hprev := ih p hpk (fun j d hj hj' hjd => hle j d hj (by omega) hjd)
    rw [Int.natCast_succ, Int.add_mul]
    omega

/-- **no drift.**  If none of the first k handlers overran, tick k fires exactly k periods after
tick 0, i.e. k+1 periods after the worker was entered: the time spent in the handlers never
accumulates. -/
theorem no_drift (c : Cfg) (start : Nat) (t0 : Int) (ds : List Nat) (k : Nat) (a0 ak : Tick)
    (hp : 0 < c.period)
    (h0 : (worker c start t0 ds).1[0]? = some a0) (hk : (worker c start t0 ds).1[k]? = some ak)
    (hle : ∀ d ∈ ds.take k, dur c d ≤ c.tTick) :
    ak.time = a0.time + (k : Int) * (c.tTick : Int) ∧
    ak.time = t0 + ((k : Int) + 1) * (c.tTick : Int) := by
  have hk' : (worker c start t0 ds).1[0 + k]? = some ak := by rw [Nat.zero_add]; exact hk
  have h := no_drift_from c start t0 ds hp 0 a0 h0 k ak hk'
    (fun j d _ hj hjd => hle d (mem_take_of_getElem? hjd (by omega)))
  have hf := (first_tick c start t0 ds a0 hp h0).1
  refine ⟨h, ?_⟩
  rw [h, hf, Int.add_mul]
  omega

/-- **resynchronisation.**  If the handler of tick k overran the period, tick k+1 fires the
moment that handler returns (`wait(0)`), and the grid restarts there: as long as the following
handlers stay within the period, tick k+1+m fires exactly m periods after tick k+1 (the lost
time is not made up by early ticks). -/
theorem resync_after_overrun (c : Cfg) (start : Nat) (t0 : Int) (ds : List Nat) (k : Nat) (a b : Tick) (d : Nat)
    (hp : 0 < c.period)
    (ha : (worker c start t0 ds).1[k]? = some a) (hb : (worker c start t0 ds).1[k + 1]? = some b)
    (hd : ds[k]? = some d) (hover : c.tTick < dur c d) :
    b.time = a.time + (dur c d : Int) ∧ b.dt = 0 ∧
    ∀ (m : Nat) (e : Tick), (worker c start t0 ds).1[k + 1 + m]? = some e →
      (∀ d' ∈ (ds.drop (k + 1)).take m, dur c d' ≤ c.tTick) →
      e.time = b.time + (m : Int) * (c.tTick : Int) := by
  have h := loop_consecutive c hp ds _ k a b d ha hb hd
  refine ⟨by omega, by omega, ?_⟩
  intro m e he hle
  exact no_drift_from c start t0 ds hp (k + 1) b hb m e he
    (fun j d' hj hj' hjd => hle d' (mem_drop_take_of_getElem? hjd hj hj'))

/-- closed form: tick k fires one period after the worker was entered plus, for every earlier
tick, one period or the handler time if that was longer. -/
theorem tick_time (c : Cfg) (start : Nat) (t0 : Int) (ds : List Nat) (hp : 0 < c.period) :
    ∀ (k : Nat) (a : Tick), (worker c start t0 ds).1[k]? = some a →
      a.time = t0 + (c.tTick : Int) +
        (((ds.take k).map fun d => max c.tTick (dur c d)).sum : Nat) := by
  intro k
  induction k with
  | zero =>
    intro a ha
    have := (first_tick c start t0 ds a hp ha).1
    simp only [List.take_zero, List.map_nil, List.sum_nil]
    omega
  | succ k ih =>
    intro b hb
    obtain ⟨a, d, ha, hd, hsp, _⟩ := loop_prev c hp ds _ k b hb
    have hprev := ih a ha
    rw [List.take_add_one, hd]
    simp only [Option.toList_some, List.map_append, List.map_cons, List.map_nil, List.sum_append,
      List.sum_cons, List.sum_nil, Nat.add_zero]
    omega

/-! ### frame numbers, indications, handler calls -/

/-- without a range hypothesis on the start frame: every tick after the first is reduced. -/
theorem fn_sequence_any_start (c : Cfg) (start : Nat) (t0 : Int) (ds : List Nat) (hp : 0 < c.period) :
    ∀ (k : Nat) (a : Tick), (worker c start t0 ds).1[k]? = some a →
      a.fn = if k = 0 then start else (start + k) % hyperframe := by
  have hw : Gen.clckWrap = hyperframe := clck_consts.1
  intro k
  induction k with
  | zero => intro a ha; exact (first_tick c start t0 ds a hp ha).2.1
  | succ k ih =>
    intro b hb
    obtain ⟨a, d, ha, _, _, h, _⟩ := loop_prev c hp ds _ k b hb
    rw [if_neg (Nat.succ_ne_zero k), h, ih a ha, hw]
    split
    · next hk => rw [hk]
    · exact Nat.mod_add_mod ..

/-- **frame numbers.**  Tick k carries `(start + k) mod 2715648`; this includes the wrap
2715647 → 0 (`start = 2715647`, k = 1). -/
theorem fn_sequence (c : Cfg) (start : Nat) (t0 : Int) (ds : List Nat) (hp : 0 < c.period)
    (hs : start < hyperframe) :
    ∀ (k : Nat) (a : Tick), (worker c start t0 ds).1[k]? = some a → a.fn = (start + k) % hyperframe := by
  intro k a ha
  rw [fn_sequence_any_start c start t0 ds hp k a ha]
  split
  · next hk => rw [hk, Nat.add_zero, Nat.mod_eq_of_lt hs]
  · rfl

/-- **indications.**  At tick k every attached link, in list order, is sent exactly one
`"IND CLOCK <fn>\0"` if the frame number is divisible by the indication period, and nothing is
sent otherwise. -/
theorem ind_iff_period (c : Cfg) (start : Nat) (t0 : Int) (ds : List Nat) (k : Nat) (a : Tick)
    (hp : 0 < c.period) (ha : (worker c start t0 ds).1[k]? = some a) :
    a.sends = if a.fn % c.period = 0 then c.links.map (fun l => (l, indication a.fn)) else [] := by
  have h := (loop_tick_local c hp ds _ k a ha).1
  rw [h, sendClckInd_sends c a.fn hp]
  have hpay : ∀ fn, payload fn = indication fn := clck_consts.2.2.2.2
  simp only [hpay]

/-- Indications follow the frame NUMBER, not the tick count: whatever the indication period (also one that
does not divide the hyperframe) and the start frame, the tick on which the frame number wraps to 0 sends
`IND CLOCK 0` to every link, and after the wrap the indications are again exactly at the multiples of the
period (`ind_iff_period` with `fn_sequence`). -/
theorem ind_at_wrap (c : Cfg) (start : Nat) (t0 : Int) (ds : List Nat) (k : Nat) (a : Tick)
    (hp : 0 < c.period) (hs : start < hyperframe) (ha : (worker c start t0 ds).1[k]? = some a)
    (hk : (start + k) % hyperframe = 0) :
    a.fn = 0 ∧ a.sends = c.links.map (fun l => (l, indication 0)) := by
  have hfn : a.fn = 0 := by rw [fn_sequence c start t0 ds hp hs k a ha, hk]
  refine ⟨hfn, ?_⟩
  rw [ind_iff_period c start t0 ds k a hp ha, hfn, Nat.zero_mod]
  simp only [if_true]

/-- **handler.**  The handler is called exactly once in every tick — whether or not an
indication is due — with the frame number of the tick, after the indications went out. -/
theorem handler_once_per_tick (c : Cfg) (start : Nat) (t0 : Int) (ds : List Nat) (k : Nat) (a : Tick)
    (hp : 0 < c.period) (hh : c.handler = true) (ha : (worker c start t0 ds).1[k]? = some a) :
    a.call = some a.fn ∧
    a.events.filter Event.isHandler = [Event.handler a.fn a.time] ∧
    a.events = Event.wait a.dt a.time :: (a.sends.map fun p => Event.send p.1 a.time p.2) ++
      [Event.handler a.fn a.time] := by
  have h := (loop_tick_local c hp ds _ k a ha).2.1
  rw [sendClckInd_call c a.fn hp, hh, if_pos rfl] at h
  have hf : ∀ l : List (Nat × List Nat),
      (l.map fun p => Event.send p.1 a.time p.2).filter Event.isHandler = [] := by
    intro l
    induction l with
    | nil => rfl
    | cons x xs ih => simp only [List.map_cons, List.filter_cons, Event.isHandler, ih]; rfl
  refine ⟨h, ?_, ?_⟩
  · simp only [Tick.events, h, callEvents, List.filter_cons, List.filter_append, Event.isHandler, hf]
    rfl
  · simp only [Tick.events, h, callEvents]

/-- without a handler nothing is called (and no scripted handler time passes). -/
theorem no_handler_no_call (c : Cfg) (start : Nat) (t0 : Int) (ds : List Nat) (k : Nat) (a : Tick)
    (hp : 0 < c.period) (hh : c.handler = false) (ha : (worker c start t0 ds).1[k]? = some a) :
    a.call = none := by
  have h := (loop_tick_local c hp ds _ k a ha).2.1
  rw [sendClckInd_call c a.fn hp, hh] at h
  exact h

/-! ### links attached and detached while the generator runs -/

theorem loopL_cons (c : Cfg) (s : Loop) (d : Nat) (ls : List Nat) (sc : List (Nat × List Nat)) (hp : 0 < c.period) :
    loopL c s ((d, ls) :: sc) =
      ({ tickOf c s with sends := (sendClckInd { c with links := ls } s.src).sends } :: (loopL c (next c s d) sc).1,
       (loopL c (next c s d) sc).2) := by
  rw [loopL]
  have hp' : 0 < ({ c with links := ls } : Cfg).period := hp
  simp only [sendClckInd_next { c with links := ls } s.src hp']
  have hc : (sendClckInd { c with links := ls } s.src).call = (sendClckInd c s.src).call := by
    rw [sendClckInd_call _ _ hp', sendClckInd_call _ _ hp]
  simp only [hc]
  rfl

/-- **every attached link, at the time of the tick.**  `clck_links` may be modified in place
between two ticks (a transceiver powered on or off): at tick k the indication goes to exactly the
links the list holds when that tick fires, in list order — a link attached after `start()` is
served from the next due frame on, a detached one receives nothing more. -/
theorem ind_to_links_attached_at_tick (c : Cfg) (hp : 0 < c.period) :
    ∀ (sc : List (Nat × List Nat)) (s : Loop) (k : Nat) (a : Tick), (loopL c s sc).1[k]? = some a →
      ∃ d ls, sc[k]? = some (d, ls) ∧
        a.sends = if a.fn % c.period = 0 then ls.map (fun l => (l, indication a.fn)) else [] := by
  intro sc
  induction sc with
  | nil => intro s k a h; rw [loopL] at h; nomatch h
  | cons x sc ih =>
    intro s k a h
    obtain ⟨d, ls⟩ := x
    rw [loopL_cons c s d ls sc hp] at h
    cases k with
    | zero =>
      simp only [List.getElem?_cons_zero, Option.some.injEq] at h
      refine ⟨d, ls, rfl, ?_⟩
      subst h
      have hp' : 0 < ({ c with links := ls } : Cfg).period := hp
      have hpay : ∀ fn, payload fn = indication fn := clck_consts.2.2.2.2
      simp only [sendClckInd_sends _ _ hp', hpay, tickOf]
      rfl
    | succ k =>
      simp only [List.getElem?_cons_succ] at h
      obtain ⟨d', ls', h1, h2⟩ := ih _ k a h
      exact ⟨d', ls', by simpa using h1, h2⟩

/-- **the links do not influence the clock.**  When ticks fire, with which frame numbers, what the
handler is called with and how the worker ends is the same whatever is attached or detached on
the way: every timing theorem above (`tick_spacing`, `no_drift`, `resync_after_overrun`,
`fn_sequence`, `handler_once_per_tick`) holds unchanged for a run with changing links. -/
theorem links_do_not_influence_timing (c : Cfg) (hp : 0 < c.period) :
    ∀ (sc : List (Nat × List Nat)) (s : Loop),
      (loopL c s sc).1.map Tick.timing = (loop c s (sc.map Prod.fst)).1.map Tick.timing ∧
      (loopL c s sc).2 = (loop c s (sc.map Prod.fst)).2 := by
  intro sc
  induction sc with
  | nil => intro s; rw [loopL]; simp only [List.map_nil]; rw [loop]; exact ⟨rfl, rfl⟩
  | cons x sc ih =>
    intro s
    obtain ⟨d, ls⟩ := x
    rw [loopL_cons c s d ls sc hp]
    simp only [List.map_cons]
    rw [loop_cons c s d _ hp]
    obtain ⟨h1, h2⟩ := ih (next c s d)
    exact ⟨by simp only [List.map_cons, h1]; rfl, h2⟩

/-- with the list left alone the run is the one of the theorems above -/
theorem constant_links (c : Cfg) (hp : 0 < c.period) :
    ∀ (ds : List Nat) (s : Loop), loopL c s (ds.map fun d => (d, c.links)) = loop c s ds := by
  intro ds
  induction ds with
  | nil => intro s; rw [List.map_nil, loopL, loop]
  | cons d ds ih =>
    intro s
    rw [List.map_cons, loopL_cons c s d _ _ hp, loop_cons c s d ds hp, ih]
    cases c
    rfl

/-- non-vacuity: link 7 attached before the third tick, link 3 detached before the fourth -/
example :
    ((workerL { tTick := Gen.tTickNs, period := 1, links := [3], handler := true } 5 0
        [(0, [3]), (0, [3]), (0, [3, 7]), (0, [7])]).1.map fun k => k.sends.map Prod.fst)
      = [[3], [3], [3, 7], [7]] := by decide +kernel

/-- the indication can be parsed back: it ends with its only NUL octet and the digits between
`"IND CLOCK "` and the NUL are the decimal frame number. -/
theorem indication_wellformed (fn : Nat) :
    (indication fn).take 10 = indText ∧
    decValue (((indication fn).drop 10).dropLast) = fn ∧
    (indication fn).getLast? = some 0 ∧
    (∀ x ∈ (indication fn).dropLast, x ≠ 0) := by
  have hpre : indText = [73, 78, 68, 32, 67, 76, 79, 67, 75, 32] := rfl
  have hdig := decDigitsAux_digits fn fn
  refine ⟨?_, ?_, ?_, ?_⟩
  · simp only [indication, hpre, List.cons_append, List.nil_append, List.take_succ_cons, List.take_zero]
  · simp only [indication, hpre, List.cons_append, List.nil_append, List.drop_succ_cons, List.drop_zero,
      List.dropLast_concat]
    exact decValue_decDigitsAux fn fn (Nat.le_refl _)
  · simp only [indication, List.getLast?_append, List.getLast?_singleton, Option.some_or]
  · intro x hx
    simp only [indication, hpre, List.dropLast_concat] at hx
    rcases List.mem_append.1 hx with h | h
    · simp only [List.mem_cons, List.not_mem_nil, or_false] at h
      omega
    · have := hdig x h
      omega

/-! ### start / stop -/

/-- **restart.**  Whatever state the object is in, `stop()` followed by `start()` runs a worker
that is indistinguishable from a fresh one: it begins at the configured start frame, one period
after `start()`; hence every statement above holds again for the new run. -/
theorem restart (c : Cfg) (o : Obj) (ds : List Nat) :
    (step c (step c o .stop).1 (.start ds)).2 =
      .ran (worker c o.start o.now ds).1 (worker c o.start o.now ds).2 := by
  simp only [step, Bool.false_eq_true, if_false]

/-- `stop(); start()` after an arbitrary history of operations: the first frame number handed
out is the start frame, the first tick is one period after the call. -/
theorem restart_after_history (c : Cfg) (o : Obj) (ops : List Op) (d : Nat) (ds : List Nat)
    (hp : 0 < c.period) :
    ∃ ticks e a, (history c o (ops ++ [.stop, .start (d :: ds)])).2.getLast? = some (.ran ticks e) ∧
      ticks[0]? = some a ∧ a.fn = (history c o ops).1.start ∧
      a.time = (history c o ops).1.now + (c.tTick : Int) := by
  let o' := (history c o ops).1
  have hlen : 0 < (worker c o'.start o'.now (d :: ds)).1.length := by
    rw [(runs_every_tick c _ _ _ hp).1]; simp only [List.length_cons]; omega
  have ha := List.getElem?_eq_getElem hlen
  have hf := first_tick c o'.start o'.now (d :: ds) _ hp ha
  refine ⟨(worker c o'.start o'.now (d :: ds)).1, (worker c o'.start o'.now (d :: ds)).2, _, ?_, ha, hf.2.1, hf.1⟩
  rw [history_append]
  simp only [history, step, Bool.false_eq_true, if_false]
  rw [List.getLast?_append]
  simp only [List.getLast?_cons_cons, List.getLast?_singleton, Option.some_or]
  rfl

/-- `start()` while a thread exists fails its assertion and changes nothing: there are never
two workers. -/
theorem no_second_thread (c : Cfg) (o : Obj) (ds : List Nat) (h : o.thread = true) :
    step c o (.start ds) = (o, .assertionError) := by
  simp only [step, h, if_true]

/-! ### non-vacuity -/

/-- the hypotheses are met by a non-trivial run: period 2, two links, start at the last frame of
the hyperframe, handler durations below, at and above one period; the observed ticks show the
wrap, the indication at even frames only, the unchanged grid and the resynchronisation. -/
example :
    let c : Cfg := { tTick := 4615000, period := 2, links := [0, 1], handler := true }
    let r := worker c 2715647 1000 [0, 4614999, 4615000, 9000000, 0]
    0 < c.period ∧ 2715647 < hyperframe ∧
    r.1.map (fun a => (a.fn, a.time, a.sends.length)) =
      [(2715647, 4616000, 0), (0, 9231000, 2), (1, 13846000, 0), (2, 18461000, 2), (3, 27461000, 0)] ∧
    r.2 = .broke 4615000 32076000 4 := by
  decide +kernel

example : indication 2715647 =
    [73, 78, 68, 32, 67, 76, 79, 67, 75, 32, 50, 55, 49, 53, 54, 52, 55, 0] := by decide +kernel

example :
    let c : Cfg := { tTick := 4615000, period := 1, links := [7], handler := true }
    (history c (Obj.init 5 0) [.start [1, 2], .start [], .stop, .start [0]]).2.map
      (fun o => match o with
        | .ran ticks _ => ticks.map (·.fn)
        | .assertionError => [99]
        | .ok => []) = [[5, 6], [99], [], [5]] := by
  decide +kernel

end OsmoVerif.Props.C09
