/-
C19 — GSM time arithmetic is consistent across the code base.
Property theorems only; models: `OsmoVerif.Model.GsmTime`, lemmas: `OsmoVerif.Lemmas.GsmTime`.
-/
import OsmoVerif.Lemmas.GsmTime

namespace OsmoVerif.Props.C19
open OsmoVerif OsmoVerif.GsmTime

/-- The hyperframe length the property speaks about (TS 45.002 §4.3.3). -/
def hyperframe : Nat := 26 * 51 * 2048

/-- The regenerated constants of both code bases are the hyperframe
(`GSM_MAX_FN` of gsm_utils.h, `GSM_HYPERFRAME`/`GSM_SUPERFRAME` of gsm_shared.py). -/
theorem max_fn_is_hyperframe :
    Gen.cGsmMaxFn = hyperframe ∧ Gen.pyGsmHyperframe = hyperframe ∧ Gen.pyGsmSuperframe = 26 * 51 := by
  decide

/-- The components of a decomposed frame number are the TS 45.002 ones. -/
theorem decomp_components (fn : Nat) (h : fn < hyperframe) :
    cFn2GsmTime fn = ⟨fn, fn / 1326, fn % 26, fn % 51, fn / 51 % 8⟩ := by
  simp only [hyperframe] at h
  simp only [cFn2GsmTime]
  rw [u32_of_lt (by omega), u16_of_lt (by omega), u8_of_lt (by omega), u8_of_lt (by omega), u8_of_lt (by omega)]

/-- Decomposition followed by recomposition is the identity on the hyperframe. -/
theorem decomp_recomp (fn : Nat) (h : fn < hyperframe) :
    cGsmTime2Fn (cFn2GsmTime fn) = fn := by
  rw [decomp_components fn h]
  simp only [hyperframe] at h
  rw [cGsmTime2Fn_of_le _ _ _ _ _ (by omega) (by omega) (by omega)]
  simp only [crt, Nat.mod_add_div]

/-- Stepping the running GSM time by one frame (incremental carry path),
including the wrap 2715647 → 0. -/
theorem time_inc_one (fn : Nat) (h : fn < hyperframe) :
    cTimeInc (cFn2GsmTime fn) 1 = cFn2GsmTime ((fn + 1) % hyperframe) := by
  rw [decomp_components fn h, decomp_components _ (Nat.mod_lt _ (by decide))]
  have hH : hyperframe = 2715648 := rfl
  have hm : Gen.cGsmMaxFn = 2715648 := rfl
  rw [hH] at h ⊢
  rw [cTimeInc_one _ _ _ _ _ h (by omega) (by omega) (by omega) (by omega)]
  -- counter by counter: what `fn + 1` (reduced) decomposes to, from the counters of `fn`
  simp only [hm, Nat.mod_add_mod, t1_succ fn h, tc_succ,
    Nat.mod_mod_of_dvd (fn + 1) (by decide : 26 ∣ 2715648), Nat.mod_mod_of_dvd (fn + 1) (by decide : 51 ∣ 2715648)]

/-- Stepping by an arbitrary delta (recompute path). -/
theorem time_inc_delta (fn delta : Nat) (h : fn < hyperframe) (hd1 : delta ≠ 1)
    (hd : delta < hyperframe) :
    cTimeInc (cFn2GsmTime fn) delta = cFn2GsmTime ((fn + delta) % hyperframe) := by
  rw [decomp_components fn h]
  exact cTimeInc_of_ne_one _ delta h (Nat.le_of_lt hd) hd1

/-- Both paths together: for every frame number and every delta below the
hyperframe the stepped time is the decomposition of the new frame number. -/
theorem time_inc (fn delta : Nat) (h : fn < hyperframe) (hd : delta < hyperframe) :
    cTimeInc (cFn2GsmTime fn) delta = cFn2GsmTime ((fn + delta) % hyperframe) := by
  by_cases hd1 : delta = 1
  · subst hd1; exact time_inc_one fn h
  · exact time_inc_delta fn delta h hd1 hd

/-- Corollary: recomposing the stepped time gives the new frame number. -/
theorem time_inc_recomp (fn delta : Nat) (h : fn < hyperframe) (hd : delta < hyperframe) :
    cGsmTime2Fn (cTimeInc (cFn2GsmTime fn) delta) = (fn + delta) % hyperframe := by
  rw [time_inc fn delta h hd]
  exact decomp_recomp _ (Nat.mod_lt _ (by decide))

/-- The Python toolkit derives the same T1, T2, T3 (and TC) as the C code. -/
theorem py_eq_c (fn : Nat) (h : fn < hyperframe) :
    pyFn2GsmTime fn =
      ((cFn2GsmTime fn).t1, (cFn2GsmTime fn).t2, (cFn2GsmTime fn).t3, (cFn2GsmTime fn).tc) := by
  rw [decomp_components fn h]
  simp only [pyFn2GsmTime]

/-- A broken-down time as the property means it: T1 < 2048, T2 < 26, T3 < 51 (TC is not an input of
`gsm_gsmtime2fn`). -/
def WfTime (t : GsmTime) : Prop := t.t1 < 2048 ∧ t.t2 < 26 ∧ t.t3 < 51

/-- The converse round trip (TS 45.002 §4.3.3): for EVERY well-formed (T1, T2, T3) — not only those that
came out of a decomposition — recomposition yields a frame number of the hyperframe whose decomposition
gives T1, T2, T3 back. With `decomp_recomp` this makes the two functions mutually inverse bijections between
`[0, hyperframe)` and the well-formed triples. -/
theorem recomp_decomp (t : GsmTime) (h : WfTime t) :
    cGsmTime2Fn t < hyperframe ∧
    (cFn2GsmTime (cGsmTime2Fn t)).t1 = t.t1 ∧
    (cFn2GsmTime (cGsmTime2Fn t)).t2 = t.t2 ∧
    (cFn2GsmTime (cGsmTime2Fn t)).t3 = t.t3 := by
  obtain ⟨h1, h2, h3⟩ := h
  obtain ⟨p1, p2, p3⟩ := recomp_parts t.t1 t.t2 t.t3 h2 h3
  have key := cGsmTime2Fn_of_le t.fn t.t1 t.t2 t.t3 t.tc (by omega) (by omega) (by omega)
  rw [show (⟨t.fn, t.t1, t.t2, t.t3, t.tc⟩ : GsmTime) = t from rfl] at key
  generalize 51 * ((t.t3 + 26 - t.t2) % 26) + t.t3 + 1326 * t.t1 = F at *
  have hlt : F < hyperframe := by simp only [hyperframe]; omega
  rw [key, decomp_components F hlt]
  exact ⟨hlt, p1, p2, p3⟩

/-- The decomposition is injective on the hyperframe: (T1, T2, T3) identify the frame. -/
theorem decomp_injective (a b : Nat) (ha : a < hyperframe) (hb : b < hyperframe)
    (h1 : (cFn2GsmTime a).t1 = (cFn2GsmTime b).t1) (h2 : (cFn2GsmTime a).t2 = (cFn2GsmTime b).t2)
    (h3 : (cFn2GsmTime a).t3 = (cFn2GsmTime b).t3) : a = b := by
  have ea := decomp_recomp a ha
  have eb := decomp_recomp b hb
  have : cGsmTime2Fn (cFn2GsmTime a) = cGsmTime2Fn (cFn2GsmTime b) := by
    simp only [cGsmTime2Fn, h1, h2, h3]
  omega

/-- A decomposed frame number is well-formed (so `recomp_decomp` is not vacuous on reachable times). -/
theorem decomp_wf (fn : Nat) (h : fn < hyperframe) : WfTime (cFn2GsmTime fn) := by
  rw [decomp_components fn h]
  simp only [hyperframe] at h
  simp only [WfTime]
  omega

/-- History level: the running time kept by `l1s_time_inc(.., 1)` once per frame never drifts from the
frame count, however long it runs (any number of steps, through any number of hyperframe wraps). -/
theorem time_inc_iterate (fn n : Nat) (h : fn < hyperframe) :
    Nat.repeat (fun t => cTimeInc t 1) n (cFn2GsmTime fn) = cFn2GsmTime ((fn + n) % hyperframe) := by
  induction n with
  | zero => simp only [Nat.repeat, Nat.add_zero, Nat.mod_eq_of_lt h]
  | succ n ih =>
    simp only [Nat.repeat]
    rw [ih, time_inc_one _ (Nat.mod_lt _ (by decide)), Nat.mod_add_mod, Nat.add_assoc]

/-- Any mixture of steps (deltas below the hyperframe, the incremental and the recomputing path in any
order) lands on the decomposition of the summed frame number. -/
theorem time_inc_history (fn : Nat) (ds : List Nat) (h : fn < hyperframe) (hd : ∀ d ∈ ds, d < hyperframe) :
    ds.foldl cTimeInc (cFn2GsmTime fn) = cFn2GsmTime ((fn + ds.sum) % hyperframe) := by
  induction ds generalizing fn with
  | nil => simp only [List.foldl_nil, List.sum_nil, Nat.add_zero, Nat.mod_eq_of_lt h]
  | cons d ds ih =>
    rw [List.foldl_cons, time_inc fn d h (hd d (List.mem_cons_self ..)),
        ih _ (Nat.mod_lt _ (by decide)) (fun x hx => hd x (List.mem_cons_of_mem _ hx)),
        Nat.mod_add_mod, List.sum_cons, Nat.add_assoc]

/-- Non-vacuity of the converse round trip at a triple that no decomposition of a small frame number yields,
and of the history theorem across the wrap. -/
example : WfTime ⟨0, 2047, 25, 50, 0⟩ ∧ cGsmTime2Fn ⟨0, 2047, 25, 50, 0⟩ = 2715647 ∧
    [1, 2715647, 1, 5].foldl cTimeInc (cFn2GsmTime 2715646) = cFn2GsmTime 4 := by
  refine ⟨by simp only [WfTime]; omega, by decide +kernel, by decide +kernel⟩

/-- Non-vacuity: the carry points and the wrap are inside the hypotheses. -/
example : (2715647 < hyperframe) ∧ cTimeInc (cFn2GsmTime 2715647) 1 = ⟨0, 0, 0, 0, 0⟩ ∧
    cTimeInc (cFn2GsmTime 1325) 1 = ⟨1326, 1, 0, 0, 2⟩ := by decide +kernel

end OsmoVerif.Props.C19
