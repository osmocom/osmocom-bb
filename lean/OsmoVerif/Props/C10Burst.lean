/-
C10 (second part) — the burst generators of `rand_burst_gen.py` build exactly the layouts the training-sequence detector
of `FakeTRX` relies on.

`Props/C10.lean` proves `tsc_detect_nb / _sb / _ab` about `Spec.nbLayout / sbLayout / abLayout` ("as gen_nb builds them").
Here the generators themselves are modelled (`Model/RandBurst.lean`, tied to the real `RandBurstGen` by the `rb.*`
correspondence with a scripted random source) and proved to produce those layouts for every random stream and every `tsc`
argument — so the detection theorems apply to every burst the generators can emit.
-/
import OsmoVerif.Lemmas.RandBurst
import OsmoVerif.Props.C10

namespace OsmoVerif.Props.C10Burst
open OsmoVerif OsmoVerif.RandBurst OsmoVerif.World OsmoVerif.Spec

/-- a member of `TrainingSeqGMSK`: (name, tsc, burst type name, bits, tsc_set) — the same type in both models -/
abbrev Ts := String × Nat × String × List Nat × Nat

/-- every member of `TrainingSeqGMSK` consists of bits -/
theorem table_bits : ∀ e ∈ Gen.World.trainSeqs, ∀ x ∈ e.2.2.2.1, x ≤ 1 := by decide +kernel

/-- **gen_nb.** Whatever the random source yields and whether the TSC is given or drawn (`get_rand_tsc` draws among the
NORMAL members only), the result is the normal-burst layout around that sequence: 3 tail bits, 57 drawn bits, a drawn
stealing flag, the 26-bit sequence, a drawn stealing flag, 57 drawn bits, 3 tail bits — 148 bits, all drawn ones taken from
the stream. -/
theorem gen_nb_layout (tsc : Option Ts) (s b rest : List Nat) (h : genNb tsc s = some (b, rest)) :
    ∃ e d1 s1 s2 d2, (tsc = some e ∨ (tsc = none ∧ e ∈ Gen.World.trainSeqs ∧ e.2.2.1 = "NORMAL")) ∧
      d1.length = 57 ∧ d2.length = 57 ∧ b = nbLayout d1 s1 e.2.2.2.1 s2 d2 ∧
      b.length = 116 + e.2.2.2.1.length + 6 ∧ (∀ x ∈ d1 ++ [s1, s2] ++ d2, x ∈ s) := by
  obtain ⟨e, d1, s1, s2, d2, ht, h1, h2, hb, hm⟩ := gen_nb_inv tsc s b rest h
  refine ⟨e, d1, s1, s2, d2, ht, h1, h2, hb, ?_, hm⟩
  rw [hb]; simp only [nbLayout, RandBurst.TsEntry.seq, List.length_append, List.length_cons, List.length_nil, h1, h2]; omega

/-- **gen_sb**: 3 tail, 39 drawn, the 64-bit sequence, 39 drawn, 3 tail -/
theorem gen_sb_layout (tsc : Option Ts) (s b rest : List Nat) (h : genSb tsc s = some (b, rest)) :
    ∃ e d1 d2, (tsc = some e ∨ (tsc = none ∧ e ∈ Gen.World.trainSeqs ∧ e.2.2.1 = "SYNC")) ∧
      d1.length = 39 ∧ d2.length = 39 ∧ b = sbLayout d1 e.2.2.2.1 d2 ∧
      b.length = 78 + e.2.2.2.1.length + 6 ∧ (∀ x ∈ d1 ++ d2, x ∈ s) := by
  obtain ⟨e, d1, d2, ht, h1, h2, hb, hm⟩ := gen_sb_inv tsc s b rest h
  refine ⟨e, d1, d2, ht, h1, h2, hb, ?_, hm⟩
  rw [hb]; simp only [sbLayout, RandBurst.TsEntry.seq, List.length_append, List.length_cons, List.length_nil, h1, h2]; omega

/-- **gen_ab**: 8 tail, the 41-bit sequence, 36 drawn, 3 tail, 60 guard -/
theorem gen_ab_layout (tsc : Option Ts) (s b rest : List Nat) (h : genAb tsc s = some (b, rest)) :
    ∃ e d, (tsc = some e ∨ (tsc = none ∧ e ∈ Gen.World.trainSeqs ∧ e.2.2.1 = "ACCESS")) ∧
      d.length = 36 ∧ b = abLayout e.2.2.2.1 d ∧ b.length = 107 + e.2.2.2.1.length ∧ (∀ x ∈ d, x ∈ s) := by
  obtain ⟨e, d, ht, h1, hb, hm⟩ := gen_ab_inv tsc s b rest h
  refine ⟨e, d, ht, h1, hb, ?_, hm⟩
  rw [hb]
  simp only [abLayout, RandBurst.TsEntry.seq, List.length_append, List.length_cons, List.length_nil, List.length_replicate, h1]
  omega

/-- a generated normal burst with a NORMAL table sequence (given or drawn) has the GMSK burst length, consists of bits if
the source yields bits, and the detector finds a table sequence present in it — exactly this one (its TSC, set 0) if no
other table sequence happens to sit at its own position (`tsc_detect_nb`) -/
theorem gen_nb_detect (tsc : Option Ts) (s b rest : List Nat) (h : genNb tsc s = some (b, rest))
    (ht : ∀ e, tsc = some e → e ∈ Gen.World.trainSeqs ∧ e.2.2.1 = "NORMAL") (hs : ∀ x ∈ s, x ≤ 1) :
    b.length = Gen.Trxd.gmskBurstLen ∧ (∀ x ∈ b, x ≤ 1) ∧
    ∃ e ∈ Gen.World.trainSeqs, (tsc = some e ∨ tsc = none) ∧ presentAt e b ∧
      (∃ e' ∈ Gen.World.trainSeqs, presentAt e' b ∧ trainSeqPick b = some (e'.2.1, e'.2.2.2.2)) ∧
      ((∀ e' ∈ Gen.World.trainSeqs, presentAt e' b → e' = e) → trainSeqPick b = some (e.2.1, e.2.2.2.2)) := by
  obtain ⟨e, d1, s1, s2, d2, hc, h1, h2, hb, hl, hm⟩ := gen_nb_layout tsc s b rest h
  have he : e ∈ Gen.World.trainSeqs ∧ e.2.2.1 = "NORMAL" := hc.elim (ht e) (·.2)
  have hlen : e.2.2.2.1.length = 26 := by
    rcases (C10.seqs_ranges e he.1).1 with ⟨_, h⟩ | ⟨h, _⟩ | ⟨h, _⟩
    · exact h
    · rw [he.2] at h; exact absurd h (by decide)
    · rw [he.2] at h; exact absurd h (by decide)
  have hd := C10.tsc_detect_nb e he.1 he.2 d1 s1 s2 d2 h1
  have hdraw : ∀ y ∈ d1 ++ [s1, s2] ++ d2, y ≤ 1 := fun y hy => hs y (hm y hy)
  subst hb
  refine ⟨by rw [hl, hlen]; rfl, ?_, e, he.1, hc.imp_right (·.1), ?_, hd.1, hd.2⟩
  · -- tail bits are 0, the sequence is a table entry, everything else is drawn
    simp only [nbLayout, List.forall_mem_append, List.forall_mem_cons, List.not_mem_nil, false_imp_iff, implies_true,
      Nat.zero_le, and_true, true_and] at hdraw ⊢
    exact ⟨⟨⟨⟨hdraw.1.1, hdraw.1.2.1⟩, table_bits e he.1⟩, hdraw.1.2.2⟩, hdraw.2⟩
  · -- 3 + 57 + 1 bits precede the sequence
    have hpre : ([0, 0, 0] ++ d1 ++ [s1]).length = 61 := by
      simp only [List.length_append, List.length_cons, List.length_nil, h1]
    show (match tsPos e.2.2.1 with
      | some (pos, len) => ((nbLayout d1 s1 e.2.2.2.1 s2 d2).drop pos).take len = e.2.2.2.1
      | none => False)
    rw [he.2]
    show (([0, 0, 0] ++ d1 ++ [s1] ++ e.2.2.2.1 ++ [s2] ++ d2 ++ [0, 0, 0]).drop 61).take 26 = e.2.2.2.1
    rw [List.append_assoc _ [s2], List.append_assoc _ ([s2] ++ d2), List.append_assoc _ e.2.2.2.1,
      List.drop_left' hpre, List.take_left' hlen]

/-- the frequency-correction burst: `GMSK_BURST_LEN` zeros -/
theorem gen_fb_zeros : genFb.length = 148 ∧ ∀ x ∈ genFb, x = 0 := by
  constructor
  · simp only [genFb, List.length_replicate]; rfl
  · intro x hx; exact List.eq_of_mem_replicate hx

/-- the dummy burst table (`db_bits`, regenerated): 148 bits, 3 + 3 tail bits zero, and equal to the mixed-bit sequence of
3GPP TS 45.002 §5.2.6 (written out here from the standard: BN3 … BN144 between the tail bits) -/
theorem gen_db_table :
    genDb.length = 148 ∧ (∀ x ∈ genDb, x ≤ 1) ∧ genDb.take 3 = [0, 0, 0] ∧ genDb.drop 145 = [0, 0, 0] ∧
    (genDb.drop 3).take 142 =
      [1,1,1,1,1,0,1,1,0,1,1,1,0,1,1,0,0,0,0,0,1,0,1,0,0,1,0,0,1,1,1,0,0,0,0,0,1,0,0,1,0,0,0,1,0,0,0,0,0,0,0,1,1,1,1,1,0,0,
       0,1,1,1,0,0,0,1,0,1,1,1,0,0,0,1,0,1,1,1,0,0,0,1,0,1,0,1,1,1,0,1,0,0,1,0,1,0,0,0,1,1,0,0,1,1,0,0,1,1,1,0,0,1,1,1,1,0,
       1,0,0,1,1,1,1,1,0,0,0,1,0,0,1,0,1,1,1,1,1,0,1,0,1,0] := by
  decide +kernel

/-- `get_rand_tsc(bt)` draws among the members of the requested burst type only, and there is one for each of the three
types (so the draw never fails for a non-empty stream) -/
theorem get_rand_tsc_type (bt : String) (s r : List Nat) (e : Ts) (h : getRandTsc bt s = some (e, r)) :
    e ∈ Gen.World.trainSeqs ∧ e.2.2.1 = bt :=
  mem_seqsOf (choice_some h).1

theorem seqs_per_type : (seqsOf "NORMAL").length = 8 ∧ (seqsOf "SYNC").length = 4 ∧ (seqsOf "ACCESS").length = 8 := by
  decide +kernel

/-- non-vacuity: with enough draws the generators succeed; a drawn TSC (index 11 mod 8 = 3 → NB_TS3) is detected -/
example : ∃ b, genNb none (List.replicate 58 1 ++ [11] ++ List.replicate 58 0) = some (b, []) ∧
    trainSeqPick b = some (3, 0) ∧ b.length = 148 := by
  refine ⟨_, rfl, ?_⟩
  decide +kernel

example : (genSb none (List.replicate 39 1 ++ [2] ++ List.replicate 39 0)).map (fun p => (trainSeqPick p.1, p.1.length, p.2)) =
    some (some (2, 0), 148, []) := by decide +kernel

example : (genAb none ([5] ++ List.replicate 36 1)).map (fun p => (trainSeqPick p.1, p.1.length, p.2)) =
    some (some (5, 0), 148, []) := by decide +kernel

/-- a stream that runs dry makes the model answer `none` (never a default burst) -/
example : genNb none (List.replicate 57 0) = none := by decide +kernel

end OsmoVerif.Props.C10Burst
