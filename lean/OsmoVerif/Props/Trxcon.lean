/-
trxcon (C) side of the TRX interface — the property theorems about `src/host/trxcon/src/trx_if.c`
that C04 (TRXD layout, trxcon decodes / emits it), C05 (TRXC commands and the response parser)
and C14 (no datagram can crash the transceiver interface) rest on.
Model: `OsmoVerif.Model.TrxconIf`; lemmas: `OsmoVerif.Lemmas.TrxconIf`;
layout: `OsmoVerif.Spec.TrxdLayout` (written from the protocol description).
-/
import OsmoVerif.Lemmas.TrxconIf

namespace OsmoVerif.Props.Trxcon
open OsmoVerif OsmoVerif.TrxconIf OsmoVerif.Gen.Trxcon OsmoVerif.Spec.TrxdLayout

/-- The regenerated constants are the ones the theorems below speak about. -/
theorem consts : trxdBufSize = 512 ∧ trxcBufSize = 1024 ∧ cmdSize = 1024 ∧ trxdv0HdrLen = 8 ∧
    gsmTdmaHyperframe = 2715648 ∧ nbitsGmsk = 148 ∧ nbits8psk = 444 := by decide

/-! ## C04: trxcon decodes / emits the TRXD layout -/

/-- Every version-0 TRX→L1 message laid out per the protocol description (any FN of the
hyperframe, TN 0..7, RSSI −128..0 dBm — the exact range `-(int8_t) buf[5]` decodes faithfully,
the protocol range −120..−47 lies inside —, any int16 ToA256, 148 or 444 soft bits in
−127..127, with or without the two legacy padding octets) is handed to the scheduler with
exactly these values; the RTS indication carries (FN + fn_advance) mod hyperframe in
`uint32_t` arithmetic. -/
theorem trxcon_decodes_layout (m : RxFields) (legacy : Bool) (soft : List Int) (adv : Nat)
    (hv : m.ver = 0) (hs : m.soft = some soft)
    (hfn : m.fn < 2715648) (htn : m.tn < 8) (hr : -128 ≤ m.rssi ∧ m.rssi ≤ 0)
    (ht : -32768 ≤ m.toa256 ∧ m.toa256 ≤ 32767)
    (hl : soft.length = 148 ∨ soft.length = 444) (hb : ∀ s ∈ soft, -127 ≤ s ∧ s ≤ 127) :
    cRx (layoutRx m legacy) adv =
      .ind ⟨m.tn, m.fn, m.rssi, m.toa256, soft⟩ ⟨u32 (m.fn + u32 adv) % 2715648, m.tn⟩ := by
  rw [cRx_layout m legacy soft adv hv hs (by omega) htn hr ht hl hb]
  exact if_neg (by omega)

/-- …and for a frame-number advance that does not overflow `uint32_t` this is the plain sum. -/
theorem trxcon_rts_fn (fn adv : Nat) (hfn : fn < 2715648) (hadv : adv ≤ 4292251647) :
    u32 (fn + u32 adv) % 2715648 = (fn + adv) % 2715648 := by
  simp only [u32]; omega

/-- The RSSI range of `trxcon_decodes_layout` is exact: an octet 129..255 (RSSI below −128 dBm)
comes out positive. -/
theorem trxcon_rssi_range_exact (b : Nat) (h1 : 129 ≤ b) (h2 : b ≤ 255) :
    s8i (-(s8 b)) = 256 - (b : Int) ∧ s8i (-(s8 b)) ≠ -(b : Int) := by
  have := rssi_octet ⟨b, by omega⟩
  simp only at this
  rw [this, if_neg (by omega)]
  omega

/-- Every burst request with `burst_len` octets that fit the TRXD buffer is emitted per the
L1→TRX layout, version 0 (TN 0..7, any `uint32_t` FN, any attenuation octet; the bits are copied
as they are). -/
theorem trxcon_emits_layout (tn fn pwr : Nat) (bits : List Nat)
    (htn : tn < 8) (hfn : fn < 4294967296) (hp : pwr < 256) (hl : bits.length ≤ 506) :
    cTx ⟨tn, fn, pwr, bits, bits.length⟩ = .sent 0 (layoutTx ⟨0, fn, tn, pwr, bits⟩ false) := by
  have hcap : trxdBufSize = 512 := by decide
  have e1 : u8 tn = tn := by simp only [u8]; omega
  have e2 : u32 fn = fn := by simp only [u32]; omega
  have e3 : u8 pwr = pwr := by simp only [u8]; omega
  have e4 : u32 bits.length = bits.length := by simp only [u32]; omega
  simp only [cTx, layoutTx, hdr, be32, pad, hcap, e1, e2, e3, e4, store32be_eq]
  by_cases h0 : bits.length = 0
  · have : bits = [] := List.eq_nil_of_length_eq_zero h0
    subst this; simp
  · rw [if_pos h0, if_neg (by omega), if_neg (by omega), List.take_length]
    simp

/-- `buf[0] = br->tn` is not masked: for TN ≥ 8 the octet is still `tn mod 256`, i.e. it runs
into bit 3 and the version nibble (TN 16 reads as version 1, TN 0). -/
theorem trxcon_emits_tn_unmasked (tn fn pwr : Nat) :
    ∃ rest, cTx ⟨tn, fn, pwr, [], 0⟩ = .sent 0 (tn % 256 :: rest) := by
  exact ⟨_, rfl⟩

/-- A burst that does not fit behind the 6 header octets of `buf[TRXD_BUF_SIZE]` overflows it. -/
theorem trxcon_tx_overflow (tn fn pwr : Nat) (bits : List Nat) (h1 : 506 < bits.length)
    (h2 : bits.length < 4294967296) : cTx ⟨tn, fn, pwr, bits, bits.length⟩ = .fault .crash := by
  have hcap : trxdBufSize = 512 := by decide
  have e4 : u32 bits.length = bits.length := by simp only [u32]; omega
  simp only [cTx, hcap, e4]
  rw [if_pos (by omega), if_neg (by omega), if_pos (by omega)]

/-! ## C05: the TRXC commands trxcon emits -/

/-- The regenerated `chan_types[]` table of `trx_if_cmd_setslot` maps `enum gsm_phys_chan_config`
(NONE, CCCH, CCCH_SDCCH4, TCH_F, TCH_H, SDCCH8_SACCH8C, PDCH, TCH_F_PDCH, UNKNOWN, CCCH_SDCCH4_CBCH,
SDCCH8_SACCH8C_CBCH, OSMO_DYN) to osmo-trx's `ChannelCombination` (FILL 0, I TCH/F, III TCH/H,
IV CCCH, V CCCH+SDCCH4, VII SDCCH8, XIII PDCH; configurations trxcon does not drive: 0). -/
theorem chan_types_osmo_trx : chanTypes = [0, 4, 5, 1, 3, 7, 13, 0, 0, 5, 7, 0] := by decide

/-- **What trxcon emits.** For every PHYIF command the L1 side may issue (`ValidCmd`: ARFCNs that
`gsm_arfcn2freq10` defines, a `gsm_phys_chan_config` inside `chan_types[]`, a mobile allocation
whose text fits `ma_buf`), starting with an empty command queue, `trx_if_handle_phyif_cmd` returns 0,
queues exactly the commands of `emitSpec` (RESET = POWEROFF + ECHO, SETFREQ_H0 = RXTUNE + TXTUNE, …)
and passes the first one, NUL-terminated, to `send()`. -/
theorem trxcon_cmd_emits (t : Trx) (c : PhyCmd) (hq : t.queue = []) (hst : t.state < 4) (hv : ValidCmd c) :
    ∃ t', cPhyCmd t c = .ok (0, t') ∧ t'.queue = (emitSpec c).map Emitted.msg ∧
      (∀ e rest, emitSpec c = e :: rest → t'.sent = t.sent ++ [e.text ++ [0]]) :=
  let ⟨t', h1, q⟩ := cPhyCmd_emits t c hst hv
  ⟨t', h1, by rw [q.queue, hq]; rfl, fun e rest he => by rw [q.sent, if_pos hq, he]; rfl⟩

/-- **Every command string trxcon emits is well formed**: `CMD <VERB>[ <arg>]*` with an upper-case
verb, single blanks and decimal arguments, at most 1015 characters — shorter than
`TRXC_BUF_SIZE` (1024) with its NUL, never cut by `snprintf`. -/
theorem trxcon_cmd_wellformed (c : PhyCmd) (hv : ValidCmd c) :
    ∀ e ∈ emitSpec c, WellFormedCmd e.text ∧ e.text.length ≤ 1015 ∧ e.text.length + 1 < trxcBufSize ∧
      (∀ ch ∈ e.text, ch ≠ 0) := by
  intro e he
  obtain ⟨h1, h2, h3, hl⟩ := emitSpec_wf c hv e he
  have hcap : trxcBufSize = 1024 := by decide
  exact ⟨⟨e.verb, e.args, rfl, h1, h2, h3⟩, hl, by omega, e.text_nz h2 h3⟩

/-- **Length of `CMD SETFH`** for a mobile allocation of N channels (observation F8): the command
is `CMD SETFH <hsn> <maio>` followed by ` <RxkHz> <TxkHz>` per channel, 14 characters per
channel below 1 GHz and 16 for DCS 1800 / PCS 1900, hence
`11 + digits(hsn) + digits(maio) + Σ (14|16)` characters; with 8-bit HSN/MAIO at most
`17 + 16·N` and never more than 1015 (+ NUL = 1016 octets on the wire). -/
theorem setfh_len (hsn maio : Nat) (ma : List Nat) (hne : ma ≠ []) (hval : ∀ a ∈ ma, ValidArfcn a) :
    let text := Emitted.text ⟨1, str "SETFH", fmtU (u8 hsn) :: fmtU (u8 maio) :: ma.flatMap pairToks⟩
    text.length = 11 + (fmtU (u8 hsn)).length + (fmtU (u8 maio)).length + (maText ma).length ∧
    13 + 14 * ma.length ≤ text.length ∧ text.length ≤ 17 + 16 * ma.length ∧
    ((maText ma).length ≤ 999 → text.length ≤ 1015) := by
  intro text
  have h := setfh_text_len hsn maio ma
  have h1 := fmtU_u8_len_le hsn
  have h2 := fmtU_u8_len_le maio
  have h1' : 1 ≤ (fmtU (u8 hsn)).length := List.length_pos_iff.mpr (decFuel_ne_nil 9 _)
  have h2' : 1 ≤ (fmtU (u8 maio)).length := List.length_pos_iff.mpr (decFuel_ne_nil 9 _)
  obtain ⟨k, hk, hm⟩ := maText_len ma hval
  refine ⟨h, ?_, ?_, ?_⟩
  · show 13 + 14 * ma.length ≤ (Emitted.text _).length
    rw [h]; omega
  · show (Emitted.text _).length ≤ 17 + 16 * ma.length
    rw [h]; omega
  · intro hl
    show (Emitted.text _).length ≤ 1015
    rw [h]; omega

/-- …for a mobile allocation below 1 GHz (all pairs 14 characters: GSM 450/480/750/810/850/900)
the command has exactly `11 + digits(hsn) + digits(maio) + 14·N` characters: at most 913 (+ NUL)
for the 64 channels of observation F8. -/
theorem setfh_len_low_bands (hsn maio : Nat) (ma : List Nat) (hne : ma ≠ [])
    (h14 : ∀ a ∈ ma, (pairOf a).length = 14) :
    (Emitted.text ⟨1, str "SETFH", fmtU (u8 hsn) :: fmtU (u8 maio) :: ma.flatMap pairToks⟩).length
      = 11 + (fmtU (u8 hsn)).length + (fmtU (u8 maio)).length + 14 * ma.length := by
  rw [setfh_text_len hsn maio ma, maText_length_const 14 ma h14]

/-- …and the mobile allocation is refused with `-ENOSPC` (error logged, nothing queued or sent) when its text
does not fit `ma_buf[TRXC_BUF_SIZE - 24]` (999 characters + NUL); when it fits, `trxcon_cmd_emits` applies. -/
theorem setfh_enospc (t : Trx) (hsn maio : Nat) (ma : List Nat) (hne : ma ≠ []) (hval : ∀ a ∈ ma, ValidArfcn a)
    (hn : ma.length < 4294967296) (hbig : (maText ma).length > 999) :
    cPhyCmd t (.setfreqH1 hsn maio ma.length ma) = .ok (-eNOSPC, { t with elog := true }) := by
  have hcap : trxcBufSize - 24 - 1 = 999 := by decide
  have hbuf := setfhMaBuf_eq ma hne hval hn
  rw [hcap, if_neg (by omega)] at hbuf
  simp only [cPhyCmd, hbuf, bind, Except.bind, pure, Except.pure]

/-- Up to 62 channels always fit (at most 16 characters each). -/
theorem setfh_fits_62 (ma : List Nat) (hval : ∀ a ∈ ma, ValidArfcn a) (hn : ma.length ≤ 62) :
    (maText ma).length ≤ 999 := by
  obtain ⟨k, _, _⟩ := maText_len ma hval; omega

/-! ## C05 / C14: the response parser -/

/-- **No datagram can crash `trx_ctrl_read_cb`** (with the `fix:` for observation F6 applied): for
ALL datagrams — any octets, any length; `read()` keeps at most `TRXC_BUF_SIZE - 1` = 1023 — and
ANY pending commands, in any valid FSM state, the callback returns: no NULL dereference
(`p + 1` with `p == NULL`), no read outside `buf`/`tcm->cmd`, no value that was never written
(status, MEASURE result, octets behind the terminator). -/
theorem trxc_rsp_no_crash (t : Trx) (d : List Nat) (hst : t.state < 4) (hps : t.prevState < 4) :
    ∃ rc t', cReadCb t d = .ok (rc, t') := by
  suffices h : ∃ r, cReadCb t d = .ok r by
    obtain ⟨r, h⟩ := h
    exact ⟨r.1, r.2, h⟩
  have hcap : trxcBufSize = 1024 := by decide
  generalize hdata : d.take (trxcBufSize - 1) = data
  have hlen : data.length < trxcBufSize := by
    rw [← hdata]; simp only [List.length_take, hcap]; omega
  unfold cReadCb
  simp only [bind, Except.bind, pure, Except.pure, hdata]
  by_cases hlen0 : data.length = 0
  · rw [if_pos hlen0]; exact ⟨_, rfl⟩
  · rw [if_neg hlen0]
    obtain ⟨s0, hs0⟩ := cstrAt_ok data trxcBufSize 0 (by omega) hlen
    rw [hs0]
    simp only []
    by_cases hrsp : (!strncmpEq s0 (str "RSP ") 4) = true
    · rw [if_pos hrsp]; exact ⟨_, rfl⟩
    · rw [if_neg hrsp]
      -- the signature matched, so at least four octets were read
      have h4 : 4 ≤ data.length := by
        have hs0' := hs0
        simp only [cstrAt, List.drop_zero] at hs0'
        rw [if_neg (by omega)] at hs0'
        have h1 : (data ++ [0]).contains 0 = true := by simp
        simp only [h1, if_true, Except.ok.injEq] at hs0'
        have hle : s0.length ≤ data.length := by rw [← hs0']; exact takeWhile_ne_zero_lt data
        have h4' : (s0.take 4).length = 4 := by
          have hh : strncmpEq s0 (str "RSP ") 4 = true := by simpa using hrsp
          simp only [strncmpEq, beq_iff_eq] at hh
          rw [hh]; decide
        simp only [List.length_take] at h4'
        omega
      obtain ⟨s4, hs4⟩ := cstrAt_ok data trxcBufSize 4 h4 hlen
      rw [hs4]
      simp only []
      cases hq : t.queue with
      | nil => exact ⟨_, rfl⟩
      | cons tcm rest =>
        simp only []
        by_cases hm : (!strncmpEq s4 (cmdStrAt tcm 4) (rspLenOf (strchrIdx s4 32) s0.length)) = true
        · rw [if_pos hm]; exact ⟨_, rfl⟩
        · rw [if_neg hm]; exact rspStatus_ok _ _ _ _ _ _ hst hps hlen

/-- **The replies of the transceiver are accepted.** For a pending command `CMD <verb><rest>` (every
emitted command has this form, `trxcon_cmd_wellformed`) and the reply
`RSP <verb> <status><rest><results>\0` the toolkit produces — any `int` status — the parser never
reports a mismatch: status 0, or an error status for a non-critical command (logged), removes the
command from the queue and returns 0; an error status for a critical command terminates the
interface with `-EIO`. -/
theorem trxcon_accepts_rsp (t : Trx) (tcm : CtrlMsg) (q : List CtrlMsg) (verb rest results : List Nat) (s : Int)
    (hq : t.queue = tcm :: q) (hcmd : tcm.cmd = str "CMD " ++ verb ++ rest)
    (hh : ReplyHyp verb rest results) (hs1 : -2147483648 ≤ s) (hs2 : s ≤ 2147483647)
    (hlen : (replyTo verb rest results s).length ≤ trxcBufSize - 1)
    (hst : t.state < 4) (hps : t.prevState < 4) :
    (¬ (s ≠ 0 ∧ tcm.critical ≠ 0) →
      ∃ t', cReadCb t (replyTo verb rest results s) = .ok (0, t') ∧ t'.queue = q ∧ (s ≠ 0 → t'.elog = true)) ∧
    ((s ≠ 0 ∧ tcm.critical ≠ 0) →
      ∃ t', cReadCb t (replyTo verb rest results s) = .ok (-eIO, t') ∧ t'.queue = t.queue ∧
        t'.ev = t.ev ++ [Event.timerDel, Event.term termError]) := by
  have hcap : trxcBufSize = 1024 := by decide
  rw [cReadCb_reply t tcm q verb rest results s hq hcmd hh hs1 hs2 hlen]
  constructor
  · intro hacc
    obtain ⟨t', h1, h2, _, h4⟩ := statusOutcome_accept { t with ev := t.ev ++ [Event.timerDel] } tcm q
      (replyTo verb rest results s) s hst hps (by omega) hacc
    exact ⟨t', h1, h2, h4⟩
  · intro hrej
    exact ⟨_, statusOutcome_reject _ tcm q _ _ s hrej, rfl, by simp⟩

/-- …in particular for every command trxcon emits (`emitSpec`) and the reply the toolkit builds from
it — `RSP <VERB> <status>` followed by the original arguments and optional results, NUL — as long
as the reply fits one `read()` (always the case for a status of up to six characters and no
results: 1015 + 2 + 6 = 1023). -/
theorem trxcon_accepts_emitted (t : Trx) (c : PhyCmd) (hv : ValidCmd c) (e : Emitted) (he : e ∈ emitSpec c)
    (q : List CtrlMsg) (results : List Nat) (s : Int)
    (hq : t.queue = e.msg :: q) (hres : ∀ ch ∈ results, ch ≠ 0) (hnd : NoDigitHead results)
    (hs1 : -2147483648 ≤ s) (hs2 : s ≤ 2147483647)
    (hlen : e.text.length + 2 + (fmtD s).length + results.length ≤ 1023)
    (hst : t.state < 4) (hps : t.prevState < 4) :
    let reply := replyTo e.verb (e.args.flatMap (fun a => 32 :: a)) results s
    (¬ (s ≠ 0 ∧ e.critical ≠ 0) →
      ∃ t', cReadCb t reply = .ok (0, t') ∧ t'.queue = q ∧ (s ≠ 0 → t'.elog = true)) ∧
    ((s ≠ 0 ∧ e.critical ≠ 0) →
      ∃ t', cReadCb t reply = .ok (-eIO, t') ∧ t'.queue = t.queue ∧
        t'.ev = t.ev ++ [Event.timerDel, Event.term termError]) := by
  intro reply
  obtain ⟨_, hup, _⟩ := emitSpec_wf c hv e he
  obtain ⟨_, _, _, hnz⟩ := trxcon_cmd_wellformed c hv e he
  have hcap : trxcBufSize = 1024 := by decide
  have hh : ReplyHyp e.verb (e.args.flatMap (fun a => 32 :: a)) results := by
    refine ⟨?_, ?_, hres, ?_⟩
    · intro ch hch; have := hup ch hch; omega
    · intro ch hch; exact hnz ch (by simp only [Emitted.text, List.mem_append]; exact .inr hch)
    · cases hargs : e.args with
      | nil => simpa using hnd
      | cons a as => simp only [List.flatMap_cons, List.cons_append]; exact noDigitHead_cons 32 _ (by decide)
  have hl : reply.length ≤ trxcBufSize - 1 := by
    have h4 : (str "RSP ").length = 4 := by decide
    have h4' : (str "CMD ").length = 4 := by decide
    simp only [Emitted.text, List.length_append] at hlen
    simp only [reply, replyTo, List.length_append, List.length_singleton, hcap]
    omega
  exact trxcon_accepts_rsp t e.msg q e.verb _ results s hq rfl hh hs1 hs2 hl hst hps

/-- **A reply to another command is not taken for the pending one**: if the verb of
`RSP <v> <tail>\0` is not a prefix of what follows `CMD ` in the pending command (`strncmp` over
the length of the reply's verb), the interface is terminated with `-EIO` whatever the
criticality — e.g. `RSP POWEROFF 0` or `RSP POWEROX 0` for `CMD POWERON`. -/
theorem trxcon_rejects_mismatch (t : Trx) (tcm : CtrlMsg) (q : List CtrlMsg) (v tail : List Nat)
    (hq : t.queue = tcm :: q) (hv : ∀ c ∈ v, c ≠ 32 ∧ c ≠ 0) (htail : ∀ c ∈ tail, c ≠ 0)
    (hnp : v ≠ (cmdStrAt tcm 4).take v.length)
    (hlen : (str "RSP " ++ v ++ [32] ++ tail ++ [0]).length ≤ trxcBufSize - 1) :
    cReadCb t (str "RSP " ++ v ++ [32] ++ tail ++ [0]) =
      .ok (-eIO, { t with ev := t.ev ++ [Event.timerDel, Event.term termError], elog := true }) := by
  rw [cReadCb_rsp t tcm q v tail hq hv htail hlen, if_neg hnp]
  simp [rspError]

/-- **MEASURE**: the reply `RSP MEASURE 0 <kHz> <dBm>\0` to `CMD MEASURE <kHz>` for an ARFCN of the
GSM bands hands exactly (ARFCN, dBm) to `trxcon_phyif_handle_rsp` (`sscanf("%u %d")` at `buf + 14`,
`/ 100`, `gsm_freq102arfcn`). -/
theorem trxcon_measure_result (t : Trx) (q : List CtrlMsg) (crit : Int) (n : Nat) (a : Nat) (dbm : Int)
    (ha : CanonArfcn a) (h1 : -2147483648 ≤ dbm) (h2 : dbm ≤ 2147483647)
    (hq : t.queue = ⟨str "CMD " ++ str "MEASURE" ++ 32 :: fmtU (arfcn2freq10 a false * 100), crit, n⟩ :: q)
    (hst : t.state < 4) :
    ∃ t', cReadCb t (replyTo (str "MEASURE") (32 :: fmtU (arfcn2freq10 a false * 100)) (32 :: fmtD dbm) 0)
        = .ok (0, t') ∧ t'.queue = q ∧ t'.rsp = some (a, dbm) := by
  have hlen : (replyTo (str "MEASURE") (32 :: fmtU (arfcn2freq10 a false * 100)) (32 :: fmtD dbm) 0).length
      < trxcBufSize := by
    have := fmtU_len_le (arfcn2freq10 a false * 100)
    have := fmtD_len_le dbm
    have := fmtD_len_le 0
    have hcap : trxcBufSize = 1024 := by decide
    rw [replyTo_length, str_measure, hcap]
    simp only [List.length_cons, List.length_nil]
    omega
  have hdisp := rspDispatch_measure { t with ev := t.ev ++ [Event.timerDel] } (32 :: fmtU (arfcn2freq10 a false * 100))
    _ _ (fmtU_nz (arfcn2freq10 a false * 100)) (fmtD_nz dbm)
  rw [measureRspCb_canon _ a dbm ha h1 h2] at hdisp
  have hh : ReplyHyp (str "MEASURE") (32 :: fmtU (arfcn2freq10 a false * 100)) (32 :: fmtD dbm) := by
    refine ⟨?_, ?_, ?_, ?_⟩
    · intro c hc; rw [str_measure] at hc; simp at hc; omega
    · intro c hc
      simp only [List.mem_cons] at hc
      rcases hc with rfl | hc
      · omega
      · exact fmtU_nz _ c hc
    · intro c hc
      simp only [List.mem_cons] at hc
      rcases hc with rfl | hc
      · omega
      · exact fmtD_nz _ c hc
    · exact noDigitHead_cons 32 _ (by decide)
  have hc4 := cmdStrAt_four ⟨_, crit, n⟩ (str "MEASURE" ++ 32 :: fmtU (arfcn2freq10 a false * 100))
    (List.append_assoc ..) (fun c hc => by
      rcases List.mem_append.mp hc with hc | hc
      · exact (hh.hverb c hc).2
      · exact hh.hrest c hc)
  rw [cReadCb_reply t _ q _ _ _ 0 hq rfl hh (by omega) (by omega) (by omega)]
  simp only [statusOutcome, ne_eq, not_true_eq_false, false_and, if_false, hc4, hdisp, bind, Except.bind, pure,
    Except.pure]
  obtain ⟨t4, h4, sd, _⟩ := ctrlSend_ok { t with ev := t.ev ++ [Event.timerDel], rsp := some (a, dbm), queue := q } hst
  rw [h4]
  exact ⟨t4, rfl, sd.queue, sd.rsp⟩

/-! ## C14: the TRXD receive path stays inside its buffer -/

/-- For ALL datagrams (any length; `read()` keeps at most `TRXD_BUF_SIZE` = 512 octets): every
access of `trx_data_rx_cb` to `buf` — all go through `rd`/`wr`, which fault on an index
≥ read_len (uninitialised) or ≥ 512 (outside) — is in bounds, and the outcome is either a return
code without any indication or the burst + RTS indications. -/
theorem trxd_rx_in_bounds (d : List Nat) (adv : Nat) :
    (d.take trxdBufSize).length ≤ 512 ∧
    ((∃ rc, cRx d adv = .ret rc) ∨ (∃ bi rts, cRx d adv = .ind bi rts)) := by
  refine ⟨by simp only [List.length_take]; have : trxdBufSize = 512 := by decide
             omega, ?_⟩
  have := cRx_noFault d adv
  cases h : cRx d adv with
  | ret rc => exact .inl ⟨rc, rfl⟩
  | ind bi rts => exact .inr ⟨bi, rts, rfl⟩
  | fault f => rw [h] at this; exact this.elim

/-- A datagram shorter than the version-0 header is rejected with `-EINVAL`.  (The other rejections — foreign
version, FN beyond the hyperframe, which is checked after the conversion loop has run — are shown by the
examples below.) -/
theorem trxd_rx_short (d : List Nat) (adv : Nat) (h0 : 0 < d.length) (h : d.length < 8) :
    cRx d adv = .ret (-22) := by
  have hcap : trxdBufSize = 512 := by decide
  have hh : trxdv0HdrLen = 8 := by decide
  simp only [cRx, hcap, hh, List.length_take]
  rw [if_neg (by omega), if_pos (by omega)]; rfl

/-- non-vacuity / concrete behaviour: a v0 NB with padding, FN at the end of the hyperframe,
RSSI −128, ToA −32768; an FN beyond the hyperframe; a version-1 header. -/
example : cRx (layoutRx ⟨0, 2715647, 7, -128, -32768, false, .gmsk 0, 0, 0, some (List.replicate 148 (-127))⟩ true) 2
    = .ind ⟨7, 2715647, -128, -32768, List.replicate 148 (-127)⟩ ⟨1, 7⟩ :=
  cRx_layout _ true _ 2 rfl rfl (by decide) (by decide) (by decide) (by decide) (.inl rfl)
    (fun s hs => by rw [List.eq_of_mem_replicate hs]; decide)
example : cRx (layoutRx ⟨0, 2715648, 7, -60, 5, false, .gmsk 0, 0, 0, some (List.replicate 148 0)⟩ false) 2
    = .ret (-22) :=
  cRx_layout _ false _ 2 rfl rfl (by decide) (by decide) (by decide) (by decide) (.inl rfl)
    (fun s hs => by rw [List.eq_of_mem_replicate hs]; decide)
example : cRx (layoutRx ⟨1, 5, 7, -60, 5, false, .gmsk 0, 0, 0, some (List.replicate 148 0)⟩ false) 2
    = .ret (-95) := by decide +kernel
example : cTx ⟨3, 42, 10, [0, 1, 1], 3⟩ = .sent 0 [3, 0, 0, 0, 42, 10, 0, 1, 1] := by decide +kernel

/-! ## non-vacuity: concrete commands, replies, the F6 witnesses on the fixed code -/

example : ValidCmd (.setfreqH1 63 63 64 (List.range' 1 64)) := by decide +kernel
example : sentLens (cPhyCmd t0 (.setfreqH1 63 63 64 (List.range' 1 64))) = some (0, [912]) :=
  (sentLens_setfh 63 63 (List.range' 1 64) (by decide) (by decide +kernel) (by decide)).trans (by decide +kernel)
-- the longest SETFH trxcon can emit: 51 DCS-1800 and 13 P-GSM channels, 3-digit HSN/MAIO: 1015 characters + NUL
example : sentLens (cPhyCmd t0 (.setfreqH1 255 255 64 (List.range' 512 51 ++ List.range' 1 13))) = some (0, [1016]) :=
  (sentLens_setfh 255 255 (List.range' 512 51 ++ List.range' 1 13) (by decide) (by decide +kernel) (by decide)).trans (by decide +kernel)
-- 63 DCS-1800 channels do not fit ma_buf
example : sentLens (cPhyCmd t0 (.setfreqH1 1 2 63 (List.range' 512 63))) = some (-28, []) :=
  (sentLens_setfh 1 2 (List.range' 512 63) (by decide) (by decide +kernel) (by decide)).trans (by decide +kernel)
example : texts (cPhyCmd t0 .reset) =
    some (0, [str "CMD POWEROFF", str "CMD ECHO"], [str "CMD POWEROFF" ++ [0]]) := by decide +kernel
example : texts (cPhyCmd t0 (.setslot 3 9)) = some (0, [str "CMD SETSLOT 3 5"], [str "CMD SETSLOT 3 5" ++ [0]]) := by decide +kernel
example : texts (cPhyCmd t0 (.setta (-128))) = some (0, [str "CMD SETTA -128"], [str "CMD SETTA -128" ++ [0]]) := by decide +kernel
example : isCrash (cPhyCmd t0 (.setslot 3 12)) = true := by decide +kernel
-- F6 witnesses on the fixed code
example : outcome (cReadCb (tWait [⟨str "CMD POWERON", 1, 7⟩]) (str "RSP POWERON" ++ [0])) = some (-5, 1, true, none) := by
  decide +kernel
example : outcome (cReadCb (tWait [⟨str "CMD POWERON", 1, 7⟩]) (str "RSP POWERON x" ++ [0])) = some (-5, 1, true, none) := by
  decide +kernel
example : outcome (cReadCb (tWait [⟨str "CMD POWERON", 1, 7⟩]) (str "RSP POWERON 0" ++ [0])) = some (0, 0, false, none) := by
  decide +kernel
example : outcome (cReadCb (tWait [⟨str "CMD POWERON", 1, 7⟩]) (str "RSP POWEROX 0" ++ [0])) = some (-5, 1, true, none) := by
  decide +kernel
example : outcome (cReadCb (tWait [⟨str "CMD SETTA 3", 0, 5⟩]) (str "RSP SETTA 1 3" ++ [0])) = some (0, 0, true, none) := by
  decide +kernel
example : outcome (cReadCb (tWait [⟨str "CMD MEASURE 935200", 1, 7⟩]) (str "RSP MEASURE 0 935200 -55" ++ [0]))
    = some (0, 0, false, some (1, -55)) := by decide +kernel
example : outcome (cReadCb (tWait [⟨str "CMD MEASURE 935200", 1, 7⟩]) (str "RSP MEASURE 0")) = some (0, 0, true, none) := by
  decide +kernel
example : CanonArfcn 33280 ∧ replyTo (str "MEASURE") (32 :: fmtU (arfcn2freq10 33280 false * 100)) (32 :: fmtD (-110)) 0
    = str "RSP MEASURE 0 1930200 -110" ++ [0] := by decide +kernel

end OsmoVerif.Props.Trxcon
