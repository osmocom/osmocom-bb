/-
C18 — Burst-loss simulation drops exactly the requested bursts.

After `FAKE_DROP n [period]` a receiving transceiver suppresses exactly the next n bursts whose
frame number is a multiple of the period and then forwards normally again; RF mute on either side
suppresses every burst while active; a suppressed burst yields exactly one NOPE.ind (no bits,
RSSI −110, ToA256 0, C/I −30) on a version-1 link and nothing on a version-0 link; negative
amounts and non-positive periods are rejected without changing state.

The receiving side is `handleDataMsg w k j srcMsg msg` (fake_trx.py handle_data_msg) of the
validated world model; a *stream* is any list of (sender index, sender's message, translated
message) handed to transceiver `k` one after the other with the world threaded (`handleStream`);
nothing is assumed about the world besides what is stated (no reachability).
`planStream k w plan` is the same stream run with the decision for every burst PRESCRIBED:
`true` = NOPE branch (`suppressOut`) and one drop consumed (`decDrop`), `false` = forwarded normally
(`passOn`, the completion branch characterised in C10).
-/
import OsmoVerif.Lemmas.WorldFwd
import OsmoVerif.Spec.TrxdLayout

namespace OsmoVerif.Props.C18
open OsmoVerif OsmoVerif.World OsmoVerif.Spec OsmoVerif.PyStr OsmoVerif.World.Examples

/-- over ANY stream of (non-NOPE) bursts handed to an unmuted transceiver `k` with
`burst_drop_amount = n ≥ 0` and `burst_drop_period = p ≥ 1`, the model suppresses exactly the
bursts that `Spec.dropPlan n p` marks — the first `n` whose frame number is a multiple of `p` —
and forwards all others normally; errors (e.g. of a later draw) coincide as well. -/
theorem drop_exact (w : World) (k : Nat) (tk : Trx) (n : Nat) (p : Int) (stream : List Burst)
    (fns : List Int) (hk : w.trxs[k]? = some tk) (hm : tk.rfMuted = false)
    (hn : tk.dropAmount = (n : Int)) (hp : tk.dropPeriod = p) (hp1 : 1 ≤ p)
    (hnope : ∀ b ∈ stream, b.2.2.nopeInd = false)
    (hfns : stream.map (fun b => b.2.2.fn) = fns.map some) :
    handleStream k w stream = planStream k w ((dropPlan n p fns).zip stream) :=
  drop_exact_aux k n p hp1 stream fns w tk 0 hk hm hp (by rw [hn]; rfl) hnope hfns

/-- which bursts those are: burst `i` is suppressed iff `p ∣ fn i` and fewer than `n` earlier
bursts of the stream had a frame number that is a multiple of `p` -/
theorem drop_plan_index (n : Nat) (p : Int) (fns : List Int) (i : Nat) :
    (dropPlan n p fns)[i]? = some true ↔
      ∃ fn, fns[i]? = some fn ∧ p ∣ fn ∧ (fns.take i).countP (fun f => decide (p ∣ f)) < n := by
  unfold dropPlan
  rw [dropPlanFrom_getElem]
  simp only [Nat.zero_add]

/-- the plain form `FAKE_DROP n` (period 1): exactly the NEXT `n` bursts of the stream are suppressed,
whatever their frame numbers -/
theorem drop_plan_period_one (n : Nat) (fns : List Int) (i : Nat) :
    (dropPlan n 1 fns)[i]? = some true ↔ i < fns.length ∧ i < n := by
  rw [drop_plan_index]
  have hall : ∀ l : List Int, l.countP (fun f => decide ((1 : Int) ∣ f)) = l.length := by
    intro l
    rw [List.countP_eq_length]
    intro a _
    exact decide_eq_true (Int.one_dvd a)
  rw [hall, List.length_take]
  constructor
  · rintro ⟨fn, hget, _, hc⟩
    have hi : i < fns.length := (List.getElem?_eq_some_iff.mp hget).1
    exact ⟨hi, by omega⟩
  · rintro ⟨hi, hn⟩
    exact ⟨fns[i], List.getElem?_eq_getElem hi, Int.one_dvd _, by omega⟩

/-- one decision per burst; `min n (#multiples of p)` bursts are suppressed in total -/
theorem drop_plan_count (n : Nat) (p : Int) (fns : List Int) :
    (dropPlan n p fns).length = fns.length ∧
    (dropPlan n p fns).count true = min n (fns.countP (fun f => decide (p ∣ f))) := by
  unfold dropPlan
  exact ⟨dropPlanFrom_length n p fns 0, by rw [dropPlanFrom_count]; rfl⟩

/-- the counter ends at `n − #suppressed`; nothing else of transceiver `k` changes; every burst
of the stream produced its (possibly empty) output -/
theorem drop_counter (w : World) (k : Nat) (tk : Trx) (n : Nat) (p : Int) (stream : List Burst)
    (fns : List Int) (w' : World) (outs : List (List Dgram))
    (hk : w.trxs[k]? = some tk) (hm : tk.rfMuted = false)
    (hn : tk.dropAmount = (n : Int)) (hp : tk.dropPeriod = p) (hp1 : 1 ≤ p)
    (hnope : ∀ b ∈ stream, b.2.2.nopeInd = false)
    (hfns : stream.map (fun b => b.2.2.fn) = fns.map some)
    (h : handleStream k w stream = .ok (w', outs)) :
    w'.trxs[k]? = some { tk with dropAmount :=
        (n : Int) - (min n (fns.countP (fun f => decide (p ∣ f))) : Nat) } ∧
    outs.length = stream.length := by
  rw [drop_exact w k tk n p stream fns hk hm hn hp hp1 hnope hfns] at h
  obtain ⟨a, b⟩ := planStream_counter k _ w tk w' outs hk h
  have hl : (dropPlan n p fns).length = stream.length := by
    rw [(drop_plan_count n p fns).1]
    have := congrArg List.length hfns
    simp only [List.length_map] at this
    exact this.symm
  have hz : ((dropPlan n p fns).zip stream).map Prod.fst = dropPlan n p fns := by
    rw [List.map_fst_zip]; omega
  rw [hz, (drop_plan_count n p fns).2, hn] at a
  refine ⟨a, ?_⟩
  rw [b, List.length_zip, hl, Nat.min_self]

/-- while the receiver is muted every burst is suppressed (NOPE branch) and the world — in
particular the drop counter — is untouched -/
theorem mute_all (w : World) (k : Nat) (tk : Trx) (stream : List Burst) (w' : World)
    (outs : List (List Dgram)) (hk : w.trxs[k]? = some tk) (hm : tk.rfMuted = true)
    (h : handleStream k w stream = .ok (w', outs)) :
    w' = w ∧ outs.length = stream.length ∧
    ∀ x ∈ outs.zip stream, suppressOut tk x.2.2.2 = .ok x.1 := by
  induction stream generalizing w outs with
  | nil => cases h; exact ⟨rfl, rfl, fun x hx => by cases hx⟩
  | cons b rest ih =>
    obtain ⟨j, s, m⟩ := b
    simp only [handleStream] at h
    split at h
    · cases h
    · rename_i w1 ds hh
      obtain ⟨rfl, hs⟩ := handleDataMsg_muted_ok hh hk (.inl hm)
      split at h
      · cases h
      · rename_i outs' hrest
        cases h
        obtain ⟨a, b, c⟩ := ih _ _ hk hrest
        refine ⟨a, by simp only [List.length_cons, b], fun x hx => ?_⟩
        rcases List.mem_cons.1 hx with hx | hx
        · rw [hx]; exact hs
        · exact c x hx

/-- a muted sender: `forward_msg` strips the burst, so the message reaches every recipient as a
NOPE indication; the step leaves the whole world (all drop counters) untouched, and by
`C02.forward_output` (`CallSpec.supp_v0/supp_v1`, `suppressed` is true) every recipient emits
nothing (version 0) or one NOPE.ind -/
theorem mute_all_sender (w : World) (j : Nat) (s : Trxd.TxMsg) (src : Trx) (fnI : Int)
    (w' : World) (out : List Dgram) (hj : w.trxs[j]? = some src) (hfn : s.fn = some fnI)
    (hok : FreqOk w fnI.toNat) (hm : src.rfMuted = true)
    (h : forwardMsg w j s = .ok (w', out)) :
    w' = w ∧ ∀ r : Trx, suppressed src r fnI = true := by
  refine ⟨?_, fun r => by simp only [suppressed, hm, Bool.true_or]⟩
  rw [forwardMsg_eq w j s src fnI hj hfn hok, fwdInput, if_pos hm] at h
  exact handleSeq_noburst j _ rfl _ _ _ _ h

/-- a suppressed burst (mute on either side or simulated loss) yields nothing on a version-0 link
and exactly one datagram on a version-1 link: the NOPE.ind with the frame and timeslot number of
the burst, MTS octet 0x80, RSSI −110 dBm, ToA256 0, C/I −30 and no burst bits -/
theorem nope_per_drop (w : World) (k j : Nat) (s : Trxd.TxMsg) (r src : Trx) (fn tn : Int)
    (bits : List Nat) (rx : Trxd.RxMsg) (w' : World) (dk : List Dgram)
    (hk : w.trxs[k]? = some r) (hj : w.trxs[j]? = some src) (hwf : DropWF r)
    (hfn : s.fn = some fn) (htn : s.tn = some tn) (hb : s.burst = some bits)
    (hbits : ∀ b ∈ bits, b < 256)
    (hrx : (fwdInput src s).trans (some r.hdrVer) = .ok rx)
    (h : handleDataMsg w k j (fwdInput src s) rx = .ok (w', dk))
    (hs : suppressed src r fn = true) :
    (r.hdrVer < 1 → dk = []) ∧
    (r.hdrVer = 1 → 0 ≤ fn → fn < 2715648 → 0 ≤ tn → tn ≤ 7 →
      dk = [dataDgram r (nopeOctets fn.toNat tn.toNat)]) ∧
    (1 ≤ r.hdrVer → ∃ cm, IsNope r.hdrVer (some fn) (some tn) cm ∧ dk = dgramsOf r (cm.genMsg false)) := by
  obtain ⟨cs, _⟩ := FwdCall.spec ⟨hk, hj, hwf, hfn, hb, hbits, hrx, h⟩
  refine ⟨cs.supp_v0 hs, fun hv f0 f1 t0 t1 => ?_, fun hv => ?_⟩
  · obtain ⟨cm, hn, hdk⟩ := cs.supp_v1 hs (by omega)
    rw [hv, hfn, htn] at hn
    rw [hdk, (isNope_genMsg cm fn tn false hn f0 f1 t0 t1).2]
    rfl
  · obtain ⟨cm, hn, hdk⟩ := cs.supp_v1 hs hv
    rw [hfn, htn] at hn
    exact ⟨cm, hn, hdk⟩

/-- the effect of a call on the world: mute ⇒ unchanged; simulated loss ⇒ exactly
`burst_drop_amount -= 1` of the receiver; forwarded ⇒ only the randomness stream advances -/
theorem call_world (w : World) (k j : Nat) (s : Trxd.TxMsg) (r src : Trx) (fn : Int)
    (bits : List Nat) (rx : Trxd.RxMsg) (w' : World) (dk : List Dgram)
    (hk : w.trxs[k]? = some r) (hj : w.trxs[j]? = some src) (hwf : DropWF r)
    (hfn : s.fn = some fn) (hb : s.burst = some bits) (hbits : ∀ b ∈ bits, b < 256)
    (hrx : (fwdInput src s).trans (some r.hdrVer) = .ok rx)
    (h : handleDataMsg w k j (fwdInput src s) rx = .ok (w', dk)) :
    CallWorld w k r src fn w' :=
  (FwdCall.spec ⟨hk, hj, hwf, hfn, hb, hbits, hrx, h⟩).2

/-- the NOPE octets are the TRXD v1 layout of the protocol description (Spec/TrxdLayout) for a
NOPE indication with the noise levels, and the model's noise constants are those of the property -/
theorem nope_layout (fn tn : Nat) :
    nopeOctets fn tn =
      TrxdLayout.layoutRx { ver := 1, fn := fn, tn := tn, rssi := -110, toa256 := 0, nope := true,
                            ci := -30, soft := none } false ∧
    Gen.World.rssiNoise = -110 ∧ Gen.World.toa256Noise = 0 ∧ Gen.World.ciNoise = -30 ∧
    Gen.Trxd.nopeInd = 0x80 := by
  refine ⟨?_, by decide, by decide, by decide, by decide⟩
  simp [nopeOctets, TrxdLayout.layoutRx, TrxdLayout.hdr, TrxdLayout.be32, TrxdLayout.s16be,
    TrxdLayout.mtsOctet, TrxdLayout.pad]

/-- `FAKE_DROP n`, `FAKE_DROP n p` in the custom handler: `n < 0` (resp. `n < 0 ∨ p ≤ 0`) answers
−1 and makes NO assignment; valid arguments assign exactly (n, 1) resp. (n, p) and answer 0 -/
theorem bad_args (a b : Str) (n p : Int) (ha : toInt a = .ok n) (hb : toInt b = .ok p) :
    ctrlCmdHandler [lit "FAKE_DROP", a] =
      (if n < 0 then .ok (none, some (-1)) else .ok (some (.drop n 1), some 0)) ∧
    ctrlCmdHandler [lit "FAKE_DROP", a, b] =
      (if n < 0 then .ok (none, some (-1))
       else if p ≤ 0 then .ok (none, some (-1))
       else .ok (some (.drop n p), some 0)) :=
  ⟨by rw [ctrlCmdHandler_fake_drop1, ha]; rfl,
   by rw [ctrlCmdHandler_fake_drop2, ha]; dsimp only [bind, Except.bind]; rw [hb]; rfl⟩

/-- the same through `CTRLInterfaceTRX.parse_cmd`: the world is unchanged on rejection, else
exactly the two attributes of the addressed transceiver are assigned -/
theorem bad_args_world (w : World) (i : Nat) (a b : Str) (n p : Int) (ha : toInt a = .ok n)
    (hb : toInt b = .ok p) :
    parseCmd w i [lit "FAKE_DROP", a] =
      (if n < 0 then .ok (w, (-1, []))
       else .ok (setTrx w i (fun t => { t with dropAmount := n, dropPeriod := 1 }), (0, []))) ∧
    parseCmd w i [lit "FAKE_DROP", a, b] =
      (if n < 0 ∨ p ≤ 0 then .ok (w, (-1, []))
       else .ok (setTrx w i (fun t => { t with dropAmount := n, dropPeriod := p }), (0, []))) := by
  constructor
  · rw [parseCmd_eq, ctrlCmdHandler_fake_drop1, ha]
    by_cases hn : n < 0 <;> simp only [bind, Except.bind, hn, if_true, if_false] <;> rfl
  · rw [parseCmd_eq, ctrlCmdHandler_fake_drop2, ha]
    by_cases hn : n < 0 <;> by_cases hp : p ≤ 0 <;>
      simp only [bind, Except.bind, hn, hp, hb, if_true, if_false, or_self, or_true, true_or] <;> rfl

/-- accepted parameters satisfy `DropWF` (amount ≥ 0, period ≥ 1): the hypothesis of the burst-path
theorems is what the command handler establishes -/
theorem accepted_wf (t : Trx) (n p : Int) (hn : ¬ n < 0) (hp : ¬ p ≤ 0) :
    DropWF ((Patch.drop n 1).apply t) ∧ DropWF ((Patch.drop n p).apply t) := by
  simp only [DropWF, Patch.apply]
  omega

/-- more generally: every assignment the custom handler (SETTA, FAKE_TOA, FAKE_RSSI, FAKE_CI,
FAKE_DROP, FAKE_TRXC_DELAY) makes keeps `DropWF ∧ ThrNonneg`, which a freshly created transceiver
satisfies (`World.simWF_default`) — these are the well-formedness hypotheses of the burst-path
theorems (C02/C10/C18) -/
theorem sim_params_wf (req : List Str) (p : Patch) (rc : Option Int) (t : Trx)
    (h : ctrlCmdHandler req = .ok (some p, rc)) (hwf : DropWF t ∧ ThrNonneg t) :
    DropWF (p.apply t) ∧ ThrNonneg (p.apply t) :=
  patch_apply_simWF (ctrlCmdHandler_sane h) hwf

/-- `RFMUTE v` sets `rf_muted := (v > 0)` and answers 0 -/
theorem rfmute_sets (w : World) (i : Nat) (t : Trx) (a : Str) (v : Int) (hi : w.trxs[i]? = some t)
    (ha : toInt a = .ok v) :
    parseCmd w i [lit "RFMUTE", a] =
      .ok (setTrx w i (fun t => { t with rfMuted := decide (v > 0) }), (0, [])) := by
  rw [parseCmd_common (by simp) hi, commonCmd_rfmute, ha]
  rfl

/-! ### non-vacuity (`World.Examples`): transceiver 4 (`msDrop`: version 0, not muted,
`burst_drop_amount = 2`, `burst_drop_period = 2`) is handed five bursts in frames 51, 52, 54, 55, 56 -/

/-- the plan: the first two even frames are dropped, the third even frame is forwarded again -/
example : dropPlan 2 2 streamFns = [false, true, true, false, false] := by decide

/-- the hypotheses of `drop_exact` / `drop_counter` hold for that stream -/
example : world.trxs[4]? = some msDrop ∧ msDrop.rfMuted = false ∧ msDrop.dropAmount = (2 : Nat) ∧
    msDrop.dropPeriod = 2 ∧ (∀ b ∈ stream, b.2.2.nopeInd = false) ∧
    stream.map (fun b => b.2.2.fn) = streamFns.map some ∧
    (handleStream 4 world stream).isOk = true := stream_hyps

/-- and the model does what the theorems say: one datagram for frames 51, 55, 56, none for the
two dropped bursts (version-0 link), counter at 0 afterwards -/
example : (match handleStream 4 world stream with
    | .ok (w', outs) => (outs.map List.length, (w'.trxs[4]?).map (·.dropAmount))
    | .error _ => ([], none)) = ([1, 0, 0, 1, 1], some 0) := by decide +kernel

/-- `drop_counter` applied to it -/
example : ∃ w' outs, handleStream 4 world stream = .ok (w', outs) ∧
    w'.trxs[4]? = some { msDrop with dropAmount := 0 } ∧ outs.length = 5 := by
  obtain ⟨hk, hm, hn, hp, hnope, hfns, hisok⟩ := stream_hyps
  obtain ⟨⟨w', outs⟩, h⟩ := exists_of_isOk (handleStream 4 world stream) hisok
  obtain ⟨a, b⟩ := drop_counter world 4 msDrop 2 2 stream streamFns w' outs hk hm hn hp (by decide) hnope hfns h
  exact ⟨w', outs, h, a, b⟩

/-- a muted receiver on a version-1 link (transceiver 5): `nope_per_drop` gives exactly the NOPE.ind -/
example : ∃ w' dk, handleDataMsg world 5 0 (fwdInput bts (burst 52))
      { Trxd.RxMsg.fresh with fn := some 52, tn := some 2, ver := 1,
                              burst := some (nbBits.map softOf) } = .ok (w', dk) ∧
    suppressed bts msMuted 52 = true ∧ dk = [dataDgram msMuted (nopeOctets 52 2)] := by
  obtain ⟨⟨w', dk⟩, h⟩ := exists_of_isOk (handleDataMsg world 5 0 (fwdInput bts (burst 52))
      { Trxd.RxMsg.fresh with fn := some 52, tn := some 2, ver := 1,
                              burst := some (nbBits.map softOf) }) (by decide +kernel)
  refine ⟨w', dk, h, by decide, ?_⟩
  exact (nope_per_drop world 5 0 (burst 52) msMuted bts 52 2 nbBits _ w' dk rfl rfl (by decide)
    rfl rfl rfl (by decide +kernel) (trans_burst _ _ nbBits rfl (by decide +kernel)) h (by decide)).2.1
    rfl (by decide) (by decide) (by decide) (by decide)

/-- argument strings for `bad_args`: "-3" and "0" are rejected, "3" / "4" accepted -/
example : pyInt (lit "-3") = some (-3) ∧ pyInt (lit "0") = some 0 ∧ pyInt (lit "3") = some 3 ∧
    pyInt (lit "4") = some 4 := by decide +kernel

example : ctrlCmdHandler [lit "FAKE_DROP", lit "-3"] = .ok (none, some (-1)) ∧
    ctrlCmdHandler [lit "FAKE_DROP", lit "3", lit "0"] = .ok (none, some (-1)) := by
  have h1 : toInt (lit "-3") = .ok (-3) := by
    unfold toInt; rw [show pyInt (lit "-3") = some (-3) by decide +kernel]
  have h2 : toInt (lit "3") = .ok 3 := by
    unfold toInt; rw [show pyInt (lit "3") = some 3 by decide +kernel]
  have h3 : toInt (lit "0") = .ok 0 := by
    unfold toInt; rw [show pyInt (lit "0") = some 0 by decide +kernel]
  exact ⟨(bad_args _ _ _ _ h1 h3).1, (bad_args _ _ _ _ h2 h3).2⟩

end OsmoVerif.Props.C18
