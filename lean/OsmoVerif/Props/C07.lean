/-
C07 — Frequency hopping follows 3GPP TS 45.002 §6.2.3 in the simulator and in the firmware.
Property theorems only.  Spec: `OsmoVerif.Spec.Hopping` (written from the standard, own
RNTABLE copy); models: `OsmoVerif.Model.Hopping` (Python `HoppingParams`, `Transceiver.get_*_freq`;
C `rfch_hop_seq_gen` reached through `rfch_get_params`); tables: `OsmoVerif.Gen.Hopping`
(regenerated from the tree on every run).
-/
import OsmoVerif.Lemmas.Hopping

namespace OsmoVerif.Props.C07
open OsmoVerif OsmoVerif.Hopping

/-- Both RNTABLE copies of the code base (Python list, C array as the compiler sees it)
are the table of the standard. -/
theorem gen_tables_eq_spec :
    Gen.pyRntable = Spec.Hopping.rntable ∧ Gen.fwRnTable = Spec.Hopping.rntable := by
  decide

/-- Layout facts of the firmware the model relies on: `rn_table` holds octets, the
mobile allocation array of `struct l1s_h1` has room for the 64 channels of the property. -/
theorem fw_layout : Gen.fwRnTableElemSize = 1 ∧ Gen.fwMaCapacity = 64 := by
  decide

/-- `pow_nbin_mask(n)` (C) is `2^NBIN - 1` with `NBIN = ⌊log2 n⌋ + 1`. -/
theorem pnm_is_pow (n : Nat) (h1 : 1 ≤ n) (h2 : n ≤ 64) :
    powNbinMask n + 1 = 2 ^ (Nat.log2 n + 1) := by
  have h := pnm_core n (by omega) h1
  have : 0 < 2 ^ (Nat.log2 n + 1) := Nat.pow_pos (by decide)
  omega

/-- `HoppingParams.__init__` accepts every HSN 0..63 with every mobile allocation of 1..64
channels (any MAIO) and its `_pnm` is `2^NBIN - 1`. -/
theorem py_pnm_is_pow {α : Type} (hsn : Nat) (maio : Int) (ma : List α)
    (hh : hsn < 64) (h1 : 1 ≤ ma.length) (h2 : ma.length ≤ 64) :
    ∃ hp, pyInit (hsn : Int) maio ma = .ok hp ∧ hp.hsn = hsn ∧ hp.maio = maio ∧ hp.ma = ma ∧
      hp.pnm + 1 = 2 ^ (Nat.log2 ma.length + 1) :=
  ⟨_, pyInit_ok hsn maio ma hh (by omega), rfl, rfl, rfl, pnm_is_pow ma.length h1 h2⟩

/-- `HoppingParams.__init__` succeeds exactly for a non-empty mobile allocation and an HSN in
`range(64)`; everything else is a `ValueError` (never another exception). -/
theorem py_init_iff {α : Type} (hsn maio : Int) (ma : List α) :
    (ma ≠ [] ∧ 0 ≤ hsn ∧ hsn < 64 →
      pyInit hsn maio ma = .ok ⟨hsn, maio, ma, powNbinMask ma.length⟩) ∧
    (¬ (ma ≠ [] ∧ 0 ≤ hsn ∧ hsn < 64) → pyInit hsn maio ma = .error .ValueError) := by
  have hl : ma.length = 0 ↔ ma = [] := List.length_eq_zero_iff
  constructor
  · intro ⟨hne, h0, h64⟩
    have hn0 : ma.length ≠ 0 := fun h => hne (hl.1 h)
    have hr : ¬ ¬ (0 ≤ hsn ∧ hsn < 64) := fun h => h ⟨h0, h64⟩
    simp only [pyInit, hn0, if_false, if_neg hr, pyPnm_eq]
  · intro h
    by_cases hn0 : ma.length = 0
    · simp only [pyInit, hn0, if_true]
    · have hr : ¬ (0 ≤ hsn ∧ hsn < 64) := fun hr => h ⟨fun e => hn0 (hl.2 e), hr⟩
      simp only [pyInit, hn0, if_false, hr, not_false_eq_true, if_true]

/-- `resolve` never raises on an object built by `__init__`: for every HSN/MAIO/MA the
constructor accepts (any MAIO, any non-empty MA — also longer than 64) and every frame number it
returns an entry of the mobile allocation.  (Needs only the *length* of the regenerated RNTABLE.) -/
theorem py_resolve_total {α : Type} (hsn maio : Int) (ma : List α) (hp : HoppingParams α)
    (h : pyInit hsn maio ma = .ok hp) (fn : Nat) :
    ∃ v, v ∈ ma ∧ hp.resolve fn = .ok v := by
  obtain ⟨hn, h0, h64, e1, e2, e3, _⟩ := pyInit_inv hsn maio ma hp h
  obtain ⟨k, hk⟩ := Int.eq_ofNat_of_zero_le h0
  subst hk
  obtain ⟨hsn', maio', ma', pnm⟩ := hp
  simp only at e1 e2 e3
  subst e1 e2 e3
  exact py_resolve_total_aux k maio' ma' pnm fn (by omega) hn (by decide)

/-- Masking with `pow_nbin_mask(n)` is reduction modulo `2^NBIN` (what `M'` and `T'` need). -/
theorem mask_is_mod (x n : Nat) (h1 : 1 ≤ n) (h2 : n ≤ 64) :
    x &&& powNbinMask n = x % 2 ^ Spec.Hopping.nbin n :=
  and_powNbinMask x n h1 (by omega)

/-- `t1 & 63` is `T1R = T1 mod 64`, for every frame number (also beyond the hyperframe,
where Python's `t1` is not reduced modulo 2048). -/
theorem t1r_is_and (fn : Nat) : (fn / (26 * 51)) &&& 63 = Spec.Hopping.t1r fn := by
  rw [and_63, t1r_eq]

/-- The table address `(HSN xor T1R) + T3` never leaves the 114-entry table
(`HSN xor T1R ≤ 63`, `T3 ≤ 50`). -/
theorem rn_idx_in_bounds (hsn fn : Nat) (hh : hsn < 64) :
    (hsn ^^^ Spec.Hopping.t1r fn) ≤ 63 ∧ Spec.Hopping.t3 fn ≤ 50 ∧
    (hsn ^^^ Spec.Hopping.t1r fn) + Spec.Hopping.t3 fn ≤ 113 ∧
    (hsn ^^^ Spec.Hopping.t1r fn) + Spec.Hopping.t3 fn < Gen.pyRntable.length ∧
    (hsn ^^^ Spec.Hopping.t1r fn) + Spec.Hopping.t3 fn < Gen.fwRnTable.length := by
  have hx : hsn ^^^ Spec.Hopping.t1r fn < 64 := by
    rw [t1r_eq]; exact xor_lt_64 hh (Nat.mod_lt _ (by decide))
  have ht : Spec.Hopping.t3 fn < 51 := Nat.mod_lt _ (by decide)
  have l1 : Gen.pyRntable.length = 114 := by decide
  have l2 : Gen.fwRnTable.length = 114 := by decide
  omega

/-- The standard's algorithm is defined on the whole domain of the property and yields an
index into the mobile allocation. -/
theorem spec_mai_defined (hsn maio n fn : Nat) (hh : hsn < 64) (hn : 1 ≤ n) :
    ∃ i, Spec.Hopping.mai hsn maio n fn = some i ∧ i < n := by
  rw [spec_mai hsn maio n fn hh hn]
  refine ⟨_, rfl, ?_⟩
  split <;> exact Nat.mod_lt _ (by omega)

/-- **Simulator.** For every HSN 0..63, every MAIO, every mobile allocation of 1..64 channels
and every frame number, `HoppingParams(hsn, maio, ma).resolve(fn)` returns `MA[MAI]` with MAI
computed by the standard's algorithm.  (No bound on `fn` is needed: `t1 & 63` equals `T1R`
for every natural `fn`.) -/
theorem py_resolve_spec {α : Type} (hsn maio fn : Nat) (ma : List α)
    (hh : hsn < 64) (h1 : 1 ≤ ma.length) (h2 : ma.length ≤ 64) :
    ∃ v, Spec.Hopping.select ma hsn maio fn = some v ∧
      pyResolve (hsn : Int) (maio : Int) ma fn = .ok v := by
  obtain ⟨i, hi, hs, hp⟩ := py_resolve_closed hsn maio fn ma hh h1 h2 gen_tables_eq_spec.1
  exact ⟨ma[i], by simp only [Spec.Hopping.select, hs, List.getElem?_eq_getElem hi], hp⟩

/-- **Firmware.** With a hopping dedicated channel `(hsn, maio, n = |MA|)` whose ARFCN array
starts with the mobile allocation (`pad` = the unused rest of `ma[64]`), `gsm_fn2gsmtime`
followed by `rfch_get_params` stores `MA[MAI]` to `*arfcn_p`. -/
theorem fw_hop_spec (hsn maio fn : Nat) (ma pad : List Nat)
    (hh : hsn < 64) (hm : maio < 64) (h1 : 1 ≤ ma.length) (h2 : ma.length ≤ 64)
    (hu : ∀ a ∈ ma ++ pad, a < 65536) (hf : fn < 2715648) :
    ∃ v, Spec.Hopping.select ma hsn maio fn = some v ∧
      fwHop hsn maio ma.length (ma ++ pad) fn = .ok v := by
  obtain ⟨i, hi, hs, hp⟩ := fw_hop_closed hsn maio ma.length fn (ma ++ pad) hh (by omega) h1 h2
    (by simp only [List.length_append]; omega) hu hf gen_tables_eq_spec.2
  obtain ⟨j, hj, hlt⟩ := spec_mai_defined hsn maio ma.length fn hh h1
  have hij : i = j := by rw [hs] at hj; exact Option.some.inj hj
  subst hij
  refine ⟨ma[i], by simp only [Spec.Hopping.select, hs, List.getElem?_eq_getElem hlt], ?_⟩
  rw [hp, List.getElem_append_left hlt]

/-- **Simulator = firmware.** For the same `(HSN, MAIO, MA, FN)` the firmware selects the
ARFCN `v` and the simulator the entry `g v` of its own mobile allocation `MA.map g`
(`g` = ARFCN ↦ (Rx, Tx) frequency pair, or the identity): the same channel. -/
theorem py_eq_fw {α : Type} (g : Nat → α) (hsn maio fn : Nat) (ma pad : List Nat)
    (hh : hsn < 64) (hm : maio < 64) (h1 : 1 ≤ ma.length) (h2 : ma.length ≤ 64)
    (hu : ∀ a ∈ ma ++ pad, a < 65536) (hf : fn < 2715648) :
    ∃ v, fwHop hsn maio ma.length (ma ++ pad) fn = .ok v ∧
      pyResolve (hsn : Int) (maio : Int) (ma.map g) fn = .ok (g v) := by
  obtain ⟨v, hs, hfw⟩ := fw_hop_spec hsn maio fn ma pad hh hm h1 h2 hu hf
  obtain ⟨w, hs', hpy⟩ := py_resolve_spec hsn maio fn (ma.map g) hh
    (by simpa only [List.length_map] using h1) (by simpa only [List.length_map] using h2)
  refine ⟨v, hfw, ?_⟩
  rw [hpy]
  simp only [Spec.Hopping.select, List.length_map] at hs hs'
  obtain ⟨i, hi, _⟩ := spec_mai_defined hsn maio ma.length fn hh h1
  simp only [hi] at hs hs'
  rw [List.getElem?_map, hs] at hs'
  simp only [Option.map_some] at hs'
  rw [Option.some.inj hs']

/-- **Per-frame Rx/Tx frequency.** With hopping enabled, `get_rx_freq(fn)` / `get_tx_freq(fn)`
are the two components of the MA entry the standard selects. -/
theorem py_get_freq_spec (trx : Trx) (hsn maio fn : Nat) (ma : List (Int × Int))
    (hh : hsn < 64) (h1 : 1 ≤ ma.length) (h2 : ma.length ≤ 64) :
    ∃ trx' rx tx, trx.enableFh (hsn : Int) (maio : Int) ma = .ok trx' ∧
      Spec.Hopping.select ma hsn maio fn = some (rx, tx) ∧
      trx'.getRxFreq fn = .ok (some rx) ∧ trx'.getTxFreq fn = .ok (some tx) := by
  obtain ⟨⟨rx, tx⟩, hs, hp⟩ := py_resolve_spec hsn maio fn ma hh h1 h2
  have hn0 : ma.length ≠ 0 := by omega
  simp only [pyResolve, pyInit_ok hsn (maio : Int) ma hh hn0] at hp
  refine ⟨{ trx with fh := some { hsn := hsn, maio := maio, ma := ma, pnm := powNbinMask ma.length } },
    rx, tx, ?_, hs, ?_, ?_⟩
  · simp only [Trx.enableFh, pyInit_ok hsn (maio : Int) ma hh hn0]
  · simp only [Trx.getRxFreq, hp]
  · simp only [Trx.getTxFreq, hp]

/-- Without hopping the configured frequencies are returned unchanged. -/
theorem py_get_freq_nofh (trx : Trx) (fn : Nat) (h : trx.fh = none) :
    trx.getRxFreq fn = .ok trx.rxFreq ∧ trx.getTxFreq fn = .ok trx.txFreq := by
  simp only [Trx.getRxFreq, Trx.getTxFreq, h, and_self]

/-- **Histories on one transceiver.** Whatever was configured before (any sequence of `enable_fh` — successful or refused —
and `disable_fh` on the same object, without power-off in between), after a `SETFH` inside the property's domain every
look-up follows the standard for THESE parameters: nothing of an earlier configuration (mask, allocation length) survives. -/
theorem py_history_last_enable (trx : Trx) (ops : List FhOp) (hsn maio fn : Nat) (ma : List (Int × Int))
    (hh : hsn < 64) (h1 : 1 ≤ ma.length) (h2 : ma.length ≤ 64) :
    ∃ rx tx, Spec.Hopping.select ma hsn maio fn = some (rx, tx) ∧
      (trx.applyOps (ops ++ [.enable hsn maio ma])).getRxFreq fn = .ok (some rx) ∧
      (trx.applyOps (ops ++ [.enable hsn maio ma])).getTxFreq fn = .ok (some tx) := by
  obtain ⟨t', rx, tx, he, hs, hr, ht⟩ := py_get_freq_spec (trx.applyOps ops) hsn maio fn ma hh h1 h2
  refine ⟨rx, tx, hs, ?_, ?_⟩ <;>
    simp only [Trx.applyOps, List.foldl_append, List.foldl_cons, List.foldl_nil, Trx.applyOp] <;>
    simp only [Trx.applyOps] at he <;> rw [he] <;> assumption

/-- a refused `enable_fh` (parameters the constructor rejects) leaves the configuration in force untouched, and after
`disable_fh` the fixed frequencies are returned, whatever the history was -/
theorem py_history_refused_or_disabled (trx : Trx) (ops : List FhOp) (fn : Nat) :
    (∀ hsn maio ma e, (trx.applyOps ops).enableFh hsn maio ma = .error e →
      trx.applyOps (ops ++ [.enable hsn maio ma]) = trx.applyOps ops) ∧
    (trx.applyOps (ops ++ [.disable])).getRxFreq fn = .ok trx.rxFreq ∧
    (trx.applyOps (ops ++ [.disable])).getTxFreq fn = .ok trx.txFreq := by
  have hfix : ∀ (l : List FhOp) (t : Trx), (t.applyOps l).rxFreq = t.rxFreq ∧ (t.applyOps l).txFreq = t.txFreq := by
    intro l
    induction l with
    | nil => intro t; exact ⟨rfl, rfl⟩
    | cons o l ih =>
      intro t
      have h := ih (t.applyOp o)
      simp only [Trx.applyOps, List.foldl_cons] at h ⊢
      rw [h.1, h.2]
      cases o with
      | enable hsn maio ma =>
        simp only [Trx.applyOp, Trx.enableFh]
        split
        · rename_i t' he
          split at he
          · cases he
          · cases he; exact ⟨rfl, rfl⟩
        · exact ⟨rfl, rfl⟩
      | disable => exact ⟨rfl, rfl⟩
  refine ⟨?_, ?_, ?_⟩
  · intro hsn maio ma e he
    simp only [Trx.applyOps, List.foldl_append, List.foldl_cons, List.foldl_nil, Trx.applyOp]
    simp only [Trx.applyOps] at he
    rw [he]
  · have h := py_get_freq_nofh ((trx.applyOps ops).disableFh) fn rfl
    simp only [Trx.applyOps, List.foldl_append, List.foldl_cons, List.foldl_nil, Trx.applyOp]
    simp only [Trx.applyOps] at h
    rw [h.1]
    exact congrArg _ (hfix ops trx).1
  · have h := py_get_freq_nofh ((trx.applyOps ops).disableFh) fn rfl
    simp only [Trx.applyOps, List.foldl_append, List.foldl_cons, List.foldl_nil, Trx.applyOp]
    simp only [Trx.applyOps] at h
    rw [h.2]
    exact congrArg _ (hfix ops trx).2

/-- non-vacuity: 6 channels (NBIN 3) re-configured to 3 channels (NBIN 2) without power-off; the look-up uses the new mask -/
example :
    ((({ fh := none, rxFreq := none, txFreq := none } : Trx).applyOps
      [.enable 1 0 [(1, 11), (2, 12), (3, 13), (4, 14), (5, 15), (6, 16)], .enable 1 3 [(10, 20), (11, 21), (12, 22)]]).getRxFreq 2330631)
      = .ok (some 11) := by
  decide +kernel

/-! ### Non-vacuity and the shape of the deviation branch -/

/-- An instance inside the hypotheses where `M' ≥ N`, so `S = (M' + T') mod N` is used
(`HSN = 1, MAIO = 3, N = 3, FN = 2330631`: `T1R = 29, T2 = 17, T3 = 33, M = 75, M' = 3, T' = 1`,
`S = 1`, `MAI = 1`); simulator and firmware select `MA[1]`. -/
example :
    Spec.Hopping.sOf (1 ^^^ Spec.Hopping.t1r 2330631) 17 33 3 = some 1 ∧
    ¬ ((17 + 58) % 2 ^ Spec.Hopping.nbin 3 < 3) ∧
    Spec.Hopping.mai 1 3 3 2330631 = some 1 ∧
    pyResolve 1 3 [10, 11, 12] 2330631 = .ok 11 ∧
    fwHop 1 3 3 ([10, 11, 12] ++ List.replicate 61 0) 2330631 = .ok 11 := by
  decide +kernel

/-- Observation F1: the expression `((mp + t3) & pnm) % n` (mask applied to the sum) differs from the
standard's `(mp + (t3 & pnm)) % n` on that instance. -/
example : ((3 + 33) &&& powNbinMask 3) % 3 = 0 ∧ (3 + (33 &&& powNbinMask 3)) % 3 = 1 := by
  decide

/-- Cyclic hopping and HSN 63 with the largest allocation, the last frame of the hyperframe,
16-bit ARFCNs (above `INT16_MAX`, so the `int16_t` return value of `rfch_hop_seq_gen` wraps and
the store to `uint16_t` restores it). -/
example :
    Spec.Hopping.mai 0 63 64 2715647 = some 62 ∧
    fwHop 0 63 64 ((List.range 64).map (· + 65472)) 2715647 = .ok 65534 ∧
    Spec.Hopping.mai 63 63 64 2715647 = some 33 ∧
    fwHop 63 63 64 ((List.range 64).map (· + 65472)) 2715647 = .ok 65505 ∧
    pyResolve 63 63 ((List.range 64).map (· + 65472)) 2715647 = .ok 65505 := by
  decide +kernel

/-- Outside the property's domain the models keep the real failure modes: the constructor
rejects HSN 64 and negative HSN (`ValueError`); `resolve` on an object whose `hsn` was set to 64
behind the constructor's back addresses the table beyond entry 113 (`IndexError`), a negative
`hsn` would index the Python list from its end; a negative MAIO is reduced by floor-mod; in the
firmware HSN 64 reads `rn_table[114]`, `n = 0` divides by zero, `n = 65` leaves `ma[64]`. -/
example :
    pyResolve 64 0 [10, 11, 12] 50 = .error .ValueError ∧
    pyResolve (-1) 0 [10, 11, 12] 0 = .error .ValueError ∧
    (HoppingParams.mk 64 0 [10, 11, 12] 3).resolve 50 = .error .IndexError ∧
    (HoppingParams.mk (-1) 0 [10, 11, 12] 3).resolve 0 = .ok 10 ∧
    pyResolve 1 (-1) [10, 11, 12] 0 = .ok 11 ∧
    fwHop 64 0 3 [10, 11, 12] 50 = .error (.oobRnTable 114) ∧
    fwHop 5 0 0 [10, 11, 12] 0 = .error .divZero ∧
    fwHop 5 0 65 (List.replicate 64 7) 35 = .error (.oobMa 64) := by
  decide +kernel

/-! ### Periods of the hopping sequence -/

/-- Cyclic hopping (HSN = 0) really is cyclic: the index advances by one per frame modulo N, so it repeats
every N frames and any N consecutive frames visit N different channels of the mobile allocation. -/
theorem spec_cyclic (maio n fn : Nat) (hn : 1 ≤ n) :
    Spec.Hopping.mai 0 maio n (fn + 1) = (Spec.Hopping.mai 0 maio n fn).map (fun i => (i + 1) % n) ∧
    Spec.Hopping.mai 0 maio n (fn + n) = Spec.Hopping.mai 0 maio n fn ∧
    (∀ j k, j < n → k < n → Spec.Hopping.mai 0 maio n (fn + j) = Spec.Hopping.mai 0 maio n (fn + k) → j = k) := by
  have hn0 : ¬ n = 0 := by omega
  simp only [Spec.Hopping.mai, hn0, if_false, if_true, Option.map_some, Option.some.injEq]
  refine ⟨?_, ?_, ?_⟩
  · rw [show fn + 1 + maio = fn + maio + 1 by omega, Nat.add_mod (fn + maio) 1 n, Nat.add_mod ((fn + maio) % n) 1 n,
      Nat.mod_mod]
  · rw [show fn + n + maio = fn + maio + n by omega, Nat.add_mod_right]
  · intro j k hj hk h
    have e1 : fn + j + maio = (fn + maio) + j := by omega
    have e2 : fn + k + maio = (fn + maio) + k := by omega
    rw [e1, e2] at h
    exact add_mod_inj (fn + maio) j k n hj hk h

/-- Pseudo-random hopping depends on the frame number only through T1R, T2, T3: the sequence repeats
every 64 superframes (64·26·51 = 84864 frames), for every HSN ≠ 0, MAIO and N. -/
theorem spec_hop_period (hsn maio n fn : Nat) (hh : hsn ≠ 0) :
    Spec.Hopping.mai hsn maio n (fn + 84864) = Spec.Hopping.mai hsn maio n fn := by
  have e1 : Spec.Hopping.t1r (fn + 84864) = Spec.Hopping.t1r fn := by
    simp only [Spec.Hopping.t1r, Spec.Hopping.t1]; omega
  have e2 : Spec.Hopping.t2 (fn + 84864) = Spec.Hopping.t2 fn := by
    simp only [Spec.Hopping.t2]; omega
  have e3 : Spec.Hopping.t3 (fn + 84864) = Spec.Hopping.t3 fn := by
    simp only [Spec.Hopping.t3]; omega
  simp only [Spec.Hopping.mai, hh, if_false, e1, e2, e3]

/-- The periods carried over to the simulator's code model: `resolve(fn + 84864) = resolve(fn)` for
pseudo-random hopping, `resolve(fn + N) = resolve(fn)` for cyclic hopping — for every frame number. -/
theorem py_resolve_period {α : Type} (hsn maio fn : Nat) (ma : List α)
    (hh : hsn < 64) (h1 : 1 ≤ ma.length) (h2 : ma.length ≤ 64) :
    pyResolve (hsn : Int) (maio : Int) ma (fn + (if hsn = 0 then ma.length else 84864)) =
      pyResolve (hsn : Int) (maio : Int) ma fn := by
  obtain ⟨v, hv, hp⟩ := py_resolve_spec hsn maio fn ma hh h1 h2
  obtain ⟨v', hv', hp'⟩ := py_resolve_spec hsn maio (fn + (if hsn = 0 then ma.length else 84864)) ma hh h1 h2
  have : Spec.Hopping.select ma hsn maio (fn + (if hsn = 0 then ma.length else 84864)) =
      Spec.Hopping.select ma hsn maio fn := by
    simp only [Spec.Hopping.select]
    by_cases h0 : hsn = 0
    · subst h0; simp only [if_true, (spec_cyclic maio ma.length fn h1).2.1]
    · simp only [h0, if_false, spec_hop_period hsn maio ma.length fn h0]
  rw [this, hv] at hv'
  rw [hp, hp', Option.some.inj hv']

end OsmoVerif.Props.C07
