/-
C11 — Firmware and trxcon agree on the multiframe mapping of every logical channel.
Property theorems only.  Models: `OsmoVerif.Model.Mframe`; Spec (the channel
correspondence): `OsmoVerif.Spec.Mframe`; predicates, Boolean checkers and what a passed
check says of one table row: `OsmoVerif.Lemmas.Mframe`; tables: `Gen/FwMframe.lean`,
`Gen/TrxconMframe.lean` (regenerated from the tree on every run).

The checkers are evaluated over the regenerated tables at the end of `Lemmas/Mframe.lean`
(`decide +kernel`); the theorems here lift the results to all frame numbers.
-/
import OsmoVerif.Lemmas.Mframe

namespace OsmoVerif.Props.C11
open OsmoVerif OsmoVerif.Mframe OsmoVerif.Gen OsmoVerif.Gen.FwMframe OsmoVerif.Gen.TrxconMframe
open OsmoVerif.Spec.Mframe

/-! ## the firmware trigger -/

/-- `mframe_schedule_set` fires a row at tick `fn` exactly when the frame `SCHEDULE_AHEAD`
    ticks ahead is congruent to the row's `frame_nr` modulo the row's `modulo`
    (for every tick whose sum does not wrap the `uint32_t`, i.e. every valid FN). -/
theorem trigger_model (it : Item) (fn : Nat) (_hm : it.modulo ≠ 0)
    (hfn : fn + SCHEDULE_AHEAD < 4294967296) :
    (fires it fn = true ↔ (fn + SCHEDULE_AHEAD) % it.modulo = it.frameNr % it.modulo) ∧
    (fires it fn = true ↔ ∃ k, fn + SCHEDULE_AHEAD = it.frameNr % it.modulo + k * it.modulo) := by
  have e : u32 (fn + SCHEDULE_AHEAD) = fn + SCHEDULE_AHEAD := Nat.mod_eq_of_lt hfn
  have h1 : fires it fn = true ↔ (fn + SCHEDULE_AHEAD) % it.modulo = it.frameNr % it.modulo := by
    simp only [fires, e, beq_iff_eq]
  refine ⟨h1, h1.trans ⟨fun h => ?_, fun ⟨k, hk⟩ => ?_⟩⟩
  · refine ⟨(fn + SCHEDULE_AHEAD) / it.modulo, ?_⟩
    rw [← h, Nat.mul_comm]
    exact (Nat.mod_add_div _ _).symm
  · rw [hk, Nat.add_mul_mod_self_right, Nat.mod_mod]

/-- The set is handed to the TDMA scheduler with offset `SCHEDULE_AHEAD − SCHEDULE_LATENCY`
    and the DSP executes a command one frame after it was given (`dspLatency`), so the
    first burst of the set is on the air in frame `fn + SCHEDULE_AHEAD` – the frame the
    trigger compares with the row's `frame_nr`.  (Holds for any look-ahead as long as
    `SCHEDULE_LATENCY` is the DSP's latency.) -/
theorem trigger_air_frame :
    frameOffset + dspLatency = SCHEDULE_AHEAD ∧ ∀ fn, airFrame fn = fn + SCHEDULE_AHEAD :=
  ⟨by decide, airFrame_eq⟩

/-- What `mframe_schedule_set` hands to the TDMA scheduler at a tick: one call per
    triggering row, in table order, nothing else. -/
theorem schedule_items_events (taskId fn : Nat) (items : List Item) (evs : List Event)
    (h : scheduleItems taskId fn items = .ok evs) :
    evs = (items.filter fun it => fires it fn).map (eventOf taskId) := by
  rw [scheduleItems_eq] at h
  split at h
  · exact (Except.ok.inj h).symm
  · cases h

/-! ## the layouts on their own -/

/-- No frame lookup of any frame number leaves the table: every layout except `NONE`
    (note N15: period 0, frames NULL, never configured by the callers) has a positive
    period and a table of exactly `period` rows, so `frames[fn % period]` is a row of the
    table for ALL `fn`. -/
theorem lookup_in_table : ∀ L ∈ layouts, L.config ≠ .NONE →
    0 < L.period ∧ (∃ fr, L.frames = some fr ∧ fr.length = L.period) ∧
    ∀ fn, ∃ f, lookup L fn = .ok f := by
  intro L hL hn
  obtain ⟨hp, fr, hf, hl, hlk⟩ := tableOk_lookup (real_tableOk hL hn)
  exact ⟨hp, ⟨fr, hf, hl⟩, fun fn => ⟨_, (hlk fn).2⟩⟩

/-- … and the lookup is periodic (so one period decides all frame numbers) -/
theorem lookup_periodic (L : Layout) (fn k : Nat) : lookup L (fn + k * L.period) = lookup L fn :=
  lookup_congr L _ _ (Nat.add_mul_mod_self_right _ _ _)

/-- the `NONE` layout really is the excluded one: a lookup in it divides by zero -/
theorem none_layout_excluded : ∀ L ∈ layouts, L.config = .NONE →
    ∀ fn, lookup L fn = .error .divByZero := by
  have h : (layouts.filter fun L => L.config == .NONE).all (fun L => L.period == 0) = true := by
    decide +kernel
  intro L hL hc fn
  have := (List.all_eq_true.1 h) L (by simp only [List.mem_filter, beq_iff_eq]; exact ⟨hL, hc⟩)
  simp only [beq_iff_eq] at this
  simp only [lookup, this, if_true]

/-- Inside every layout the frames owned by a block channel carry burst ids `0,1,2,3`
    (`0,1` for TCH/H) in cyclic order, per direction and for ALL frame numbers: if frame
    numbers `fn` and `fn + k` are two consecutive frames of block channel `c` in direction
    `d` (no frame of `c` in between), then the burst id at `fn` is below the block length
    `n` and the burst id at `fn + k` is its successor modulo `n`. -/
theorem bids_cyclic : ∀ L ∈ layouts, L.config ≠ .NONE → ∀ (d : Dir) (fn k : Nat) (f g : Frame)
    (n : Nat), 0 < k → lookup L fn = .ok f → lookup L (fn + k) = .ok g →
    (chanOf d g).1 = (chanOf d f).1 → blockLen (chanOf d f).1 = some n →
    (∀ j, 0 < j → j < k → ∀ h, lookup L (fn + j) = .ok h → (chanOf d h).1 ≠ (chanOf d f).1) →
    (chanOf d f).2 < n ∧ (chanOf d g).2 = ((chanOf d f).2 + 1) % n := by
  intro L hL hne d fn k f g n hk hf hg hc hn hbetween
  have ht := real_tableOk hL hne
  have hb := List.all_eq_true.1 layouts_bids_ok L hL
  obtain ⟨hp, fr, hfr, hl, row⟩ := tableOk_lookup ht
  -- a whole period without a frame of the channel is impossible: `fn + period` has one
  have hkP : k ≤ L.period := Nat.le_of_not_lt fun h =>
    hbetween L.period hp h f (by rw [← hf]; simpa using lookup_periodic L fn 1) rfl
  obtain ⟨hr, hfrow⟩ := row fn
  rw [hf] at hfrow
  cases hfrow
  simp only [bidsCheck, hfr, Bool.and_eq_true] at hb
  have hwalk : bidsWalk d fr fr = true := by
    cases d
    · exact hb.1
    · exact hb.2
  have hstep := bidsWalk_get d fr fr hwalk (fn % L.period) hr
  -- row `j` of "later" is the frame of frame number `fn + 1 + j`
  have hel : ∀ j, j < L.period → ∀ h, lookup L (fn + 1 + j) = .ok h →
      (fr.drop (fn % L.period + 1) ++ fr)[j]? = some h := by
    intro j hj h hh
    obtain ⟨hlt, hrow⟩ := row (fn + 1 + j)
    rw [hh] at hrow
    cases hrow
    rw [getElem?_drop_append_self fr _ j hr (hl ▸ hj), hl, Nat.add_assoc (fn % L.period),
      Nat.mod_add_mod, ← Nat.add_assoc, List.getElem?_eq_getElem hlt]
  have hk1 : k - 1 < L.period := Nat.lt_of_lt_of_le (Nat.sub_one_lt (Nat.ne_of_gt hk)) hkP
  have hnb := nextHas_first d _ (((chanOf d fr[fn % L.period]).2 + 1) % n) _ (k - 1) g
    (hel (k - 1) hk1 g (by rw [Nat.add_assoc, Nat.add_sub_cancel' hk]; exact hg)) hc
    fun i hi h hh => by
      obtain ⟨_, hrow⟩ := row (fn + 1 + i)
      rw [hel i (Nat.lt_trans hi hk1) _ hrow] at hh
      cases hh
      exact hbetween (1 + i) (Nat.add_comm 1 i ▸ Nat.succ_pos i) (Nat.add_lt_of_lt_sub' hi) _
        (by rw [← Nat.add_assoc]; exact hrow)
  simp only [bidStepOk, hn, Bool.and_eq_true, Nat.blt_eq, hnb] at hstep
  exact ⟨hstep.1, Nat.eq_of_beq_eq_true hstep.2⟩

/-- Every channel used by a frame – for any frame number – is contained in the layout's
    channel mask (IDLE, which needs no channel state, excepted). -/
theorem chans_in_mask : ∀ L ∈ layouts, L.config ≠ .NONE → ∀ fn f, lookup L fn = .ok f →
    (f.dlChan ≠ .IDLE → L.lchanMask.testBit f.dlChan.val = true) ∧
    (f.ulChan ≠ .IDLE → L.lchanMask.testBit f.ulChan.val = true) :=
  fun _ hL _ _ _ hlk =>
    ⟨fun h => (row_ok hL hlk).1.1.resolve_left h, fun h => (row_ok hL hlk).1.2.resolve_left h⟩

/-! ## `l1sched_mframe_layout` -/

/-- For every channel-combination value and every timeslot the lookup returns an entry
    of `layouts[]` of that combination whose slot mask contains the timeslot, or there
    is no such entry in the table. -/
theorem layout_lookup_valid (config tn : Nat) (_htn : tn < 8) :
    match layoutForVal config tn with
    | some L => L ∈ layouts ∧ L.config.val = config ∧ L.slotmask.testBit tn = true
    | none => ∀ L ∈ layouts, ¬ (L.config.val = config ∧ L.slotmask.testBit tn = true) := by
  cases h : layoutForVal config tn with
  | some L => exact layoutForVal_some h
  | none => exact layoutForVal_none h

/-- … and for every channel combination that occurs in `layouts[]` and every timeslot
    0..7 the lookup does return a layout (valid for that timeslot by the previous theorem). -/
theorem layout_lookup_total : ∀ L ∈ layouts, ∀ tn, tn < 8 →
    ∃ L', layoutFor L.config tn = some L' ∧ L'.config = L.config ∧ L'.slotmask.testBit tn = true := by
  intro L hL tn htn
  have h := (List.all_eq_true.1 ((List.all_eq_true.1 layouts_total_check) L hL)) tn
    (by simp only [allTn, List.mem_cons, List.mem_nil_iff, or_false]; omega)
  obtain ⟨L', hL', hc⟩ := (Option.any_eq_true _ _).1 h
  exact ⟨L', hL', beq_iff_eq.1 hc, (layoutForVal_some hL').2.2⟩

/-! ## block starts and per-frame ownership -/

/-- Every pairing of the Spec table holds at every tick: the task has a table, every
    valid timeslot has a layout, and for every direction and every frame number the
    firmware fires a row of the channel (of its SACCH) exactly when the layout's frame
    `fn + SCHEDULE_AHEAD` shows the channel (its SACCH) – as first burst of a block for
    block channels, as owner of the frame for TCH traffic and SACCH/T. -/
theorem mapping_agrees : ∀ e ∈ table, EntryAgrees e := by
  intro e he
  obtain ⟨items, hit, hall⟩ := entry_agrees he
  refine ⟨items, hit, fun tn htn => ?_⟩
  obtain ⟨L, hL, _, hag⟩ := hall tn htn
  exact ⟨L, hL, hag⟩

/-- **Block channels** (BCCH, CCCH plain and combined, SDCCH/4 and SDCCH/8 sub-channels
    and their SACCHs, CBCH, PDTCH): for every task, direction, valid timeslot and frame
    number, the firmware starts a Downlink/Uplink block whose first burst is in frame
    `airFrame fn` exactly when trxcon's layout marks that frame as burst 0 of the mapped
    channel in the same direction; the same for the SACCH rows and the SACCH channel; and
    a task without SACCH in the Spec never fires a SACCH row. -/
theorem block_starts_agree :
    ∀ e ∈ table, e.kind = .block → ∃ items, tableOf e.task = some items ∧
      ∀ tn ∈ e.tns, ∃ L, layoutFor e.config tn = some L ∧ ∀ d ∈ e.dirs, ∀ fn,
        fn + SCHEDULE_AHEAD < 4294967296 →
        (FwStartsBlock items d false fn ↔ LayoutFirstBurst L d e.main (airFrame fn)) ∧
        (∀ sc, e.sacch = some sc →
          (FwStartsBlock items d true fn ↔ LayoutFirstBurst L d sc (airFrame fn))) ∧
        (e.sacch = none → ¬ FwStartsBlock items d true fn) := by
  intro e he hk
  obtain ⟨items, hit, hall⟩ := mapping_agrees e he
  refine ⟨items, hit, fun tn htn => ?_⟩
  obtain ⟨L, hL, hag⟩ := hall tn htn
  refine ⟨L, hL, fun d hd fn hfn => ?_⟩
  have h := hag d hd fn hfn
  obtain ⟨fr, hlk, hm, hs⟩ := agreeAt_iff h
  rw [hk] at hm hs
  refine ⟨by rw [hm, firstBurst_iff hlk], fun sc hsc => by rw [hs, hsc, firstBurst_iff hlk],
    fun hsn hc => ?_⟩
  rw [hsn] at hs
  exact absurd (hs.1 hc) (by simp [frameMarks])

/-- **TCH/F, TCH/H traffic and their SACCH** (scheduled frame by frame): for every task
    (TCH/F even/odd ↔ timeslot parity, TCH/H ↔ sub-channel), direction, valid timeslot and
    frame number, the firmware schedules a traffic row (a SACCH row) for air frame
    `airFrame fn` exactly when trxcon's layout gives that frame to the traffic channel
    (the SACCH channel) – so the frames owned modulo 26 (modulo 104) are equal. -/
theorem tch_frames_agree :
    ∀ e ∈ table, e.kind = .perFrame → ∃ items, tableOf e.task = some items ∧
      ∀ tn ∈ e.tns, ∃ L, layoutFor e.config tn = some L ∧ ∀ d ∈ e.dirs, ∀ fn,
        fn + SCHEDULE_AHEAD < 4294967296 →
        (FwStartsBlock items d false fn ↔ LayoutOwns L d e.main (airFrame fn)) ∧
        (∀ sc, e.sacch = some sc →
          (FwStartsBlock items d true fn ↔ LayoutOwns L d sc (airFrame fn))) := by
  intro e he hk
  obtain ⟨items, hit, hall⟩ := mapping_agrees e he
  refine ⟨items, hit, fun tn htn => ?_⟩
  obtain ⟨L, hL, hag⟩ := hall tn htn
  refine ⟨L, hL, fun d hd fn hfn => ?_⟩
  have h := hag d hd fn hfn
  obtain ⟨fr, hlk, hm, hs⟩ := agreeAt_iff h
  rw [hk] at hm hs
  exact ⟨by rw [hm, owns_iff hlk], fun sc hsc => by rw [hs, hsc, owns_iff hlk]⟩

/-! ## the same, as sets of frames modulo the multiframe period -/

/-- **Block channels, as the property words it**: for every task, valid timeslot and
    direction, the set of frames modulo the multiframe period in which the firmware starts
    a block (of the channel; of its SACCH) is exactly the set of rows `r` that trxcon's
    layout marks as burst 0 of the mapped channel in that direction. -/
theorem block_start_residues_agree :
    ∀ e ∈ table, e.kind = .block → ∃ items, tableOf e.task = some items ∧
      ∀ tn ∈ e.tns, ∃ L, layoutFor e.config tn = some L ∧ ∀ d ∈ e.dirs, ∀ r, r < L.period →
        ((∃ fn, fn + SCHEDULE_AHEAD < 4294967296 ∧ FwStartsBlock items d false fn ∧
            airFrame fn % L.period = r) ↔ LayoutFirstBurst L d e.main r) ∧
        (∀ sc, e.sacch = some sc →
          ((∃ fn, fn + SCHEDULE_AHEAD < 4294967296 ∧ FwStartsBlock items d true fn ∧
              airFrame fn % L.period = r) ↔ LayoutFirstBurst L d sc r)) := by
  intro e he hk
  obtain ⟨items, hit, hall⟩ := block_starts_agree e he hk
  refine ⟨items, hit, fun tn htn => ?_⟩
  obtain ⟨L, hL, hag⟩ := hall tn htn
  obtain ⟨hA, hb⟩ := entry_layout_period he htn hL
  refine ⟨L, hL, fun d hd r hr => ⟨?_, fun sc hsc => ?_⟩⟩
  · exact residues_of_pointwise L hA hb _ _ (firstBurst_congr L d e.main)
      (fun fn hfn => (hag d hd fn hfn).1) r hr
  · exact residues_of_pointwise L hA hb _ _ (firstBurst_congr L d sc)
      (fun fn hfn => (hag d hd fn hfn).2.1 sc hsc) r hr

/-- **TCH/F, TCH/H traffic and SACCH/T, as sets**: the frames modulo the layout period
    (104 = 4 × 26) for which the firmware schedules a traffic row (a SACCH row) are exactly
    the rows the layout gives to the traffic channel (the SACCH channel). -/
theorem tch_frame_residues_agree :
    ∀ e ∈ table, e.kind = .perFrame → ∃ items, tableOf e.task = some items ∧
      ∀ tn ∈ e.tns, ∃ L, layoutFor e.config tn = some L ∧ ∀ d ∈ e.dirs, ∀ r, r < L.period →
        ((∃ fn, fn + SCHEDULE_AHEAD < 4294967296 ∧ FwStartsBlock items d false fn ∧
            airFrame fn % L.period = r) ↔ LayoutOwns L d e.main r) ∧
        (∀ sc, e.sacch = some sc →
          ((∃ fn, fn + SCHEDULE_AHEAD < 4294967296 ∧ FwStartsBlock items d true fn ∧
              airFrame fn % L.period = r) ↔ LayoutOwns L d sc r)) := by
  intro e he hk
  obtain ⟨items, hit, hall⟩ := tch_frames_agree e he hk
  refine ⟨items, hit, fun tn htn => ?_⟩
  obtain ⟨L, hL, hag⟩ := hall tn htn
  obtain ⟨hA, hb⟩ := entry_layout_period he htn hL
  refine ⟨L, hL, fun d hd r hr => ⟨?_, fun sc hsc => ?_⟩⟩
  · exact residues_of_pointwise L hA hb _ _ (owns_congr L d e.main)
      (fun fn hfn => (hag d hd fn hfn).1) r hr
  · exact residues_of_pointwise L hA hb _ _ (owns_congr L d sc)
      (fun fn hfn => (hag d hd fn hfn).2 sc hsc) r hr

/-! ## the Spec table leaves nothing out -/

/-- Every channel of every frame of every layout – for any frame number – is paired
    with a firmware task by the Spec table (same combination, direction, every timeslot
    of the slot mask), unless no firmware multiframe task implements it: IDLE, FCCH, SCH,
    RACH, PTCCH, and PDTCH on the Uplink. -/
theorem spec_covers_layouts : ∀ L ∈ layouts, L.config ≠ .NONE → ∀ fn f, lookup L fn = .ok f →
    ∀ d, notInFirmware (chanOf d f).1 = true ∨ (d = .ul ∧ (chanOf d f).1 = .PDTCH) ∨
      ∃ e ∈ table, e.config = L.config ∧ (e.main = (chanOf d f).1 ∨ e.sacch = some (chanOf d f).1) ∧
        d ∈ e.dirs ∧ ∀ tn, tn < 8 → L.slotmask.testBit tn = true → tn ∈ e.tns := by
  intro L hL _ fn f hf d
  have h := List.all_eq_true.1 layouts_cover_check L hL
  obtain ⟨fr, hfr, hm⟩ := lookup_mem hf
  simp only [coverCheck, hfr, Bool.and_eq_true] at h
  have hw : coverWalk L (table.filter fun e => e.config == L.config) d .IDLE fr = true := by
    cases d
    · exact h.1
    · exact h.2
  have := coverWalk_mem L _ d .IDLE fr rfl hw f hm
  simp only [covered, Bool.or_eq_true, Bool.and_eq_true, beq_iff_eq, List.any_eq_true, sameChan_iff,
    Option.any_eq_true, exists_eq_right', List.mem_filter, List.all_eq_true, decide_eq_true_eq] at this
  rcases this with (h | h) | ⟨e, ⟨he, hcfg⟩, ⟨h3, h4⟩, h5⟩
  · exact Or.inl h
  · exact Or.inr (Or.inl h)
  · refine Or.inr (Or.inr ⟨e, he, hcfg, h3, h4, fun tn htn hb => h5 tn ?_⟩)
    simp only [maskTns, List.mem_filter, allTn, List.mem_cons, List.mem_nil_iff, or_false]
    exact ⟨by omega, hb⟩

/-- The Spec table compares a channel on the Downlink only for BCCH, CCCH, the two CBCHs
    and PDTCH.  The first four are used on the Uplink by no frame of any layout, so no
    direction of them is left out; PDTCH Uplink is the one direction left out (trxcon
    transmits on it, the firmware's `mf_gprs_pdtch` is a receive-only task). -/
theorem dl_only_channels_have_no_uplink :
    (∀ e ∈ table, Dir.ul ∈ e.dirs ∨ e.main = .PDTCH ∨ (e.main ∈ dlOnlyChans ∧ e.sacch = none)) ∧
    ∀ L ∈ layouts, L.config ≠ .NONE → ∀ fn f, lookup L fn = .ok f → f.ulChan ∉ dlOnlyChans := by
  have h1 : dlOnlyListCheck = true := by decide +kernel
  refine ⟨fun e he => ?_, fun L hL _ fn f hlk => ?_⟩
  · simpa only [Bool.or_eq_true, Bool.and_eq_true, decide_eq_true_eq, beq_iff_eq,
      List.contains_iff_mem, or_assoc] using List.all_eq_true.1 h1 e he
  · exact (row_ok hL hlk).2

/-- Every firmware task is in the Spec table unless it has no logical channel in trxcon
    (extended BCCH, the empty PTCCH task, neighbour measurement, the TX test task). -/
theorem spec_covers_tasks : ∀ t : Task, notInTrxcon t = true ∨ ∃ e ∈ table, e.task = t := by
  intro t
  have h : (Task.all.all fun t => notInTrxcon t || table.any fun e => e.task == t) = true := by
    decide +kernel
  have hall : t ∈ Task.all := by
    have hlist : Task.all = (List.range 29).map Task.ofNat := by decide +kernel
    have hlt : t.ctorIdx < 29 := by cases t <;> decide
    rw [hlist]
    exact List.mem_map.2 ⟨t.ctorIdx, List.mem_range.2 hlt, Task.ofNat_ctorIdx t⟩
  simpa only [Bool.or_eq_true, List.any_eq_true, beq_iff_eq] using List.all_eq_true.1 h t hall

/-! ## non-vacuity -/

/-- the hypotheses are met by non-trivial values: SDCCH/4(0) in the combined CCCH has a
    table and a layout, its Uplink block starts in frame 37 and its Uplink SACCH block in
    frame 57 of the 102-multiframe (`SCHEDULE_AHEAD` ticks earlier), and not one frame later. -/
example : (⟨.SDCCH4_0, .CCCH_SDCCH4, allTn, .SDCCH4_0, some .SACCH4_0, DU, .block⟩ : Entry) ∈ table ∧
    (match tableOf .SDCCH4_0 with
     | none => false
     | some items =>
       fwMarks items .ul false (37 - SCHEDULE_AHEAD) && fwMarks items .ul true (57 - SCHEDULE_AHEAD) &&
       !fwMarks items .ul false (38 - SCHEDULE_AHEAD) && !fwMarks items .ul true (37 - SCHEDULE_AHEAD)) = true ∧
    (layoutFor .CCCH_SDCCH4 0).isSome = true ∧ (35 + SCHEDULE_AHEAD < 4294967296) := by
  refine ⟨List.mem_of_getElem? (i := 6) rfl, ?_, ?_, ?_⟩ <;> decide +kernel

example : (match layoutFor .CCCH 0 with
    | some L => (match lookup L 10607 with | .ok f => f == ⟨.IDLE, 0, .RACH, 0⟩ | _ => false)
    | none => false) = true := by decide +kernel

end OsmoVerif.Props.C11
