/-
C08, part "gsmtime" — one-shot scheduling of an item set at an absolute GSM frame number
(src/target/firmware/layer1/sched_gsmtime.c) on top of the TDMA scheduler.

Property theorems only.  Model: `OsmoVerif.Model.SchedGsmtime` (sched_gsmtime.c statement by statement; the
`tdma_schedule_set` it calls is `OsmoVerif.TdmaSched.scheduleSet` of `Model/TdmaSched.lean`), lemmas:
`OsmoVerif.Lemmas.SchedGsmtime`, `OsmoVerif.Lemmas.SchedGsmtimeTdma`.

Reading guide
* `GInv g`          : every element of `sched_gsmtime_events[16]` is linked into exactly one of `active_evts` /
                      `inactive_evts`, and `active_evts` is sorted by `fn` (non-decreasing).  Decidable; holds after
                      `sched_gsmtime_init()` (`init_inv`) and is preserved by every operation (`pool_invariant`).
* an event          : `Event` = the `struct sched_gsmtime_event` linked into a list; its identity while it is pending
                      is `slot`, the array element it occupies.  A `Call` records one `tdma_schedule_set` call made by
                      `sched_gsmtime_execute` together with the slot of the event it was made for.
* `target fn`       : `fn_sched = (fn + SCHEDULE_AHEAD) % GSM_MAX_FN`, the sum in 32 bit unsigned:
                      `((fn mod 2^32 + 2) mod 2^32) mod 2715648`; `(fn + 2) mod 2715648` for `fn < GSM_MAX_FN`.
* a frame interrupt : `l1Sync` = requests `pre`; `tdma_sched_execute()`; requests `mid` (`mframe_schedule()`);
                      `sched_gsmtime_execute(fn)`; `tdma_sched_advance()` — the order of `l1_sync()` in layer1/sync.c.
                      `runFrames` = consecutive frame interrupts.  Requests are `sched_gsmtime()` / `tdma_schedule*()`
                      calls (`FrameNoGexec`, resp. admissible ones that do not schedule the observed item:
                      `FrameTraffic`); `sched_gsmtime()` is never called from inside `sched_gsmtime_execute()`.
* callbacks         : `Env` (of `Model/TdmaSched.lean`) says what a callback returns and which scheduler calls it makes
                      from inside `tdma_sched_execute()`.  The statements about sched_gsmtime.c alone hold for every
                      `Env`; `frames_safe` needs the calls made from inside to be admissible (`EnvOk env`); the composed
                      statements `event_set_runs_at` / `event_set_runs_in_frame` assume that callbacks make no such calls
                      (`NoReentry env`, explicit hypothesis).
* frame arithmetic  : an event for frame `F` is handed over by `sched_gsmtime_execute((F - 2) mod GSM_MAX_FN)` with frame offset
                      `SCHEDULE_AHEAD - SCHEDULE_LATENCY = 1`; the scheduler advances at the end of that interrupt, so
                      the k-th frame of its item set runs in the `tdma_sched_execute()` of frame `F - 1 + k`
                      (`F - SCHEDULE_LATENCY` for k = 0), all frame numbers modulo `GSM_MAX_FN`.
-/
import OsmoVerif.Lemmas.SchedGsmtimeTdma

set_option linter.unusedVariables false

namespace OsmoVerif.Props.C08Gsmtime
open OsmoVerif OsmoVerif.SchedGsmtime
open OsmoVerif.TdmaSched (Item Sched Env u16 Cb abs ranCount framesOf markers EnvOk NoReentry)
open OsmoVerif.Spec.TdmaSched (AItem At)

/-- The constants of the current tree, as the C compiler sees them: 16 event slots, `SCHEDULE_AHEAD = 2`,
`SCHEDULE_LATENCY = 1`, the frame offset argument `(uint8_t)(2 - 1) = 1` (also as the model computes it),
`EBUSY = 16`, `uint32_t fn`, `uint16_t p3`, `fn + SCHEDULE_AHEAD` and its reduction modulo `GSM_MAX_FN` computed in
32 bit unsigned, `GSM_MAX_FN = 2715648`, and the function types the model assumes. -/
theorem gen_consts :
    Gen.sgNumEvents = 16 ∧ Gen.sgScheduleAhead = 2 ∧ Gen.sgScheduleLatency = 1 ∧ Gen.sgFrameOffset = 1 ∧
    frameOffset = Gen.sgFrameOffset ∧ Gen.sgEBUSY = 16 ∧ eBusy = -16 ∧
    Gen.sgWidth_fn = (32, false) ∧ Gen.sgWidth_p3 = (16, false) ∧ Gen.sgWidth_sum = (32, false) ∧
    Gen.sgWidth_mod = (32, false) ∧
    Gen.sgGsmMaxFn = 2715648 ∧ Gen.sgSignatures = (true, true) := by
  repeat' apply And.intro
  all_goals decide

/-! ### the pool and the sorted list -/

/-- After `sched_gsmtime_init()`: the invariant holds, nothing is pending, all 16 slots are free. -/
theorem init_inv : GInv init ∧ init.active = [] ∧ init.inactive.length = 16 := by decide

/-- **Pool / list invariant.**  `active ++ inactive` is a permutation of the 16 slots and `active` is sorted by
`fn`: preserved by `sched_gsmtime`, `sched_gsmtime_execute`, `sched_gsmtime_reset`, hence by every history of
operations of the two schedulers. -/
theorem pool_invariant :
    (∀ g si fn p3, GInv g → GInv (sched g si fn p3).1) ∧
    (∀ g g' s s' fn num cs, GInv g → execute g s fn = .ok (g', s', num, cs) → GInv g') ∧
    (∀ g, GInv g → GInv (reset g)) ∧
    (∀ env ops st st' outs, GInv st.g → srun env st ops = .ok (st', outs) → GInv st'.g) :=
  ⟨fun g si fn p3 h => sched_inv g si fn p3 h,
   fun g g' s s' fn num cs h he => execute_inv h he,
   fun g h => reset_inv g h,
   fun env ops st st' outs h hs => (srun_g h hs).2⟩

/-- **`-EBUSY` exactly when 16 events are pending, and then nothing changes.** -/
theorem busy_iff (g : GState) (si : List Item) (fn p3 : Nat) (h : GInv g) :
    ((sched g si fn p3).2 = -16 ↔ g.active.length = 16) ∧
    (g.active.length = 16 → sched g si fn p3 = (g, -16)) ∧
    (g.active.length < 16 → (sched g si fn p3).2 = 0) := by
  have hlen := h.length
  cases hi : g.inactive with
  | nil =>
    have h16 := (inactive_nil_iff h).mp hi
    rw [sched_busy g si fn p3 hi, eBusy_eq]
    exact ⟨⟨fun _ => h16, fun _ => rfl⟩, fun _ => rfl, fun hlt => by omega⟩
  | cons lh rest =>
    have hne : g.active.length ≠ 16 := fun h16 => by
      have := (inactive_nil_iff h).mpr h16
      rw [hi] at this; simp at this
    rw [sched_ok g si fn p3 lh rest hi]
    exact ⟨⟨fun h0 => by simp at h0, fun h16 => absurd h16 hne⟩, fun h16 => absurd h16 hne, fun _ => rfl⟩

/-- **An accepted request.**  With fewer than 16 events pending `sched_gsmtime(si, fn, p3)` returns 0 and links
one event — a slot that was free, carrying `si`, `(uint32_t) fn`, `(uint16_t) p3` — into the active list; every
other pending event stays (the active list is a permutation of the new event and the old list), and among
the events for any one frame the new event is the last (requests for the same frame keep their order). -/
theorem sched_accepts (g : GState) (si : List Item) (fn p3 : Nat) (h : GInv g) (hroom : g.active.length < 16) :
    ∃ ev, (sched g si fn p3).2 = 0 ∧ ev.si = si ∧ ev.fn = u32 fn ∧ ev.p3 = u16 p3 ∧
      ev.slot ∉ slots g.active ∧ ev.slot ∈ slots g.inactive ∧
      (sched g si fn p3).1.active.Perm (ev :: g.active) ∧
      (sched g si fn p3).1.inactive.length + 1 = g.inactive.length ∧
      ∀ t, (sched g si fn p3).1.active.filter (fun e => e.fn = t) =
        g.active.filter (fun e => e.fn = t) ++ (if ev.fn = t then [ev] else []) := by
  cases hi : g.inactive with
  | nil =>
    have := (inactive_nil_iff h).mp hi
    omega
  | cons lh rest =>
    rw [sched_ok g si fn p3 lh rest hi]
    refine ⟨⟨lh.slot, si, u32 fn, u16 p3⟩, rfl, rfl, rfl, rfl, ?_, by simp [slots], insertSorted_perm _ _,
      by simp, fun t => filter_insertSorted _ t _ h.2⟩
    have hn := h.nodup
    rw [hi] at hn
    simp only [slots, List.map_append, List.map_cons] at hn
    have := (List.nodup_append.mp hn).2.2
    intro hmem
    exact this _ hmem _ (List.mem_cons_self ..) rfl

/-- **What one `sched_gsmtime_execute(fn)` does.**  On a state satisfying the invariant the call makes exactly
one `tdma_schedule_set(1, si, p3)` call for every pending event with `evt->fn == fn_sched` (`target fn`), in list
order (= order of acceptance), returns their number, unlinks exactly these events (their slots are free again)
and leaves every other event pending, in order.  In particular the early `break` at the first event with a
larger `fn` never cuts off an event that is due, and an event with a smaller `fn` (too late, see
`stale_never_fires`) neither fires nor keeps later events from firing. -/
theorem execute_fires_exactly (g g' : GState) (s s' : Sched) (fn : Nat) (num : Int) (cs : List Call)
    (h : GInv g) (he : execute g s fn = .ok (g', s', num, cs)) :
    CallsOf (g.active.filter (fun e => e.fn = target fn)) cs ∧
    num = ((g.active.filter (fun e => e.fn = target fn)).length : Int) ∧
    g'.active = g.active.filter (fun e => !decide (e.fn = target fn)) ∧
    g'.inactive = (g.active.filter (fun e => e.fn = target fn)).reverse ++ g.inactive ∧
    schedAll s (g.active.filter (fun e => e.fn = target fn)) = .ok (s', cs) := by
  obtain ⟨h1, h2, h3, h4⟩ := execute_g h he
  exact ⟨h4, h3, by rw [h1]; rfl, by rw [h1]; rfl, h2⟩

/-- **A due event fires whatever else is pending** (the `break` test): every pending event with
`evt->fn == fn_sched` gets its call — exactly one with its slot, carrying its item set and `p3` — no
matter which events with smaller (stale) or larger `fn` are in the list. -/
theorem due_event_fires (g g' : GState) (s s' : Sched) (fn : Nat) (num : Int) (cs : List Call) (ev : Event)
    (h : GInv g) (he : execute g s fn = .ok (g', s', num, cs)) (hev : ev ∈ g.active)
    (hdue : ev.fn = target fn) :
    ∃ c, cs.filter (fun c => c.slot = ev.slot) = [c] ∧ CallFor ev c ∧ ev ∉ g'.active ∧ ev ∈ g'.inactive := by
  obtain ⟨h1, _, _, h4⟩ := execute_g h he
  obtain ⟨m1, m2, m3⟩ := gexecG_hit h hev hdue.symm
  obtain ⟨c, hc1, hc2⟩ := (m1 ▸ h4.filter_slot ev.slot).singleton
  exact ⟨c, hc1, hc2, h1 ▸ m2, h1 ▸ m3⟩

/-- An event that is not due stays pending and no call is made for it. -/
theorem other_event_stays (g g' : GState) (s s' : Sched) (fn : Nat) (num : Int) (cs : List Call) (ev : Event)
    (h : GInv g) (he : execute g s fn = .ok (g', s', num, cs)) (hev : ev ∈ g.active)
    (hne : ev.fn ≠ target fn) :
    cs.filter (fun c => c.slot = ev.slot) = [] ∧ ev ∈ g'.active := by
  obtain ⟨h1, _, _, h4⟩ := execute_g h he
  obtain ⟨m1, m2⟩ := gexecG_miss h hev (fun hh => hne hh.symm)
  exact ⟨(m2 ▸ h4.filter_slot ev.slot).nil_left, h1 ▸ m1⟩

/-! ### exactly once -/

/-- **Exactly once, at the first frame interrupt whose `fn_sched` is the event's frame.**  For a pending
event `ev` and any sequence of frame interrupts (any frame numbers) whose requests contain no
`sched_gsmtime_execute` / `sched_gsmtime_reset`: in every frame up to and including the first one with
`target fn = ev.fn`, `sched_gsmtime_execute` makes no call for the event's slot if `target fn ≠ ev.fn`, and
exactly one — `tdma_schedule_set(1, ev.si, ev.p3)` — if `target fn = ev.fn`.  (Afterwards the slot is free and
may be taken by a later request.) -/
theorem fires_at_first_hit (env : Env) : ∀ (frs : List Frame) (st st' : Sys) (outs : List FrameOut)
    (ev : Event), GInv st.g → ev ∈ st.g.active → (∀ fr ∈ frs, FrameNoGexec fr) →
    runFrames env st frs = .ok (st', outs) →
    ∀ (i : Nat) (fr : Frame) (o : FrameOut), frs[i]? = some fr → outs[i]? = some o →
      (∀ (j : Nat) (fr' : Frame), j < i → frs[j]? = some fr' → target fr'.fn ≠ ev.fn) →
      (target fr.fn ≠ ev.fn → o.calls.filter (fun c => c.slot = ev.slot) = []) ∧
      (target fr.fn = ev.fn → ∃ c, o.calls.filter (fun c => c.slot = ev.slot) = [c] ∧ CallFor ev c) :=
  first_hit env

/-- **Exactly once** (structured form): frames `frs` in none of which `target fn` is the event's frame, then the
frame `last` with `target last.fn = ev.fn`.  No call for the event's slot in `frs`, exactly one in `last`; after
it the event is no longer pending, its slot is in the free list, the invariant holds. -/
theorem fires_exactly_once (env : Env) (st st' : Sys) (ev : Event) (frs : List Frame) (last : Frame)
    (outs : List FrameOut) (hinv : GInv st.g) (hev : ev ∈ st.g.active)
    (hfrs : ∀ fr ∈ frs, FrameNoGexec fr ∧ target fr.fn ≠ ev.fn)
    (hlast : FrameNoGexec last ∧ target last.fn = ev.fn)
    (hrun : runFrames env st (frs ++ [last]) = .ok (st', outs)) :
    ∃ outs1 o c, outs = outs1 ++ [o] ∧ outs1.length = frs.length ∧
      (∀ o' ∈ outs1, o'.calls.filter (fun c => c.slot = ev.slot) = []) ∧
      o.calls.filter (fun c => c.slot = ev.slot) = [c] ∧ CallFor ev c ∧
      GInv st'.g ∧ ev ∉ st'.g.active ∧ ev ∈ st'.g.inactive := by
  obtain ⟨st1, o1, o2, h1, h2, rfl⟩ := runFrames_append env frs [last] st st' outs hrun
  obtain ⟨i1, e1, c1⟩ := frames_miss env frs st st1 o1 ev hinv hev hfrs h1
  obtain ⟨st2, o, os, h4, h5, rfl⟩ := runFrames_cons_ok h2
  cases h5
  obtain ⟨i2, n2, m2, c, hc1, hc2⟩ := frame_hit i1 e1 hlast.1 hlast.2 h4
  exact ⟨o1, o, c, rfl, runFrames_length env frs st st1 o1 h1, c1, hc1, hc2, i2, n2, m2⟩

/-! ### frame arithmetic

The firmware counts frames modulo `GSM_MAX_FN = 2715648` (`l1s_time_inc`, sync.c), both callers reduce the frame
number they ask for modulo `GSM_MAX_FN` (prim_rach.c `fn_sched %= GSM_MAX_FN`, prim_freq.c
`if (fn_sched >= GSM_MAX_FN) fn_sched -= GSM_MAX_FN`), and `sched_gsmtime_execute` compares `evt->fn` with
`fn_sched = (fn + SCHEDULE_AHEAD) % GSM_MAX_FN`.  For an event for frame `F` that is pending when the next
`sched_gsmtime_execute` is the one of frame `fn0`, `d = (F − fn0) mod GSM_MAX_FN` (written
`(F + 2715648 - fn0) % 2715648`) is how many frames ahead it is.  (Before repo fix F21 the comparison was with
the unreduced `fn + SCHEDULE_AHEAD` and events for the frames 0 and 1 were never handed over.) -/

/-- frame numbers as the firmware counts them: stepping by one modulo `GSM_MAX_FN` -/
def SteppingMod (fn0 : Nat) (frs : List Frame) : Prop :=
  ∀ i fr, frs[i]? = some fr → fr.fn = (fn0 + i) % 2715648

instance (fn0 : Nat) (frs : List Frame) : Decidable (SteppingMod fn0 frs) :=
  decidable_of_iff (∀ i, i < frs.length → ∀ fr, frs[i]? = some fr → fr.fn = (fn0 + i) % 2715648)
    ⟨fun h i fr hf => h i (TdmaSched.lt_of_get? _ _ _ hf) fr hf, fun h i _ fr hf => h i fr hf⟩

/-- **Exactly once, in frame `(F − SCHEDULE_AHEAD) mod GSM_MAX_FN` — across the hyperframe wrap as well.**  An
event for frame `F < GSM_MAX_FN` that is pending when the next `sched_gsmtime_execute` is the one of frame
`fn0 < GSM_MAX_FN`, `d ≥ 2` frames ahead, frame numbers stepping by one modulo `GSM_MAX_FN`, no reset: within
the next `d − 1` frame interrupts exactly one `tdma_schedule_set` call is made for it — in the `(d − 2)`-th from
here, the one of frame `(F − 2) mod GSM_MAX_FN` — with frame offset 1, its item set and its `p3`.  This includes
`F ∈ {0, 1}` while `fn` runs through 2715646, 2715647, 0. -/
theorem wrap_full (env : Env) (st st' : Sys) (ev : Event) (fn0 : Nat) (frs : List Frame)
    (outs : List FrameOut) (hinv : GInv st.g) (hev : ev ∈ st.g.active) (hfn0 : fn0 < 2715648)
    (hF : ev.fn < 2715648) (hd : 2 ≤ (ev.fn + 2715648 - fn0) % 2715648) (hstep : SteppingMod fn0 frs)
    (hno : ∀ fr ∈ frs, FrameNoGexec fr) (hlen : frs.length + 1 ≤ (ev.fn + 2715648 - fn0) % 2715648)
    (hrun : runFrames env st frs = .ok (st', outs)) :
    ∀ i o, outs[i]? = some o →
      ((o.calls.filter (fun c => c.slot = ev.slot)).length =
        if i + 2 = (ev.fn + 2715648 - fn0) % 2715648 then 1 else 0) ∧
      ∀ c ∈ o.calls, c.slot = ev.slot → CallFor ev c := by
  have hdM : (ev.fn + 2715648 - fn0) % 2715648 < 2715648 := Nat.mod_lt _ (by decide)
  have ht := fun j => target_stepping fn0 ev.fn j hfn0 hF
  generalize (ev.fn + 2715648 - fn0) % 2715648 = d at *
  exact stepping_hit env st st' ev fn0 d frs outs hinv hev hstep hno hlen
    (fun j hj => (ht j).trans (by rw [Nat.mod_eq_of_lt (by omega)])) hrun

/-- **An accepted request fires exactly once, in frame `F − SCHEDULE_AHEAD`.**  A request for frame
`F < GSM_MAX_FN` accepted while the next `sched_gsmtime_execute` is the one of frame `fn0`, at least 2 frames ahead
(modulo `GSM_MAX_FN`), no reset: `sched_gsmtime` returns 0, and in the following frame interrupts up to the one
of frame `(F − 2) mod GSM_MAX_FN` exactly one `tdma_schedule_set` call is made for the new event — in that last
one — with frame offset 1, the `si` and the `(uint16_t) p3` of the request.  (Called between two frame
interrupts, after the one of frame `c`, the next `sched_gsmtime_execute` is the one of frame `c + 1`: the request
must be for `F ≥ c + 3`, which is what `l1a_rach_req` does with `offset += 3`.) -/
theorem accepted_fires_exactly_once (env : Env) (st st' : Sys) (si : List Item) (F p3 fn0 : Nat)
    (frs : List Frame) (outs : List FrameOut) (hinv : GInv st.g) (hroom : st.g.active.length < 16)
    (hfn0 : fn0 < 2715648) (hF : F < 2715648) (hahead : 2 ≤ (F + 2715648 - fn0) % 2715648)
    (hlen : frs.length + 1 ≤ (F + 2715648 - fn0) % 2715648)
    (hstep : SteppingMod fn0 frs) (hno : ∀ fr ∈ frs, FrameNoGexec fr)
    (hrun : runFrames env ⟨(sched st.g si F p3).1, st.s⟩ frs = .ok (st', outs)) :
    (sched st.g si F p3).2 = 0 ∧
    ∃ ev ∈ (sched st.g si F p3).1.active, ev.si = si ∧ ev.fn = F ∧ ev.p3 = u16 p3 ∧
      ∀ i o, outs[i]? = some o →
        (o.calls.filter (fun c => c.slot = ev.slot)).length =
          (if i + 2 = (F + 2715648 - fn0) % 2715648 then 1 else 0) ∧
        ∀ c ∈ o.calls, c.slot = ev.slot → c.off = 1 ∧ c.si = si ∧ c.p3 = u16 p3 := by
  obtain ⟨ev, h0, h1, h2, h3, _, _, hperm, _, _⟩ := sched_accepts st.g si F p3 hinv hroom
  have hfn : ev.fn = F := by rw [h2]; simp only [u32]; omega
  have hmem : ev ∈ (sched st.g si F p3).1.active := hperm.mem_iff.mpr (List.mem_cons_self ..)
  refine ⟨h0, ev, hmem, h1, hfn, h3, ?_⟩
  intro i o ho
  obtain ⟨r1, r2⟩ := wrap_full env ⟨(sched st.g si F p3).1, st.s⟩ st' ev fn0 frs outs
    (sched_inv st.g si F p3 hinv) hmem hfn0 (by rw [hfn]; exact hF) (by rw [hfn]; exact hahead) hstep hno
    (by rw [hfn]; exact hlen) hrun i o ho
  rw [hfn] at r1
  refine ⟨r1, ?_⟩
  intro c hc hs
  obtain ⟨_, c1, c2, c3⟩ := r2 c hc hs
  exact ⟨by rw [c1]; exact frameOffset_eq, by rw [c2, h1], by rw [c3, h3]⟩

/-- **A request that comes too late does not fire — and blocks nothing.**  An event for frame `F` that is
pending when the next `sched_gsmtime_execute` is already the one of frame `F` or `F − 1`
(`d = (F − fn0) mod GSM_MAX_FN ∈ {0, 1}`): in the next `GSM_MAX_FN − 2 + d` frame interrupts no call is made for
it, and it stays pending (its slot stays taken) — until `sched_gsmtime_reset()`.  That other events fire on time
in spite of it is `due_event_fires` / `wrap_full`, which hold for every state satisfying the invariant. -/
theorem stale_never_fires (env : Env) (st st' : Sys) (ev : Event) (fn0 : Nat) (frs : List Frame)
    (outs : List FrameOut) (hinv : GInv st.g) (hev : ev ∈ st.g.active) (hfn0 : fn0 < 2715648)
    (hF : ev.fn < 2715648) (hlate : (ev.fn + 2715648 - fn0) % 2715648 < 2)
    (hlen : frs.length + 2 ≤ (ev.fn + 2715648 - fn0) % 2715648 + 2715648) (hstep : SteppingMod fn0 frs)
    (hno : ∀ fr ∈ frs, FrameNoGexec fr) (hrun : runFrames env st frs = .ok (st', outs)) :
    (∀ o ∈ outs, o.calls.filter (fun c => c.slot = ev.slot) = []) ∧ ev ∈ st'.g.active ∧
      st'.g.active.length ≥ 1 := by
  have ht := fun j => target_stepping fn0 ev.fn j hfn0 hF
  generalize (ev.fn + 2715648 - fn0) % 2715648 = d at *
  have hmiss : ∀ fr ∈ frs, FrameNoGexec fr ∧ target fr.fn ≠ ev.fn := by
    intro fr hfr
    obtain ⟨i, hi⟩ := List.mem_iff_getElem?.mp hfr
    have hlt := TdmaSched.lt_of_get? _ _ _ hi
    rw [hstep i fr hi]
    exact ⟨hno fr hfr, fun h => by have := (ht i).mp h; omega⟩
  obtain ⟨_, h2, h3⟩ := frames_miss env frs st st' outs ev hinv hev hmiss hrun
  exact ⟨h3, h2, List.length_pos_of_mem h2⟩

/-- **A stale event fires one hyperframe later.**  The event of `stale_never_fires`, if no reset removes it, is
handed over after `GSM_MAX_FN − 2 + d` frame interrupts (3 h 28 min) — in frame `(F − 2) mod GSM_MAX_FN` of the
next hyperframe. -/
theorem stale_fires_next_hyperframe (env : Env) (st st' : Sys) (ev : Event) (fn0 : Nat) (frs : List Frame)
    (outs : List FrameOut) (hinv : GInv st.g) (hev : ev ∈ st.g.active) (hfn0 : fn0 < 2715648)
    (hF : ev.fn < 2715648)
    (hd : (ev.fn + 2715648 - fn0) % 2715648 < 2) (hstep : SteppingMod fn0 frs)
    (hno : ∀ fr ∈ frs, FrameNoGexec fr)
    (hlen : frs.length + 1 ≤ (ev.fn + 2715648 - fn0) % 2715648 + 2715648)
    (hrun : runFrames env st frs = .ok (st', outs)) :
    ∀ i o, outs[i]? = some o →
      (o.calls.filter (fun c => c.slot = ev.slot)).length =
        if i + 2 = (ev.fn + 2715648 - fn0) % 2715648 + 2715648 then 1 else 0 := by
  have ht := fun j => target_stepping fn0 ev.fn j hfn0 hF
  generalize (ev.fn + 2715648 - fn0) % 2715648 = d at *
  exact fun i o ho => (stepping_hit env st st' ev fn0 (d + 2715648) frs outs hinv hev hstep hno hlen
    (fun j hj => (ht j).trans (by omega)) hrun i o ho).1

/-- **Frame numbers outside the hyperframe.**  `fn_sched` is always below `GSM_MAX_FN`: an event accepted for a
frame number `≥ GSM_MAX_FN` (no caller in the firmware passes one) is never handed over, whatever frame numbers
`sched_gsmtime_execute` is called with, and keeps its slot until a reset.  (For `fn ≥ 2^32 − 2` — outside the
firmware's range as well — the sum `fn + SCHEDULE_AHEAD` wraps at 32 bit before it is reduced: `target`.) -/
theorem out_of_range_never_fires (env : Env) (st st' : Sys) (ev : Event) (frs : List Frame)
    (outs : List FrameOut) (hinv : GInv st.g) (hev : ev ∈ st.g.active) (hF : 2715648 ≤ ev.fn)
    (hno : ∀ fr ∈ frs, FrameNoGexec fr) (hrun : runFrames env st frs = .ok (st', outs)) :
    (∀ o ∈ outs, o.calls.filter (fun c => c.slot = ev.slot) = []) ∧ ev ∈ st'.g.active := by
  obtain ⟨_, h2, h3⟩ := frames_miss env frs st st' outs ev hinv hev
    (fun fr hfr => ⟨hno fr hfr, by have := target_lt fr.fn; omega⟩) hrun
  exact ⟨h3, h2⟩

/-- every callback reports success and makes no scheduler call from inside -/
def env0 : Env := ⟨fun _ _ _ _ => 0, []⟩

/-- an item set of one item -/
def set1 (id p1 : Nat) : List Item := [⟨.fn id, p1, 0, 0, 0, 0⟩, ⟨.endSet, 0, 0, 0, 0, 0⟩]

/-! ### reset -/

/-- **After `sched_gsmtime_reset()` all 16 slots are free and nothing is pending**; the invariant holds. -/
theorem reset_frees_all (g : GState) (h : GInv g) :
    (reset g).active = [] ∧ (reset g).inactive.length = 16 ∧ GInv (reset g) :=
  ⟨reset_active g, reset_free g h, reset_inv g h⟩

/-- **After `sched_gsmtime_reset()` no event fires**: in every history that starts with the reset and contains
no new request (`sched_gsmtime`), whatever frame numbers `sched_gsmtime_execute` is called with, no
`tdma_schedule_set` call is made and every `sched_gsmtime_execute` returns 0. -/
theorem nothing_fires_after_reset (env : Env) : ∀ (ops : List SOp) (st st' : Sys) (outs : List SOut),
    GInv st.g → st.g.active = [] → (∀ op ∈ ops, ∀ si fn p3, op ≠ .gsched si fn p3) →
    srun env st ops = .ok (st', outs) →
    st'.g.active = [] ∧ ∀ op o, (op, o) ∈ ops.zip outs → o.calls = [] ∧ (∀ fn, op = .gexec fn → o.rc = 0)
  | [], st, st', outs, _, hnil, _, h => by cases h; exact ⟨hnil, nofun⟩
  | op :: ops, st, st', outs, hinv, hnil, hno, h => by
    obtain ⟨st1, o, os, h1, h2, rfl⟩ := srun_cons_ok h
    obtain ⟨hnil1, hidle⟩ := sstep_idle hinv hnil (hno op (List.mem_cons_self ..)) h1
    obtain ⟨r1, r2⟩ := nothing_fires_after_reset env ops st1 st' os
      ((sstep_g hinv h1).1 ▸ gstepG_inv st.g op hinv) hnil1
      (fun x hx => hno x (List.mem_cons_of_mem _ hx)) h2
    refine ⟨r1, fun op' o' hmem => ?_⟩
    rcases List.mem_cons.mp hmem with heq | hmem
    · cases heq; exact hidle
    · exact r2 op' o' hmem

/-! ### the two schedulers together -/

/-- **No fault.**  From a state in which both schedulers are well-formed and every pending event has an
admissible item set (`Safe`; the state after `sched_gsmtime_init()` and a zeroed TDMA scheduler is one), every
sequence of frame interrupts with admissible requests runs without an out-of-bounds access or a NULL call, and
ends in such a state — also when callbacks schedule from inside `tdma_sched_execute()`, as long as the calls
they make are admissible (`EnvOk`). -/
theorem frames_safe (env : Env) (henv : EnvOk env) (frs : List Frame) (st : Sys) (h : Safe env st)
    (hfrs : ∀ fr ∈ frs, FrameSafe env fr) :
    ∃ st' outs, runFrames env st frs = .ok (st', outs) ∧ Safe env st' :=
  runFrames_safe env henv frs st h hfrs

theorem init_safe (env : Env) (cur : Nat) (h : cur < 25) : Safe env ⟨init, TdmaSched.init cur⟩ :=
  ⟨init_inv.1, TdmaSched.init_inv env cur h, by intro e he; simp [init] at he⟩

/-- **The set of an event for frame `F` runs from frame `F − SCHEDULE_LATENCY` on** (composition with the TDMA
scheduler theorems of C08).  Callbacks do not schedule from inside `tdma_sched_execute()` (`NoReentry env`:
explicit hypothesis of this theorem; the item sets handed over by `sched_gsmtime_execute` in the firmware —
`rach_sched_set_ul`, `freq_sched_set` — are of that kind).  `ev` is pending; `x` is an item of the k-th frame of its item set (with the
event's `p3`), distinguishable: pending nowhere in the TDMA scheduler, in no other pending event's set, not
scheduled by any request of the frames considered (`FrameTraffic`).  Frames `frs1` (in none of which
`target fn = ev.fn`), then the frame `last` with `target last.fn = ev.fn` (frame `F − 2`), then any frames `frs2`
(frames `F − 1`, `F`, …): the whole sequence runs without fault; `x` does not run in `frs1` nor in `last`; in `last`
exactly one call `c = tdma_schedule_set(1, ev.si, ev.p3)` is made for the event; and unless that call reported
a bucket overflow (`c.rc = −1`, which `sched_gsmtime_execute` ignores), `x` runs exactly once: in the
`tdma_sched_execute()` of the k-th frame of `frs2` — frame `F − 1 + k` — and in no other. -/
theorem event_set_runs_at (env : Env) (hne : NoReentry env) (st : Sys) (ev : Event) (x : AItem Cb) (k : Nat) (f : List (AItem Cb))
    (frs1 : List Frame) (last : Frame) (frs2 : List Frame)
    (hsafe : Safe env st) (hev : ev ∈ st.g.active)
    (hfresh : ∀ d, d < 25 → x ∉ abs st.s d)
    (hclean : ∀ e ∈ st.g.active, e ≠ ev → x ∉ (framesOf e.p3 e.si).flatten)
    (hdepth : 1 + markers ev.si < 25) (hk : (framesOf ev.p3 ev.si)[k]? = some f) (hx1 : f.count x = 1)
    (hx0 : ∀ k' f', k' ≠ k → (framesOf ev.p3 ev.si)[k']? = some f' → x ∉ f')
    (h1 : ∀ fr ∈ frs1, FrameTraffic env x fr ∧ target fr.fn ≠ ev.fn)
    (hl : FrameTraffic env x last ∧ target last.fn = ev.fn)
    (h2 : ∀ fr ∈ frs2, FrameTraffic env x fr) :
    ∃ st' outs1 o outs2 c, runFrames env st (frs1 ++ [last] ++ frs2) = .ok (st', outs1 ++ [o] ++ outs2) ∧
      outs1.length = frs1.length ∧
      (∀ o' ∈ outs1, ranCount x o'.exec = 0 ∧ o'.calls.filter (fun c => c.slot = ev.slot) = []) ∧
      ranCount x o.exec = 0 ∧ o.calls.filter (fun c => c.slot = ev.slot) = [c] ∧ CallFor ev c ∧
      (c.rc ≠ -1 → ∀ j o', outs2[j]? = some o' → ranCount x o'.exec = if j = k then 1 else 0) := by
  -- the run exists
  obtain ⟨st', outs, hrun, _⟩ := runFrames_safe env (TdmaSched.noReentry_envOk env hne) (frs1 ++ [last] ++ frs2) st hsafe (by
    intro fr hfr
    simp only [List.mem_append, List.mem_singleton] at hfr
    rcases hfr with (hfr | rfl) | hfr
    · exact (h1 fr hfr).1.safe
    · exact hl.1.safe
    · exact (h2 fr hfr).safe)
  obtain ⟨st2, o12, outs2, hr12, hr3, rfl⟩ := runFrames_append env (frs1 ++ [last]) frs2 st st' outs hrun
  obtain ⟨st1, outs1, ol, hr1, hr2, rfl⟩ := runFrames_append env frs1 [last] st st2 o12 hr12
  obtain ⟨st2', o, os, hl1, hl2, rfl⟩ := runFrames_cons_ok hr2
  cases hl2
  -- before
  have ht0 : Tracked env x st none (some ev) :=
    ⟨hsafe, Spec.TdmaSched.at_none hfresh, fun e he hne => hclean e he (fun hh => hne (hh ▸ rfl))⟩
  obtain ⟨t1, ev1, c1⟩ := frames_before env hne x ev frs1 st st1 outs1 ht0 hev h1 hr1
  obtain ⟨_, _, m1⟩ := frames_miss env frs1 st st1 outs1 ev hsafe.1 hev
    (fun fr hfr => ⟨(h1 fr hfr).1.noGexec, (h1 fr hfr).2⟩) hr1
  -- the frame in which the event is handed over
  obtain ⟨s2, cl2, c2, c, hc1, hc2, hc3⟩ := l1Sync_hit env hne t1 hl.1 ev1 hl.2
    (frameOffset_eq ▸ hdepth) ⟨f, hk, hx1, hx0⟩ hl1
  refine ⟨st', outs1, o, outs2, c, hrun, runFrames_length env _ _ _ _ hr1, fun o' ho' => ⟨c1 o' ho', m1 o' ho'⟩, c2,
    hc1, hc2, fun hrc j o' ho' => ?_⟩
  rw [frames_countdown env hne x frs2 st2 st' outs2 (some k) ⟨s2, hc3 hrc, fun e he _ => cl2 e he⟩ h2 hr3 j o' ho']
  exact Spec.TdmaSched.ite_iff ⟨fun h => (Option.some.inj h).symm, fun h => h ▸ rfl⟩

/-- **The same with frame numbers.**  Frames `fn0, fn0 + 1, …` (stepping by one modulo `GSM_MAX_FN`), an event
for frame `F`, `d = (F − fn0) mod GSM_MAX_FN ≥ 2` frames ahead, pending at the start, callbacks that do not
schedule from inside (`NoReentry env`): the sequence runs without
fault, the event is handed over in the interrupt of frame `(F − 2) mod GSM_MAX_FN` (index `d − 2`) by exactly one
call `c`, and unless `c.rc = −1` the item `x` of the k-th frame of its set runs exactly once: in the
`tdma_sched_execute()` of the interrupt with index `d − 1 + k` — frame `(F − 1 + k) mod GSM_MAX_FN`, i.e.
`F − SCHEDULE_LATENCY` for the first frame of the set — in no other. -/
theorem event_set_runs_in_frame (env : Env) (hne : NoReentry env) (st : Sys) (ev : Event) (x : AItem Cb) (k : Nat)
    (f : List (AItem Cb)) (fn0 : Nat) (frs : List Frame)
    (hsafe : Safe env st) (hev : ev ∈ st.g.active)
    (hfresh : ∀ d, d < 25 → x ∉ abs st.s d)
    (hclean : ∀ e ∈ st.g.active, e ≠ ev → x ∉ (framesOf e.p3 e.si).flatten)
    (hdepth : 1 + markers ev.si < 25) (hk : (framesOf ev.p3 ev.si)[k]? = some f) (hx1 : f.count x = 1)
    (hx0 : ∀ k' f', k' ≠ k → (framesOf ev.p3 ev.si)[k']? = some f' → x ∉ f')
    (hfn0 : fn0 < 2715648) (hF : ev.fn < 2715648) (hahead : 2 ≤ (ev.fn + 2715648 - fn0) % 2715648)
    (hlen : (ev.fn + 2715648 - fn0) % 2715648 - 2 < frs.length)
    (hstep : SteppingMod fn0 frs) (htr : ∀ fr ∈ frs, FrameTraffic env x fr) :
    ∃ st' outs o c, runFrames env st frs = .ok (st', outs) ∧
      outs[(ev.fn + 2715648 - fn0) % 2715648 - 2]? = some o ∧
      o.calls.filter (fun c => c.slot = ev.slot) = [c] ∧ CallFor ev c ∧
      (c.rc ≠ -1 → ∀ i o', outs[i]? = some o' →
        ranCount x o'.exec = if i + 1 = (ev.fn + 2715648 - fn0) % 2715648 + k then 1 else 0) := by
  -- `D`: how many frames ahead the event is; the interrupt with index `D - 2` is the one that hands it over
  have hdM : (ev.fn + 2715648 - fn0) % 2715648 < 2715648 := Nat.mod_lt _ (by decide)
  have ht := fun j => target_stepping fn0 ev.fn j hfn0 hF
  generalize (ev.fn + 2715648 - fn0) % 2715648 = D at hahead hlen hdM ht ⊢
  have hD : ∀ j, j + 2 ≤ D → (target ((fn0 + j) % 2715648) = ev.fn ↔ j + 2 = D) :=
    fun j hj => (ht j).trans (by rw [Nat.mod_eq_of_lt (Nat.lt_of_le_of_lt hj hdM)])
  obtain ⟨n, rfl⟩ : ∃ n, D = n + 2 := ⟨D - 2, by omega⟩
  rw [Nat.add_sub_cancel] at hlen ⊢
  have htgt : ∀ i fr, i ≤ n → frs[i]? = some fr → (target fr.fn = ev.fn ↔ i = n) := fun i fr hin hi => by
    rw [hstep i fr hi, hD i (Nat.add_le_add_right hin 2)]
    exact Nat.add_right_cancel_iff
  have hsplit : frs = frs.take n ++ [frs[n]] ++ frs.drop (n + 1) := by
    rw [List.append_assoc, List.singleton_append, ← List.drop_eq_getElem_cons hlen, List.take_append_drop]
  obtain ⟨st', outs1, o, outs2, c, hrun, hl1, hb, hc0, hc1, hc2, hc3⟩ :=
    event_set_runs_at env hne st ev x k f (frs.take n) frs[n] (frs.drop (n + 1)) hsafe hev hfresh hclean hdepth hk
      hx1 hx0
      (fun fr hfr => by
        obtain ⟨i, hi⟩ := List.mem_iff_getElem?.mp hfr
        have hil : i < n := Nat.lt_of_lt_of_le (TdmaSched.lt_of_get? _ _ _ hi) (List.length_take_le ..)
        rw [List.getElem?_take_of_lt hil] at hi
        exact ⟨htr fr (List.mem_of_mem_take hfr), fun h => Nat.ne_of_lt hil ((htgt i fr (Nat.le_of_lt hil) hi).mp h)⟩)
      ⟨htr _ (List.getElem_mem hlen), (htgt n _ (Nat.le_refl n) (List.getElem?_eq_getElem hlen)).mpr rfl⟩
      (fun fr hfr => htr fr (List.mem_of_mem_drop hfr))
  rw [← hsplit] at hrun
  have hl1' : outs1.length = n := by rw [hl1, List.length_take, Nat.min_eq_left (Nat.le_of_lt hlen)]
  refine ⟨st', outs1 ++ [o] ++ outs2, o, c, hrun, ?_, hc1, hc2, fun hrc i o' ho' => ?_⟩
  · rw [List.append_assoc, List.getElem?_append_right (Nat.le_of_eq hl1'), hl1', Nat.sub_self]; rfl
  · -- the frames before, the frame of the hand-over, the frames after
    rw [List.append_assoc] at ho'
    by_cases h1 : i < n
    · rw [List.getElem?_append_left (hl1' ▸ h1)] at ho'
      rw [(hb o' (List.mem_of_getElem? ho')).1, if_neg (by omega)]
    · rw [List.getElem?_append_right (hl1' ▸ Nat.le_of_not_lt h1), hl1'] at ho'
      cases hin : i - n with
      | zero =>
        rw [hin] at ho'
        cases ho'
        rw [hc0, if_neg (by omega)]
      | succ j =>
        rw [hin] at ho'
        rw [hc3 hrc j o' ho']
        exact Spec.TdmaSched.ite_iff (by omega)

/-- A frame interrupt is the history `pre ; tdma_sched_execute ; mid ; sched_gsmtime_execute(fn) ;
tdma_sched_advance` of single operations — the form in which frames are run against the real code. -/
theorem frame_is_history (env : Env) (st : Sys) (fr : Frame) :
    srun env st (frameOps fr) =
      match l1Sync env st fr with
      | .error f => .error f
      | .ok (st', o) => .ok (st', flatOut o) :=
  l1Sync_eq_srun env st fr

/-! ### non-vacuity: the hypotheses are satisfiable by non-trivial values, and the conclusions are what the
model computes (each history below was also run on the real C code: same observations) -/

/-- a frame interrupt without requests -/
def fr (fn : Nat) : Frame := ⟨fn, [], []⟩
/-- consecutive frame numbers modulo `GSM_MAX_FN` -/
def frames (fn0 n : Nat) : List Frame := (List.range n).map (fun i => fr ((fn0 + i) % 2715648))

/-- a two-frame item set: callback 1 (p1 = 11) in the first frame, callback 2 (p1 = 12) in the second -/
def set2 : List Item :=
  [⟨.fn 1, 11, 0, 0, 0, 0⟩, ⟨.null, 0, 0, 0, 0, 0⟩, ⟨.fn 2, 12, 0, 0, 5, 0⟩, ⟨.endSet, 0, 0, 0, 0, 0⟩]

/-- what a sequence of frame interrupts shows: per frame the `p1` of the callbacks run by
`tdma_sched_execute`, the result of `sched_gsmtime_execute` and the calls it made as (slot, p3, result) -/
structure FrameObs where
  ran : List Nat
  num : Int
  calls : List (Nat × Nat × Int)
  deriving DecidableEq, Repr

def obs (env : Env) (st : Sys) (frs : List Frame) : Option (List FrameObs) :=
  (runFrames env st frs).toOption.map
    (fun r => r.2.map (fun o => ⟨o.exec.ran.map (·.p1), o.num, o.calls.map (fun c => (c.slot, c.p3, c.rc))⟩))

/-- the state after a list of requests on the initial state -/
def after (reqs : List (List Item × Nat × Nat)) (cur : Nat) : Sys :=
  ⟨reqs.foldl (fun g r => (sched g r.1 r.2.1 r.2.2).1) init, TdmaSched.init cur⟩

-- a request for frame 105 while frame 100 is next: handed over in frame 103 (slot 15, p3 = 9, rc = 1 frame
-- marker), its first frame runs in 104, its second in 105
example : obs env0 (after [(set2, 105, 9)] 7) (frames 100 8) =
    some [⟨[], 0, []⟩, ⟨[], 0, []⟩, ⟨[], 0, []⟩, ⟨[], 1, [(15, 9, 1)]⟩, ⟨[11], 0, []⟩, ⟨[12], 0, []⟩, ⟨[], 0, []⟩,
      ⟨[], 0, []⟩] := by decide +kernel

def evEx : Event := ⟨15, set2, 105, 9⟩
def xEx : AItem Cb := ⟨.fn 2, 12, 0, 9, 5⟩

-- the hypotheses of `event_set_runs_in_frame` / `event_set_runs_at` hold for it (k = 1: second frame of the set)
example : NoReentry env0 ∧ Safe env0 (after [(set2, 105, 9)] 7) ∧ evEx ∈ (after [(set2, 105, 9)] 7).g.active ∧
    1 + markers evEx.si < 25 ∧ (framesOf evEx.p3 evEx.si)[1]? = some [xEx] ∧ [xEx].count xEx = 1 ∧
    SteppingMod 100 (frames 100 8) ∧ 2 ≤ (evEx.fn + 2715648 - 100) % 2715648 ∧
    (evEx.fn + 2715648 - 100) % 2715648 - 2 < (frames 100 8).length ∧ (∀ fr ∈ frames 100 8, FrameTraffic env0 xEx fr) ∧
    (∀ e ∈ (after [(set2, 105, 9)] 7).g.active, e ≠ evEx → xEx ∉ (framesOf e.p3 e.si).flatten) := by
  decide +kernel
example : ∀ d, d < 25 → xEx ∉ abs (after [(set2, 105, 9)] 7).s d := by decide +kernel

-- out-of-order requests (frames 7, 5, 6, 5): handed over in frame order, the two for frame 5 in request order
example : obs env0 (after [(set1 1 1, 7, 70), (set1 1 2, 5, 50), (set1 1 3, 6, 60), (set1 1 4, 5, 51)] 0) (frames 2 6) =
    some [⟨[], 0, []⟩, ⟨[], 2, [(14, 50, 0), (12, 51, 0)]⟩, ⟨[2, 4], 1, [(13, 60, 0)]⟩, ⟨[3], 1, [(15, 70, 0)]⟩,
      ⟨[1], 0, []⟩, ⟨[], 0, []⟩] := by decide +kernel

-- the pool: the 17th request is refused with -EBUSY = -16 and changes nothing
example : ((List.range 17).foldl (fun (acc : GState × List Int) k =>
      let r := sched acc.1 (set1 1 k) (50 + k % 3) k; (r.1, acc.2 ++ [r.2])) (init, [])).2 =
    List.replicate 16 0 ++ [-16] := by decide +kernel
example : let g := (after ((List.range 16).map (fun k => (set1 1 k, 50 + k % 3, k))) 0).g
    GInv g ∧ g.active.length = 16 ∧ sched g (set1 1 99) 50 99 = (g, -16) := by decide +kernel

-- too late: requests for frames 100 and 101 while frame 100 is next do not fire (not before the next hyperframe); the on-time requests for 102 and
-- 103 behind them fire (nothing is blocked); the stale events keep their slots (15, 14)
example : obs env0 (after [(set1 1 1, 100, 1), (set1 1 2, 101, 2), (set1 1 3, 102, 3), (set1 1 4, 103, 4)] 0) (frames 100 5) =
    some [⟨[], 1, [(13, 3, 0)]⟩, ⟨[3], 1, [(12, 4, 0)]⟩, ⟨[4], 0, []⟩, ⟨[], 0, []⟩, ⟨[], 0, []⟩] := by decide +kernel
example : (runFrames env0 (after [(set1 1 1, 100, 1), (set1 1 2, 101, 2), (set1 1 3, 102, 3)] 0) (frames 100 5)).toOption.map
    (fun r => r.1.g.active.map (fun e => (e.slot, e.fn))) = some [(15, 100), (14, 101)] := by decide +kernel

-- the hyperframe wrap (`wrap_full`).  A request for frame 2 made in frame 2715645 fires in frame 0 …
example : obs env0 (after [(set1 1 1, 2, 7)] 0) (frames 2715646 5) =
    some [⟨[], 0, []⟩, ⟨[], 0, []⟩, ⟨[], 1, [(15, 7, 0)]⟩, ⟨[1], 0, []⟩, ⟨[], 0, []⟩] := by decide +kernel
-- … and the requests for frames 0 and 1 fire in the frames 2715646 and 2715647 (frames 2715645, 2715646,
-- 2715647, 0, 1, …); their items run in 2715647 and 0; nothing stays pending
example : obs env0 (after [(set1 1 1, 0, 7), (set1 1 2, 1, 8)] 0) (frames 2715645 8) =
    some ([⟨[], 0, []⟩, ⟨[], 1, [(15, 7, 0)]⟩, ⟨[1], 1, [(14, 8, 0)]⟩, ⟨[2], 0, []⟩] ++
      List.replicate 4 ⟨[], 0, []⟩) := by decide +kernel
example : (runFrames env0 (after [(set1 1 1, 0, 7), (set1 1 2, 1, 8)] 0) (frames 2715645 8)).toOption.map
    (fun r => r.1.g.active.map (fun e => (e.slot, e.fn))) = some [] := by decide +kernel
-- hypotheses of `wrap_full` for F = 1, three frames ahead of 2715646 (the witness of the defect fixed by F21)
example : GInv (after [(set1 1 1, 1, 7)] 0).g ∧ (⟨15, set1 1 1, 1, 7⟩ : Event) ∈ (after [(set1 1 1, 1, 7)] 0).g.active ∧
    (1 + 2715648 - 2715646) % 2715648 = 3 ∧ SteppingMod 2715646 (frames 2715646 2) ∧
    (∀ fr ∈ frames 2715646 2, FrameNoGexec fr) := by decide +kernel
example : obs env0 (after [(set1 1 1, 1, 7)] 0) (frames 2715646 3) =
    some [⟨[], 0, []⟩, ⟨[], 1, [(15, 7, 0)]⟩, ⟨[1], 0, []⟩] := by decide +kernel

-- outside the firmware's range of frame numbers the 32-bit sum wraps before it is reduced modulo GSM_MAX_FN:
-- sched_gsmtime_execute(4294967295) hands over the event for frame 1; an event for a frame >= GSM_MAX_FN stays
example : obs env0 (after [(set1 1 1, 1, 7)] 0) [fr 4294967294, fr 4294967295, fr 0] =
    some [⟨[], 0, []⟩, ⟨[], 1, [(15, 7, 0)]⟩, ⟨[1], 0, []⟩] := by decide +kernel

-- reset: nothing fires afterwards, all 16 slots are free
example : (srun env0 (after [(set1 1 1, 5, 7), (set1 1 2, 6, 8)] 0) [.greset, .gexec 3, .gexec 4, .gexec 3]).toOption.map
    (fun r => (r.1.g.active.length, r.1.g.inactive.length, r.2.map (fun o => (o.rc, o.calls.length)))) =
    some (0, 16, [(0, 0), (0, 0), (0, 0), (0, 0)]) := by decide +kernel

-- a bucket overflow in the TDMA scheduler goes unnoticed: 9 requests for the same frame, the 9th
-- tdma_schedule_set returns -1, sched_gsmtime_execute returns 9 all the same, 8 callbacks run
example : obs env0 (after ((List.range 9).map (fun k => (set1 1 k, 50, k))) 0) (frames 48 2) =
    some [⟨[], 9, [(15, 0, 0), (14, 1, 0), (13, 2, 0), (12, 3, 0), (11, 4, 0), (10, 5, 0), (9, 6, 0), (8, 7, 0),
      (7, 8, -1)]⟩, ⟨[0, 1, 2, 3, 4, 5, 6, 7], 0, []⟩] := by decide +kernel

end OsmoVerif.Props.C08Gsmtime
