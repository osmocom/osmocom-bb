/-
C20 — Mobile Allocation decoding selects exactly the flagged cell channels.
Property theorems only.  Model: `OsmoVerif.Model.MobileAlloc` (gsm48_decode_mobile_alloc with
capacity-checked buffers), specification: `OsmoVerif.Spec.MobileAlloc` (TS 44.018 §10.5.2.21),
lemmas: `OsmoVerif.Lemmas.MobileAlloc`.

Reading of the statements: `freq` is the caller's `freq[1024]` array of masks, the cell allocation
is the set of ARFCNs whose mask has FREQ_TYPE_SERV (`servAt freq`), `ma`/`len` the value part of
the IE and its length, `hopping`/`hoppLen` the caller's output objects with arbitrary previous
contents.  `decode … = .ok (rc, st)` means: the function returned `rc`, performed no access
outside any buffer, used no indeterminate value, and left the caller's objects as `st`.
-/
import OsmoVerif.Lemmas.MobileAlloc

namespace OsmoVerif.Props.C20
open OsmoVerif OsmoVerif.MobileAlloc OsmoVerif.Gen.MobileAlloc OsmoVerif.Spec.MobileAlloc

/-- The regenerated data of the current tree: the mask bits, the error code, the capacities of the
buffers the callers hand in (`gsm48_sysinfo.freq[1024]`, `gsm48_sysinfo.hopping[64]` and every
`uint16_t ma[64]` of gsm48_rr.c) and the local table (`uint16_t f[64]`, not a VLA). -/
theorem tree_constants :
    freqTypeServ = 1 ∧ freqTypeHopp = 2 ∧ 0 < einval ∧ sizeofFreq = 1 ∧ freqCap = 1024 ∧
    hoppingCap = 64 ∧ fIsVla = false ∧ ∀ len, fCap len = 64 := by
  refine ⟨by decide, by decide, by decide, by decide, by decide, by decide, by decide, fun _ => rfl⟩

/-- **Bitmaps of up to 8 octets.**  The function returns 0; the decoded list is exactly the
selection of the standard (`Spec.select`: the i-th frequency of the cell allocation list, ordered
ascending with ARFCN 0 last, is included iff MA C i = 1, MA C 1 being the LSB of the last octet);
`*hopp_len` is its length; every entry is a cell-allocation ARFCN below 1024; the list is in the
order of the standard (hence without repetitions); it has at most 64 entries; nothing of
`hopping[]` beyond the list is modified. -/
theorem decode_ma_spec (freq ma : List Nat) (len : Nat) (hopping : List Nat) (hoppLen : Nat) (si4 : Bool)
    (hf : freq.length = 1024) (hm : ma.length = len) (h8 : len ≤ 8) (hh : 64 ≤ hopping.length) :
    ∃ st, decode freq ma len hopping hoppLen si4 = .ok (0, st) ∧
      hoppingList st = select (servAt freq) ma ∧
      st.hoppLen = (select (servAt freq) ma).length ∧
      (∀ a ∈ hoppingList st, servAt freq a = true ∧ a < 1024) ∧
      Ordered (hoppingList st) ∧
      (hoppingList st).length ≤ 64 ∧
      st.hopping.length = hopping.length ∧
      st.hopping.drop st.hoppLen = hopping.drop st.hoppLen := by
  have hlen := select_length_le (servAt freq) ma
  have hhop := applySel_hopping si4 (select (servAt freq) ma)
    (if si4 then freq.map clearHopp else freq) [] hopping (by omega)
  have a0 := applySel_hoppLen si4 (select (servAt freq) ma)
    ⟨if si4 then freq.map clearHopp else freq, hopping, 0⟩
  simp only [Nat.zero_add, List.nil_append, List.length_nil] at a0 hhop
  have hlist : hoppingList (applySel si4 ⟨if si4 then freq.map clearHopp else freq, hopping, 0⟩
      (select (servAt freq) ma)) = select (servAt freq) ma := by
    rw [hoppingList, a0, hhop, List.take_left' rfl]
  refine ⟨_, decode_eq_select freq ma len hopping hoppLen si4 hf hm h8 hh, hlist, a0, ?_, ?_, ?_, ?_, ?_⟩
  · rw [hlist]
    exact fun a ha => mem_caList ((select_sublist _ _).subset ha)
  · rw [hlist]
    exact List.Pairwise.sublist (select_sublist _ _) (caList_ordered _)
  · rw [hlist]; omega
  · rw [hhop, List.length_append, List.length_drop]; omega
  · rw [a0, hhop, List.drop_left' rfl]

/-- "Exactly the cell-allocation channels whose bit is set": membership in the selection. -/
theorem selected_iff (inCA : Nat → Bool) (ma : List Nat) (a : Nat) :
    a ∈ select inCA ma ↔ ∃ i, 1 ≤ i ∧ (caList inCA)[i - 1]? = some a ∧ maC ma i = true :=
  mem_select_iff inCA ma a

/-- The cell allocation frequency list of the specification is the cell allocation, ascending
with ARFCN 0 last. -/
theorem caList_is_cell_allocation (inCA : Nat → Bool) :
    Ordered (caList inCA) ∧ ∀ a, a ∈ caList inCA ↔ (inCA a = true ∧ a < 1024) := by
  refine ⟨caList_ordered inCA, fun a => ⟨mem_caList, ?_⟩⟩
  rintro ⟨h1, h2⟩
  simp only [caList, List.mem_append, List.mem_filter, List.mem_range'_1]
  by_cases h0 : a = 0
  · subst h0; right; simp only [h1, if_true, List.mem_singleton]
  · left; exact ⟨by omega, h1⟩

/-- "ARFCN 0 last" (TS 44.018 10.5.2.21), as a statement about the selection: when ARFCN 0 belongs to the
cell allocation it is the LAST entry of the cell allocation frequency list, so it hops exactly when the
bit MA C n of the last position n = |CA| is set (for 64 channels and 8 octets: the MSB of the first octet),
whatever the other channels and bits are. -/
theorem arfcn0_last (inCA : Nat → Bool) (ma : List Nat) (h0 : inCA 0 = true) :
    (caList inCA)[(caList inCA).length - 1]? = some 0 ∧
    (0 ∈ select inCA ma ↔ maC ma (caList inCA).length = true) := by
  have hca : caList inCA = (List.range' 1 1023).filter inCA ++ [0] := by
    simp only [caList, h0, if_true]
  have hnot : ∀ k : Nat, ((List.range' 1 1023).filter inCA)[k]? ≠ some 0 := by
    intro k hk
    have := List.mem_of_getElem? hk
    simp only [List.mem_filter, List.mem_range'_1] at this
    omega
  have hlen : (caList inCA).length = ((List.range' 1 1023).filter inCA).length + 1 := by
    rw [hca, List.length_append, List.length_singleton]
  have hlast : (caList inCA)[(caList inCA).length - 1]? = some 0 := by
    rw [hlen, hca, Nat.add_sub_cancel, List.getElem?_append_right (Nat.le_refl _), Nat.sub_self]
    rfl
  refine ⟨hlast, ?_⟩
  rw [selected_iff]
  constructor
  · rintro ⟨i, hi, hget, hbit⟩
    have : i = (caList inCA).length := by
      rw [hca] at hget
      by_cases hlt : i - 1 < ((List.range' 1 1023).filter inCA).length
      · rw [List.getElem?_append_left hlt] at hget
        exact absurd hget (hnot _)
      · have hge : ((List.range' 1 1023).filter inCA).length ≤ i - 1 := by omega
        rw [List.getElem?_append_right hge] at hget
        generalize hk : i - 1 - ((List.range' 1 1023).filter inCA).length = k at hget
        cases k with
        | zero => omega
        | succ m => simp at hget
    rw [← this]; exact hbit
  · intro hbit
    exact ⟨(caList inCA).length, by omega, hlast, hbit⟩

/-- **The `freq[].mask` update** (same hypotheses): without `si4` no mask changes; with `si4`
FREQ_TYPE_HOPP is cleared everywhere and set exactly on the decoded channels, all other bits
keep their value. -/
theorem decode_ma_masks (freq ma : List Nat) (len : Nat) (hopping : List Nat) (hoppLen : Nat) (si4 : Bool)
    (hf : freq.length = 1024) (hm : ma.length = len) (h8 : len ≤ 8) (hh : 64 ≤ hopping.length) :
    ∃ st, decode freq ma len hopping hoppLen si4 = .ok (0, st) ∧ st.freq.length = 1024 ∧
      ∀ a, st.freq[a]? = (freq[a]?).map fun m =>
        if si4 then (if a ∈ select (servAt freq) ma then setHopp (clearHopp m) else clearHopp m) else m := by
  refine ⟨_, decode_eq_select freq ma len hopping hoppLen si4 hf hm h8 hh, ?_, ?_⟩
  · rw [applySel_freq_length]
    cases si4
    · exact hf
    · simp only [if_true, List.length_map, hf]
  · intro a
    cases si4
    · rw [applySel_freq_false]
      simp only [Bool.false_eq_true, if_false]
      cases freq[a]? <;> rfl
    · rw [applySel_freq_true]
      simp only [if_true, List.getElem?_map]
      by_cases hs : a ∈ select (servAt freq) ma
      · simp only [hs, if_true, Option.map_map]; rfl
      · simp only [hs, if_false]

/-- the two mask operations on an octet: only bit 1 (FREQ_TYPE_HOPP = 0x02) is affected -/
theorem mask_ops : ∀ m < 256, clearHopp m = m &&& 0xfd ∧ setHopp (clearHopp m) = (m &&& 0xfd) ||| 0x02 ∧
    isServ (clearHopp m) = isServ m := by
  decide +kernel

/-- **Longer bitmaps are rejected**: for `len > 8` (any `freq`, `ma`, `hopping` whatsoever) the
function returns `-EINVAL` (< 0) and `freq[]`, `hopping[]`, `*hopp_len` are untouched; no buffer is
accessed at all. -/
theorem decode_ma_reject (freq ma : List Nat) (len : Nat) (hopping : List Nat) (hoppLen : Nat) (si4 : Bool)
    (h : len > 8) :
    decode freq ma len hopping hoppLen si4 = .ok (-(einval : Int), ⟨freq, hopping, hoppLen⟩) ∧
      -(einval : Int) < 0 := by
  refine ⟨decode_reject freq ma len hopping hoppLen si4 h, ?_⟩
  have : 0 < einval := by decide
  omega

/-- **No bitmap makes the decoder leave its buffers**: for ALL `freq[1024]` contents (every cell
allocation, of any size, with or without ARFCN 0), all `len`, all bitmap contents (the `ma`
object holding at least the `len` octets the function may look at) and every `hopping` buffer of
at least 64 entries, the function returns normally: no read or write outside `f`, `hopping`,
`freq`, `ma`, no use of an indeterminate `f[i]`, no zero-sized VLA, and all loops terminate. -/
theorem decode_ma_bounds (freq ma : List Nat) (len : Nat) (hopping : List Nat) (hoppLen : Nat) (si4 : Bool)
    (hf : freq.length = 1024) (hl : len ≤ 8 → len ≤ ma.length) (hh : 64 ≤ hopping.length) :
    ∃ rc st, decode freq ma len hopping hoppLen si4 = .ok (rc, st) := by
  by_cases h8 : len ≤ 8
  · exact ⟨_, _, decode_ok freq ma len hopping hoppLen si4 hf (hl h8) h8 hh⟩
  · exact ⟨_, _, decode_reject freq ma len hopping hoppLen si4 (by omega)⟩

/-- **An empty bitmap yields an empty list** (whatever the cell allocation): return 0,
`*hopp_len = 0`, `hopping[]` untouched (observation F7: a scan not bounded by `j < (len << 3)` writes the
cell allocation behind a zero-sized `f` here). -/
theorem empty_bitmap (freq ma : List Nat) (hopping : List Nat) (hoppLen : Nat) (si4 : Bool)
    (hf : freq.length = 1024) (hh : 64 ≤ hopping.length) :
    decode freq ma 0 hopping hoppLen si4 =
      .ok (0, ⟨if si4 then freq.map clearHopp else freq, hopping, 0⟩) := by
  rw [decode_ok freq ma 0 hopping hoppLen si4 hf (Nat.zero_le _) (by decide) hh]
  rfl

/-- **A bit pointing beyond the cell allocation ends decoding**: the function still returns 0,
the list holds the channels selected so far (bits 1..NF, NF = size of the cell allocation list;
at most NF entries), and whatever the bitmap contains after position NF has no influence on the
result at all. -/
theorem beyond_ca_ends (freq ma ma' : List Nat) (len : Nat) (hopping : List Nat) (hoppLen : Nat) (si4 : Bool)
    (hf : freq.length = 1024) (hm : ma.length = len) (hm' : ma'.length = len) (h8 : len ≤ 8)
    (hh : 64 ≤ hopping.length)
    (hsame : ∀ k, 1 ≤ k → k ≤ (caList (servAt freq)).length → maC ma' k = maC ma k) :
    (∃ st, decode freq ma len hopping hoppLen si4 = .ok (0, st) ∧
       st.hoppLen ≤ (caList (servAt freq)).length) ∧
    decode freq ma' len hopping hoppLen si4 = decode freq ma len hopping hoppLen si4 := by
  constructor
  · refine ⟨_, decode_eq_select freq ma len hopping hoppLen si4 hf hm h8 hh, ?_⟩
    rw [applySel_hoppLen]
    have := (select_length_le (servAt freq) ma).2
    simp only [Nat.zero_add]
    exact this
  · rw [decode_eq_select freq ma len hopping hoppLen si4 hf hm h8 hh,
      decode_eq_select freq ma' len hopping hoppLen si4 hf hm' h8 hh,
      select_congr (servAt freq) ma ma' hsame]

/-! ### non-vacuity

The hypotheses are satisfiable by the interesting inputs, and the conclusions are what the model
returns on them (`run_model`: the model's result obtained through `decode_ma_spec`, the selection
itself evaluated by the kernel).  The same request lines are part of the correspondence with the
real C function (props/C20.py: FIXED). -/

/-- the observable result of the model on a concrete cell allocation (`mkFreq p`: `freq[1024]`
with FREQ_TYPE_SERV on the ARFCNs satisfying `p`) -/
theorem run_model (p : Nat → Bool) (ma hop : List Nat) (hl : Nat) (si4 : Bool) (sel : List Nat)
    (hm : ma.length ≤ 8) (hh : 64 ≤ hop.length)
    (hs : select (fun a => decide (a < 1024) && p a) ma = sel) :
    obs (decode (mkFreq p) ma ma.length hop hl si4) = some (0, sel.length, sel) := by
  obtain ⟨st, h1, h2, h3, _⟩ := decode_ma_spec (mkFreq p) ma ma.length hop hl si4
    (mkFreq_length p) rfl hm hh
  rw [servAt_mkFreq, hs] at h2 h3
  simp only [h1, obs, h2, h3]

/-- a cell allocation with ARFCN 0: ARFCN 0 is the LAST entry of the list (MA C 4 here) -/
example : obs (decode (mkFreq [0, 10, 20, 30].contains) [0x0b] 1 (List.replicate 64 0xffff) 0xaa true)
    = some (0, 3, [10, 20, 0]) :=
  run_model [0, 10, 20, 30].contains [0x0b] (List.replicate 64 0xffff) 0xaa true [10, 20, 0] (by decide) (by decide)
    (select_below _ 30 _ [10, 20, 30, 0] _ (by decide) (fun a h => by simp; omega) (by decide +kernel)
      (by decide +kernel))

/-- a 64-entry cell allocation (ARFCN 1..64) and an all-ones bitmap of 8 octets: 64 entries -/
example : obs (decode (mkFreq fun a => 1 ≤ a && a ≤ 64) (List.replicate 8 0xff) 8 (List.replicate 64 0xffff) 0xaa false)
    = some (0, 64, List.range' 1 64) :=
  run_model (fun a => 1 ≤ a && a ≤ 64) (List.replicate 8 0xff) (List.replicate 64 0xffff) 0xaa false
    (List.range' 1 64) (by decide) (by decide)
    (select_below _ 64 _ (List.range' 1 64) _ (by decide) (fun a h => by simp; omega) (by decide +kernel)
      (by decide +kernel))

/-- a 64-entry cell allocation containing ARFCN 0 (0..63): ARFCN 0 is entry 64, selected by the
MSB of the first octet -/
example : obs (decode (mkFreq fun a => a ≤ 63) [0x80, 0, 0, 0, 0, 0, 0, 0x01] 8 (List.replicate 64 0xffff) 0xaa true)
    = some (0, 2, [1, 0]) :=
  run_model (fun a => a ≤ 63) [0x80, 0, 0, 0, 0, 0, 0, 0x01] (List.replicate 64 0xffff) 0xaa true [1, 0]
    (by decide) (by decide)
    (select_below _ 63 _ (List.range' 1 63 ++ [0]) _ (by decide) (fun a h => by simp; omega) (by decide +kernel)
      (by decide +kernel))

/-- a cell allocation of more than 64 channels (outside the property's quantifier, but inside the
theorems): only the first 64 of the list can be selected, the output still has at most 64 entries -/
example : obs (decode (mkFreq fun a => a < 80) (List.replicate 8 0xff) 8 (List.replicate 64 0xffff) 0xaa true)
    = some (0, 64, List.range' 1 64) :=
  run_model (fun a => a < 80) (List.replicate 8 0xff) (List.replicate 64 0xffff) 0xaa true (List.range' 1 64)
    (by decide) (by decide)
    (select_below _ 79 _ (List.range' 1 79 ++ [0]) _ (by decide) (fun a h => by simp; omega) (by decide +kernel)
      (by decide +kernel))

/-- a bit beyond the cell allocation (MA C 4 with 3 cell channels) ends decoding without error;
the premises of `beyond_ca_ends` hold for the bitmaps 0x0d and 0xfd -/
example : bitBeyond (fun a => decide (a < 1024) && [10, 20, 30].contains a) [0x0d] = true ∧
    obs (decode (mkFreq [10, 20, 30].contains) [0x0d] 1 (List.replicate 64 0xffff) 0xaa true)
      = some (0, 2, [10, 30]) ∧
    (∀ k < 4, 1 ≤ k → maC [0xfd] k = maC [0x0d] k) := by
  have hp : ∀ a, 30 < a → (decide (a < 1024) && [10, 20, 30].contains a) = false := fun a h => by simp; omega
  refine ⟨?_, ?_, by decide⟩
  · rw [bitBeyond, caList_below _ 30 (by decide) hp]; decide +kernel
  · exact run_model [10, 20, 30].contains [0x0d] (List.replicate 64 0xffff) 0xaa true [10, 30] (by decide) (by decide)
      (select_below _ 30 _ [10, 20, 30] _ (by decide) (fun a h => by simp; omega) (by decide +kernel) (by decide))

/-- bit order: MA C 1 is the LSB of the LAST octet, MA C 10 is bit 2 of the octet before -/
example : obs (decode (mkFreq fun a => 100 ≤ a && a < 112) [0x02, 0x01] 2 (List.replicate 64 0xffff) 0xaa false)
    = some (0, 2, [100, 109]) :=
  run_model (fun a => 100 ≤ a && a < 112) [0x02, 0x01] (List.replicate 64 0xffff) 0xaa false [100, 109]
    (by decide) (by decide)
    (select_below _ 111 _ (List.range' 100 12) _ (by decide) (fun a h => by simp; omega) (by decide +kernel)
      (by decide +kernel))

/-- a 9-octet bitmap is rejected with everything untouched (direct evaluation of the model) -/
example : obs (decode (mkFreq [1, 2, 3].contains) (List.replicate 9 0xff) 9 (List.replicate 64 0xffff) 0xaa true)
    = some (-22, 0xaa, List.replicate 64 0xffff) := by decide +kernel

/-- the fault outcomes are reachable when a premise of `decode_ma_bounds` is dropped (direct
evaluation of the model): a `freq` array of 5 entries is read at index 5, a `hopping` buffer of
one entry is written at index 1, a bitmap object shorter than `len` is read outside -/
example : faultOf (decode (List.replicate 5 1) [0xff] 1 (List.replicate 64 0) 0 false)
      = some (.oobRead .freq 5) ∧
    faultOf (decode (List.replicate 1024 1) [0xff] 1 [0] 0 false) = some (.oobWrite .hopping 1) ∧
    faultOf (decode (List.replicate 1024 1) [] 1 (List.replicate 64 0) 0 false) = some (.oobRead .ma 0) := by
  decide +kernel

end OsmoVerif.Props.C20
