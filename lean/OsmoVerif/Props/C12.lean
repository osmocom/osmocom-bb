/-
C12 — Power state, child transceivers and clock distribution stay consistent.
Property theorems only; model: `OsmoVerif.Model.World` (transceiver.py power_event_handler,
ctrl_if_trx.py POWERON/POWEROFF, fake_trx.py Application wiring, clck_gen.py as flags),
spec definitions: `OsmoVerif.Spec.WorldPower`, lemmas: `OsmoVerif.Lemmas.World{Power,Wiring,Inv}`.
-/
import OsmoVerif.Lemmas.WorldInv

namespace OsmoVerif.Props.C12
open OsmoVerif OsmoVerif.World OsmoVerif.PyStr OsmoVerif.WorldPower

/-! ### 1. wiring -/

/-- `Application.__init__` produces a well-wired application in its initial state. -/
theorem wiring_wf {seed : Nat} {extra : List (Nat × Nat × Nat)} {w : World}
    (h : build seed extra = .ok w) : WF w ∧ Initial w :=
  build_wf h

/-- No operation whatsoever changes the wiring. -/
theorem wf_step {w : World} (h : WF w) (op : Op) : WF (step w op).world :=
  h.step op

theorem wf_run {w : World} (h : WF w) (ops : List Op) : WF (run w ops).1 := by
  induction ops generalizing w with
  | nil => exact h
  | cons op ops ih => rw [run_cons_world]; exact ih (h.step op)

/-! ### 2. one step -/

/-- Effect of any operation on the power state of any transceiver `k` (no hypothesis on the world):
an accepted POWERON addressed to `j` switches on `j` and, when `j` manages them, its children;
a POWEROFF addressed to `j` switches the same set off; nothing else changes any `running` flag. -/
theorem power_step (w : World) (op : Op) (k : Nat) :
    runningOf (step w op).world k =
      match powerCmd op with
      | some (j, true) =>
        if accepted w j && affects w j k then (runningOf w k).map (fun _ => true) else runningOf w k
      | some (j, false) =>
        if affects w j k then (runningOf w k).map (fun _ => false) else runningOf w k
      | none => runningOf w k :=
  runningOf_step w op k

/-- Every operation that is not a POWERON/POWEROFF command (any other command, malformed or
undecodable control datagrams, data datagrams, ticks, jumps) leaves every `running` flag alone. -/
theorem other_ops_keep_power (w : World) (op : Op) (h : powerCmd op = none) (k : Nat) :
    runningOf (step w op).world k = runningOf w k := by
  rw [power_step, h]

/-- ... nor the clock state: the links and the generator flag stay, and `clck_src` stays defined. -/
theorem other_ops_keep_clock (w : World) (op : Op) (h : powerCmd op = none) :
    (step w op).world.clkLinks = w.clkLinks ∧ (step w op).world.clkRunning = w.clkRunning ∧
    (w.clkSrc.isSome = true → (step w op).world.clkSrc.isSome = true) :=
  ⟨(step_no_power h).hlinks, (step_no_power h).hclk, (step_no_power h).hsrc⟩

/-- The wiring of every transceiver (address, ports, child index, children, clock ownership) is
never changed by any operation at all. -/
theorem wiring_never_changes (w : World) (op : Op) :
    (step w op).world.trxs.map wiring = w.trxs.map wiring :=
  step_wiring w op

/-- The acceptance of POWERON is visible in the (single) reply datagram. -/
theorem poweron_reply {w : World} {op : Op} {j : Nat} {t : Trx} (h : powerCmd op = some (j, true))
    (hw : w.trxs[j]? = some t) :
    ∃ sp d, op = .ctrl j sp d ∧ (step w op).exc = none ∧ (step w op).out =
      [⟨t.ctrlPort, t.addr, sp, if accepted w j then rspPowerOnOk else rspPowerOnFail⟩] := by
  obtain ⟨sp, d, ho, hs⟩ := step_poweron h hw
  refine ⟨sp, d, ho, ?_⟩
  rw [hs]
  cases accepted w j <;> exact ⟨rfl, rfl⟩

/-- POWEROFF is always answered `RSP POWEROFF 0`. -/
theorem poweroff_reply {w : World} {op : Op} {j : Nat} {t : Trx} (h : powerCmd op = some (j, false))
    (hw : w.trxs[j]? = some t) :
    ∃ sp d, op = .ctrl j sp d ∧ (step w op).exc = none ∧ (step w op).out =
      [⟨t.ctrlPort, t.addr, sp, rspPowerOffOk⟩] := by
  obtain ⟨sp, d, ho, hs⟩ := step_poweroff h hw
  exact ⟨sp, d, ho, by rw [hs], by rw [hs]⟩

/-- the literal reply octets are the encoded protocol strings -/
theorem reply_octets :
    rspPowerOnOk = encodeUtf8 (lit "RSP POWERON 0\x00") ∧
    rspPowerOnFail = encodeUtf8 (lit "RSP POWERON -1\x00") ∧
    rspPowerOffOk = encodeUtf8 (lit "RSP POWEROFF 0\x00") := by
  decide +kernel

/-! ### 3. histories: last effective power command -/

/-- After any history from a built application, a transceiver is running iff the last effective
power command for it (its own, or its managing parent's) was an accepted POWERON. -/
theorem running_iff_last_power {seed : Nat} {extra : List (Nat × Nat × Nat)} {w : World}
    (h : build seed extra = .ok w) (ops : List Op) (k : Nat) :
    runningOf (run w ops).1 k = if k < w.trxs.length then some (specRunning w ops k) else none := by
  obtain ⟨-, ini⟩ := wiring_wf h
  have h0 : ∀ (k : Nat) (t : Trx), w.trxs[k]? = some t → t.running = (fun _ => false) k :=
    fun k t ht => (ini.not_running k (lt_of_getElem? ht) t ht).1
  unfold runningOf
  split
  next hk =>
    have hk' : k < (run w ops).1.trxs.length := by rw [run_length]; exact hk
    rw [List.getElem?_eq_getElem hk', Option.map_some]
    exact congrArg some (spec_run_inv ops w _ h0 k _ (List.getElem?_eq_getElem hk'))
  next hk =>
    have hk' : ¬ k < (run w ops).1.trxs.length := by rw [run_length]; exact hk
    rw [List.getElem?_eq_none (by omega)]; rfl

/-! ### 4. clock links and the shared generator -/

/-- The clock invariant holds in the initial state. -/
theorem clock_inv_initial {w : World} (h : Initial w) : ClockInv w :=
  ClockInv.of_initial h

/-- The clock invariant is preserved by every operation from any well-wired world (reachable or
not). -/
theorem clock_inv_step {w : World} (wf : WF w) (inv : ClockInv w) (op : Op) :
    ClockInv (step w op).world :=
  inv.step wf op

/-- In every reachable world `clck_links` holds exactly the running clock owners, each once. -/
theorem clock_links_inv {w : World} (h : Reachable w) :
    (∀ i : Nat, i ∈ w.clkLinks ↔ ∃ t, w.trxs[i]? = some t ∧ t.hasClock = true ∧ t.running = true) ∧
    w.clkLinks.Nodup :=
  ⟨(reachable_inv h).2.links_iff, (reachable_inv h).2.links_nodup⟩

/-- In every reachable world the shared generator runs iff there is a clock link, and `clck_src`
exists while it runs. -/
theorem clock_runs_iff {w : World} (h : Reachable w) :
    (w.clkRunning = true ↔ w.clkLinks ≠ []) ∧ (w.clkRunning = true → w.clkSrc.isSome = true) :=
  ⟨(reachable_inv h).2.runs_iff, (reachable_inv h).2.src⟩

/-- the generator runs iff at least one clock-owning transceiver is running -/
theorem clock_runs_iff_owner_running {w : World} (h : Reachable w) :
    w.clkRunning = true ↔
      ∃ (i : Nat) (t : Trx), w.trxs[i]? = some t ∧ t.hasClock = true ∧ t.running = true := by
  obtain ⟨-, inv⟩ := reachable_inv h
  rw [inv.runs_iff]
  constructor
  · intro hne
    cases hl : w.clkLinks with
    | nil => exact absurd hl hne
    | cons i l =>
      have : i ∈ w.clkLinks := by rw [hl]; exact List.mem_cons_self
      obtain ⟨t, ht⟩ := (inv.links_iff i).mp this
      exact ⟨i, t, ht⟩
  · rintro ⟨i, t, ht⟩ hl
    have := (inv.links_iff i).mpr ⟨t, ht⟩
    rw [hl] at this; cases this

/-- the clock links are, up to order, the running clock owners of the application -/
theorem links_perm_owners {w : World} (h : Reachable w) :
    w.clkLinks.Perm (runningClockOwnerIdx w) := by
  obtain ⟨-, inv⟩ := reachable_inv h
  apply (List.perm_ext_iff_of_nodup inv.links_nodup
    (List.nodup_range.filter _)).mpr
  intro i
  rw [inv.links_iff]
  simp only [List.mem_filter, List.mem_range, isRunningClockOwner]
  constructor
  · rintro ⟨t, ht, h1, h2⟩
    have ht' : w.trxs[i]? = some t := ht
    exact ⟨lt_of_getElem? ht', by rw [ht']; simp [h1, h2]⟩
  · rintro ⟨-, hb⟩
    cases ht : w.trxs[i]? with
    | none => rw [ht] at hb; cases hb
    | some t =>
      rw [ht] at hb
      simp only [Bool.and_eq_true] at hb
      exact ⟨t, rfl, hb.1, hb.2⟩

/-- While the generator runs `clck_src` exists: a tick never takes the AttributeError branch
(it is the clock handler loop over the indications of the model). -/
theorem tick_no_attribute_error {w : World} (h : Reachable w) (hr : w.clkRunning = true) :
    ∃ fn, w.clkSrc = some fn ∧
      tick w = tick.go fn w (modelInds w fn) 0 (List.range w.trxs.length) := by
  obtain ⟨-, inv⟩ := reachable_inv h
  have := inv.src hr
  cases hs : w.clkSrc with
  | none => rw [hs] at this; cases this
  | some fn => exact ⟨fn, rfl, tick_eq_go hr hs⟩

/-! ### 5. destinations of the clock indications -/

/-- In a reachable world the indication list of the model is the list the property demands:
one `IND CLOCK <fn>` per clock link (= running clock owner), from its clock socket to base port
+100 of its peer, every `indPeriod` frames. -/
theorem model_inds_eq {w : World} (h : Reachable w) (fn : Nat) : modelInds w fn = clockInds w fn := by
  obtain ⟨-, inv⟩ := reachable_inv h
  unfold modelInds clockInds
  split
  · exact (filterMap_links _ _ (fun i hi => (inv.links_iff i).mp hi)).1
  · rfl

/-- the transceivers indicated to are exactly those at the clock links, one per link, in order -/
theorem owners_of_links {w : World} (h : Reachable w) :
    (runningClockOwners w w.clkLinks).map some = w.clkLinks.map (fun i => w.trxs[i]?) := by
  obtain ⟨-, inv⟩ := reachable_inv h
  exact (filterMap_links (fun t => ⟨0, 0, 0, []⟩) _ (fun i hi => (inv.links_iff i).mp hi)).2

/-- At a tick of frame `fn` the datagrams emitted are the clock indications demanded by the
property (`clockInds`: to the links of the running clock owners, none off-period), followed only
by datagrams of DATA sockets. -/
theorem ind_destinations {w : World} (h : Reachable w) {fn : Nat} (hr : w.clkRunning = true)
    (hs : w.clkSrc = some fn) :
    ∃ rest, (tick w).out = clockInds w fn ++ rest ∧ ∀ d ∈ rest, IsDataDgram w d := by
  rw [show tick w = _ from tick_eq_go hr hs, show Sched.clockInds w fn = modelInds w fn from rfl, ← model_inds_eq h]
  obtain ⟨w1, extra, -, ho, hd, -⟩ := tick_go_post fn (List.range w.trxs.length) w (modelInds w fn) 0
  exact ⟨extra, ho, hd⟩

theorem ind_on_period (w : World) {fn : Nat} (hp : fn % Gen.World.indPeriod = 0) :
    clockInds w fn = (runningClockOwners w w.clkLinks).map
      (fun t => ⟨t.clckPort, t.addr, t.clckRemote, encodeUtf8 (lit "IND CLOCK " ++ natDigits fn ++ [0])⟩) := by
  unfold clockInds
  rw [if_pos hp]; rfl

theorem ind_off_period (w : World) {fn : Nat} (hp : fn % Gen.World.indPeriod ≠ 0) :
    clockInds w fn = [] := by
  unfold clockInds
  rw [if_neg hp]

/-- the indication period of the protocol description (every 102 frames) -/
theorem ind_period_value : Gen.World.indPeriod = 102 := by decide

/-- While the generator does not run a tick emits nothing and changes nothing. -/
theorem tick_idle {w : World} (hr : w.clkRunning = false) : tick w = { world := w } :=
  tick_stopped hr

/-! ### 6. POWEROFF forgets -/

/-- After a POWEROFF addressed to `j`, every transceiver it acts on (`j`, and the children `j`
manages) has no hopping parameters, an empty transmit queue, and is not running. -/
theorem poweroff_forgets {w : World} {op : Op} {j : Nat} (h : powerCmd op = some (j, false)) {k : Nat}
    (ha : affects w j k = true) (t' : Trx) (ht' : (step w op).world.trxs[k]? = some t') :
    t'.fh = none ∧ t'.txQueue = [] ∧ t'.running = false := by
  rw [step_power_world h, if_pos (.inl rfl), powerAt_getElem?, if_pos ha] at ht'
  obtain ⟨t0, -, rfl⟩ := Option.map_eq_some_iff.mp ht'
  exact powerUpd_off t0

/-- ... and the affected transceivers exist -/
theorem poweroff_affected_exist {w : World} (wf : WF w) {j : Nat} {t : Trx} (hw : w.trxs[j]? = some t)
    (op : Op) {k : Nat} (ha : affects w j k = true) : ∃ t', (step w op).world.trxs[k]? = some t' := by
  have hk : k < w.trxs.length := by
    by_cases hkj : k = j
    · subst hkj; exact lt_of_getElem? hw
    · obtain ⟨tc, htc, -⟩ := affects_child wf hw ha hkj
      exact lt_of_getElem? htc
  rw [← step_length w op] at hk
  exact ⟨_, List.getElem?_eq_getElem hk⟩

/-! ### 7. port plan -/

/-- port plan of any transceiver record (the protocol's numbers, literally) -/
theorem port_plan_trx (t : Trx) :
    t.clckPort = t.basePort ∧ t.ctrlPort = t.basePort + 1 + 2 * t.childIdx ∧
    t.dataPort = t.basePort + 2 + 2 * t.childIdx ∧
    t.clckRemote = t.basePort + 100 ∧ t.ctrlRemote = t.basePort + 101 + 2 * t.childIdx ∧
    t.dataRemote = t.basePort + 102 + 2 * t.childIdx := by
  refine ⟨?_, ?_, ?_, ?_, ?_, ?_⟩ <;>
    simp only [Trx.clckPort, Trx.ctrlPort, Trx.dataPort, Trx.clckRemote, Trx.ctrlRemote, Trx.dataRemote] <;>
    omega

/-- local ports of two different transceivers on the same remote address / base port are distinct -/
theorem ports_distinct_wf {w : World} (wf : WF w) {i j : Nat} {ti tj : Trx} (hi : w.trxs[i]? = some ti)
    (hj : w.trxs[j]? = some tj) (hij : i ≠ j) (ha : ti.addr = tj.addr) (hb : ti.basePort = tj.basePort) :
    ti.ctrlPort ≠ tj.ctrlPort ∧ ti.dataPort ≠ tj.dataPort ∧ ti.ctrlPort ≠ tj.dataPort ∧
    ti.dataPort ≠ tj.ctrlPort ∧ ti.ctrlPort ≠ tj.clckPort ∧ ti.dataPort ≠ tj.clckPort ∧
    ¬ (ti.hasClock = true ∧ tj.hasClock = true) := by
  have hc : ti.childIdx ≠ tj.childIdx := fun hc =>
    hij (wf.distinct i (lt_of_getElem? hi) j (lt_of_getElem? hj) ti hi tj hj ha hb hc)
  obtain ⟨p1, p2, p3, p4, p5, p6⟩ := ports_ne (b := tj.basePort) hc
  simp only [Trx.clckPort, Trx.ctrlPort, Trx.dataPort, hb]
  refine ⟨p1, p2, p3, p4, p5, p6, ?_⟩
  rintro ⟨h1, h2⟩
  exact hc (((wf.clock_iff i (lt_of_getElem? hi) ti hi).mp h1).trans
    ((wf.clock_iff j (lt_of_getElem? hj) tj hj).mp h2).symm)

/-- Port plan of a built application: clock on the base port, control / data on base + 1 + 2·idx /
base + 2 + 2·idx, every remote port = local port + 100; BTS first on 5700, MS second on 6700; on one
address and base port no two transceivers share a local port and at most one owns the clock. -/
theorem port_plan {seed : Nat} {extra : List (Nat × Nat × Nat)} {w : World}
    (h : build seed extra = .ok w) :
    (∀ t ∈ w.trxs, t.clckPort = t.basePort ∧ t.ctrlPort = t.basePort + 1 + 2 * t.childIdx ∧
      t.dataPort = t.basePort + 2 + 2 * t.childIdx ∧
      t.clckRemote = t.clckPort + 100 ∧ t.ctrlRemote = t.ctrlPort + 100 ∧
      t.dataRemote = t.dataPort + 100 ∧
      t.clckPort ≠ t.ctrlPort ∧ t.clckPort ≠ t.dataPort ∧ t.ctrlPort ≠ t.dataPort) ∧
    (∃ bts ∈ w.trxs[0]?, bts.basePort = 5700 ∧ bts.childIdx = 0 ∧ bts.hasClock = true ∧
      bts.childMgt = Gen.World.btsChildMgt) ∧
    (∃ ms ∈ w.trxs[1]?, ms.basePort = 6700 ∧ ms.childIdx = 0 ∧ ms.hasClock = true ∧
      ms.childMgt = Gen.World.msChildMgt) ∧
    (∀ (i j : Nat) (ti tj : Trx), w.trxs[i]? = some ti → w.trxs[j]? = some tj → i ≠ j →
      ti.addr = tj.addr → ti.basePort = tj.basePort →
      ti.ctrlPort ≠ tj.ctrlPort ∧ ti.dataPort ≠ tj.dataPort ∧ ti.ctrlPort ≠ tj.dataPort ∧
      ti.dataPort ≠ tj.ctrlPort ∧ ti.ctrlPort ≠ tj.clckPort ∧ ti.dataPort ≠ tj.clckPort ∧
      ¬ (ti.hasClock = true ∧ tj.hasClock = true)) := by
  obtain ⟨wf, -⟩ := wiring_wf h
  refine ⟨?_, ?_, ?_, fun i j ti tj hi hj => ports_distinct_wf wf hi hj⟩
  · intro t _
    refine ⟨?_, ?_, ?_, ?_, ?_, ?_, ?_, ?_, ?_⟩ <;>
      simp only [Trx.clckPort, Trx.ctrlPort, Trx.dataPort, Trx.clckRemote, Trx.ctrlRemote, Trx.dataRemote] <;>
      omega
  · obtain ⟨t, ht, -, h2, h3, h4, h5⟩ := wf.bts
    exact ⟨t, ht, h2, h3, h5, h4⟩
  · obtain ⟨t, ht, -, h2, h3, h4, h5⟩ := wf.ms
    exact ⟨t, ht, h2, h3, h5, h4⟩

/-! ### non-vacuity: a concrete application with a child, and a short history -/

/-- a control datagram carrying the ASCII text `s` -/
def cmd (s : String) : List Nat := encodeUtf8 (lit s)

/-- BTS (0, manages children), MS (1), child 1 of the BTS (2), an extra parent on port 7700 (3) -/
def exWorld : World :=
  match build 0 [(1, 5700, 1), (3, 7700, 0)] with
  | .ok w => w
  | .error _ => { trxs := [] }

def exHistory : List Op :=
  [ .ctrl 0 5801 (cmd "CMD POWERON\x00"),          -- refused: not tuned
    .ctrl 0 5801 (cmd "CMD RXTUNE 935000\x00"),
    .ctrl 0 5801 (cmd "CMD TXTUNE 890000\x00"),
    .ctrl 0 5801 (cmd "CMD POWERON\x00"),          -- accepted: BTS and its child 2 run, clock starts
    .ctrl 2 5803 (cmd "CMD POWEROFF\x00"),         -- the child alone is switched off
    .tick,
    .ctrl 0 5801 (cmd "CMD POWEROFF\x00") ]        -- clock stops

example : build 0 [(1, 5700, 1), (3, 7700, 0)] = .ok exWorld := rfl
example : exWorld.trxs.length = 4 := by decide +kernel
example : (exHistory.map powerCmd) = [some (0, true), none, none, some (0, true), some (2, false), none, some (0, false)] := by
  decide +kernel
example : (List.range 4).map (runningOf (run exWorld (exHistory.take 4)).1) = [some true, some false, some true, some false] := by decide +kernel

/-- the example world is built, well wired and initial; the history is reachable -/
example : WF exWorld ∧ Initial exWorld := wiring_wf (seed := 0) (extra := [(1, 5700, 1), (3, 7700, 0)]) rfl
example : WF exWorld := by decide +kernel
example : Reachable (run exWorld exHistory).1 :=
  ⟨0, [(1, 5700, 1), (3, 7700, 0)], exWorld, exHistory, rfl, rfl⟩
/-- the BTS manages its child 2 and nobody else; the child manages only itself -/
example : (List.range 4).map (affects exWorld 0) = [true, false, true, false] ∧
    (List.range 4).map (affects exWorld 2) = [false, false, true, false] := by decide +kernel
/-- POWERON of the untuned BTS is refused and answered -1; nothing runs -/
example : accepted exWorld 0 = false ∧
    (step exWorld (.ctrl 0 5801 (cmd "CMD POWERON\x00"))).out = [⟨5701, 1, 5801, rspPowerOnFail⟩] := by
  decide +kernel
/-- after tuning POWERON is accepted: parent 0 and child 2 run, the clock runs with one link -/
example :
    let w := (run exWorld (exHistory.take 3)).1
    accepted w 0 = true ∧ (step w (.ctrl 0 5801 (cmd "CMD POWERON\x00"))).out = [⟨5701, 1, 5801, rspPowerOnOk⟩] ∧
    let w' := (run exWorld (exHistory.take 4)).1
    (List.range 4).map (runningOf w') = [some true, some false, some true, some false] ∧
    w'.clkLinks = [0] ∧ w'.clkRunning = true ∧ w'.clkSrc = some 0 := by
  decide +kernel
/-- the child is then switched off individually (reply 0); the parent and the clock keep running,
and the tick sends one `IND CLOCK 0` from the BTS clock port 5700 to port 5800 -/
example :
    let w := (run exWorld (exHistory.take 5)).1
    (List.range 4).map (runningOf w) = [some true, some false, some false, some false] ∧
    w.clkLinks = [0] ∧ w.clkRunning = true ∧
    (tick w).out = [⟨5700, 1, 5800, encodeUtf8 (lit "IND CLOCK 0\x00")⟩] ∧
    clockInds w 0 = [⟨5700, 1, 5800, encodeUtf8 (lit "IND CLOCK 0\x00")⟩] := by
  decide +kernel
/-- POWEROFF of the BTS stops the clock; the spec fold agrees with the model along the way -/
example :
    let w := (run exWorld exHistory).1
    (List.range 4).map (runningOf w) = [some false, some false, some false, some false] ∧
    w.clkLinks = [] ∧ w.clkRunning = false ∧ (tick w).out = [] ∧
    (List.range 4).map (specRunning exWorld exHistory) = [false, false, false, false] ∧
    (List.range 4).map (specRunning exWorld (exHistory.take 4)) = [true, false, true, false] ∧
    (List.range 4).map (specRunning exWorld (exHistory.take 5)) = [true, false, false, false] := by
  decide +kernel
/-- a child can also be powered on individually: no clock link, the generator stays off -/
example :
    let w := (run exWorld [.ctrl 2 5803 (cmd "CMD RXTUNE 935000\x00"), .ctrl 2 5803 (cmd "CMD TXTUNE 890000\x00"),
      .ctrl 2 5803 (cmd "CMD POWERON\x00")]).1
    (List.range 4).map (runningOf w) = [some false, some false, some true, some false] ∧
    w.clkLinks = [] ∧ w.clkRunning = false := by
  decide +kernel
/-- queued bursts and hopping are forgotten by POWEROFF (hypotheses of `poweroff_forgets` are met) -/
example : powerCmd (.ctrl 0 5801 (cmd "CMD POWEROFF\x00")) = some (0, false) ∧ affects exWorld 0 2 = true := by
  decide +kernel
/-- a hopping configuration makes the BTS ready; POWEROFF forgets it again (parent and child) -/
example :
    let w := (run exWorld [.ctrl 0 5801 (cmd "CMD SETFH 1 0 935000 890000\x00"),
      .ctrl 2 5803 (cmd "CMD SETFH 1 0 935000 890000\x00"), .ctrl 0 5801 (cmd "CMD POWERON\x00")]).1
    (List.range 4).map (fun k => (w.trxs[k]?).map (fun t => (t.running, t.fh.isSome))) =
      [some (true, true), some (false, false), some (true, true), some (false, false)] ∧
    let w' := (step w (.ctrl 0 5801 (cmd "CMD POWEROFF\x00"))).world
    (List.range 4).map (fun k => (w'.trxs[k]?).map (fun t => (t.running, t.fh.isSome, t.txQueue.length))) =
      [some (false, false, 0), some (false, false, 0), some (false, false, 0), some (false, false, 0)] := by
  decide +kernel

end OsmoVerif.Props.C12
