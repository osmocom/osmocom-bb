/-
C20, chain part — the hopping list end to end: what `gsm48_decode_mobile_alloc` decodes is, after
layer23's conversion loop, the L1CTL message, trxcon's `CMD SETFH` text and the simulator's parsing,
the mobile allocation BOTH sides hop over: same channels, same order, nothing cut, same channel in
every frame.  Property theorems only.

Composition of theorems that exist (none of them is proved again):
  `Props.C20.decode_ma_spec`        decoder = selection of TS 44.018 §10.5.2.21, order of the standard
  `Props.Trxcon.trxcon_cmd_emits`, `setfh_len`, `setfh_enospc`, `setfh_fits_62`   trxcon's emitter
  `World.parseCmd_setfh_ok`, `World.handleRx_cmdText`   (the SETFH effect lemma behind `Props.C05.setfh_effect`
                                     and the reply form behind `Props.C05.reply_form`; taken from the Lemmas layer so
                                     that this module does not depend on the rest of the world proofs)
  `Props.C07.py_resolve_spec`, `fw_hop_spec`, `py_eq_fw`   simulator and firmware = TS 45.002 §6.2.3
with the glue of `Model/HopChain.lean` (layer23 `gsm48_rr_render_ma`, `l1ctl_tx_dm_est_req_h1`; trxcon
`l1ctl_proc_est_req_h1`, `handle_dch_est_req`; firmware `l1ctl_rx_dm_est_req`) in between.

Reading: `freq` = `s->freq[1024].mask` (cell allocation = entries with FREQ_TYPE_SERV), `ie` = value part
of the Mobile Allocation IE, `lv = len :: ie ++ pad` = `cd->mob_alloc_lv[9]`, `pcs` = the cell refers to
PCS 1900, `freqMap` = `set->freq_map`, `ma0` = the caller's `uint16_t ma[64]` before the call.
-/
import OsmoVerif.Lemmas.C20Chain
import OsmoVerif.Props.C20
import OsmoVerif.Props.C07
import OsmoVerif.Props.Trxcon

namespace OsmoVerif.Props.C20Chain
open OsmoVerif OsmoVerif.HopChain OsmoVerif.MobileAlloc OsmoVerif.Spec.MobileAlloc

/-- the decoded hopping list: the selection of TS 44.018 §10.5.2.21 (`Props.C20.decode_ma_spec`) -/
def decoded (freq ie : List Nat) : List Nat := select (servAt freq) ie

/-- … as band ARFCNs (layer23: 512..810 get the PCS flag when the cell refers to PCS 1900) -/
def band (pcs : Bool) (freq ie : List Nat) : List Nat := (decoded freq ie).map (toBand pcs)

/-- `CMD SETFH <hsn> <maio> <rx1> <tx1> … <rxN> <txN>\0`: decimal texts separated by single blanks,
(rx_i, tx_i) = 100·`gsm_arfcn2freq10`(channel i, downlink / uplink) in kHz, in the order of `chans` -/
def setfhDatagram (hsn maio : Nat) (chans : List Nat) : List Nat :=
  (World.TrxconCmd.setfh hsn maio (chans.map khzPair)).text

/-- `RSP SETFH 0 <hsn> <maio> <rx1> <tx1> … <rxN> <txN>\0` -/
def setfhReply (hsn maio : Nat) (chans : List Nat) : List Nat :=
  World.rspTextOf (PyStr.lit "SETFH") 0
    (PyStr.natDigits hsn :: PyStr.natDigits maio :: World.TrxconCmd.freqTexts (chans.map khzPair)) []

/-- The domain of the chain theorems (decidable): `freq[1024]`; an IE of 1..8 octets selecting at least
one channel; every selected channel lies in a band `gsm_arfcn2freq10` defines and is listed in the
phone's frequency map (otherwise layer23 refuses the assignment: `chain_unsupported`). -/
def Dom (freq ie : List Nat) (pcs : Bool) (freqMap : List Nat) : Prop :=
  freq.length = 1024 ∧ 1 ≤ ie.length ∧ ie.length ≤ 8 ∧ decoded freq ie ≠ [] ∧
  (∀ a ∈ decoded freq ie, TrxconIf.ValidArfcn (toBand pcs a)) ∧
  (∀ a ∈ decoded freq ie, freqSupported freqMap (arfcn2index (toBand pcs a)) = .ok true)

instance (freq ie : List Nat) (pcs : Bool) (freqMap : List Nat) : Decidable (Dom freq ie pcs freqMap) := by
  unfold Dom; infer_instance

/-- the Mobile Allocation text fits trxcon's `ma_buf[TRXC_BUF_SIZE - 24]` (999 characters + NUL):
14 characters per channel below 1 GHz, 16 per DCS 1800 / PCS 1900 channel -/
def Fits (pcs : Bool) (freq ie : List Nat) : Prop := (TrxconIf.maText (band pcs freq ie)).length ≤ 999

instance (pcs : Bool) (freq ie : List Nat) : Decidable (Fits pcs freq ie) := by unfold Fits; infer_instance

/-- the L1CTL_DM_EST_REQ hopping parameters for a channel list -/
def l1ctlMsg (hsn maio : Nat) (chans : List Nat) : L1ctlH1 :=
  { hsn := hsn, maio := maio, n := chans.length
    maOctets := chans.flatMap be16 ++ List.replicate (128 - 2 * chans.length) 0 }

/-- The regenerated data of the current tree the chain theorems speak about: the capacities of the
arrays the list passes through (`struct l1ctl_h1.ma[64]` of two-octet entries, trxcon's `h1.ma[64]`, the
firmware's `l1s.dedicated.h1.ma[64]`, the callers' `ma[64]`), the flag bits, the RR causes. -/
theorem tree_constants :
    Gen.HopChain.l1ctlMaCap = 64 ∧ Gen.HopChain.l1ctlMaElem = 2 ∧ l1ctlOctets = 128 ∧
    Gen.HopChain.trxconMaCap = 64 ∧ Gen.fwMaCapacity = 64 ∧ Gen.MobileAlloc.hoppingCap = 64 ∧
    Gen.HopChain.freqMapSize = 166 ∧ Gen.HopChain.mobAllocLvSize = 9 ∧
    arfcnPcs = 0x8000 ∧ arfcnFlagMask = 0xf000 ∧ causeNoCellAllocA = 0x65 ∧ causeFreqNotImpl = 0x08 := by decide

/-! ### facts about the decoded list (from `decode_ma_spec`) -/

theorem decoded_facts (freq ie : List Nat) :
    (ie.length ≤ 8 → (decoded freq ie).length ≤ 64) ∧ Ordered (decoded freq ie) ∧ (∀ a ∈ decoded freq ie, a < 1024) := by
  refine ⟨fun h8 => ?_, ?_, fun a ha => (mem_caList ((select_sublist _ _).subset ha)).2⟩
  · have := (select_length_le (servAt freq) ie).1
    simp only [decoded]; omega
  · exact List.Pairwise.sublist (select_sublist _ _) (caList_ordered _)

theorem band_facts (pcs : Bool) (freq ie : List Nat) :
    (band pcs freq ie).length = (decoded freq ie).length ∧
    (∀ b ∈ band pcs freq ie, b < 65536 ∧ u16 b = b) := by
  refine ⟨by simp only [band, List.length_map], ?_⟩
  intro b hb
  obtain ⟨a, ha, rfl⟩ := List.mem_map.mp hb
  exact toBand_lt pcs a ((decoded_facts freq ie).2.2 a ha)

/-! ### MS side: decoder → conversion loop → L1CTL message -/

/-- **layer23.** `gsm48_rr_render_ma` + `l1ctl_tx_dm_est_req_h1` on a Mobile Allocation IE: the
caller's `ma[0..N)` holds exactly the decoded list as band ARFCNs — same length, order of the standard
— the rest of `ma[64]` is untouched, and the L1CTL message carries HSN, MAIO, `n = N` and these
channels in network byte order, the rest of its `ma[64]` zero. -/
theorem chain_ms_side (freq ie pad : List Nat) (pcs : Bool) (freqMap ma0 : List Nat) (hsn maio : Nat)
    (hd : Dom freq ie pcs freqMap) (h0 : ma0.length = 64) (hh : hsn < 256) (hm : maio < 256) :
    renderMa 1 freq (ie.length :: ie ++ pad) pcs freqMap ma0 =
      .ok (.done ⟨0, band pcs freq ie ++ ma0.drop (decoded freq ie).length, (decoded freq ie).length⟩) ∧
    msPath freq (ie.length :: ie ++ pad) pcs freqMap ma0 hsn maio =
      .ok (.sent (band pcs freq ie) (l1ctlMsg hsn maio (band pcs freq ie))) := by
  obtain ⟨hf, hl1, hl8, hne, _, hsup⟩ := hd
  obtain ⟨hN', _, _⟩ := decoded_facts freq ie
  have hN := hN' hl8
  have hie : ie ≠ [] := by intro e; rw [e] at hl1; simp at hl1
  obtain ⟨st, hdec, hlist, hlen, _, _, _, hcap, hrest⟩ :=
    C20.decode_ma_spec freq ie ie.length ma0 0 false hf rfl hl8 (by omega)
  have hNpos : 0 < (decoded freq ie).length := List.length_pos_iff.mpr hne
  have hst : st.hopping = decoded freq ie ++ ma0.drop (decoded freq ie).length := hopping_eq hlist hlen hrest
  have hlen' : st.hoppLen = (decoded freq ie).length := hlen
  have hrender : renderMa 1 freq (ie.length :: ie ++ pad) pcs freqMap ma0 =
      .ok (.done ⟨0, band pcs freq ie ++ ma0.drop (decoded freq ie).length, (decoded freq ie).length⟩) := by
    have hb := bandLoop_ok pcs freqMap (decoded freq ie) [] (ma0.drop (decoded freq ie).length) hsup
    simp only [List.nil_append, List.length_nil] at hb
    have hrd : rd .mobAllocLv (ie.length :: ie ++ pad) 0 = .ok ie.length := rfl
    have hdrop : (ie.length :: ie ++ pad).drop 1 = ie ++ pad := rfl
    simp only [renderMa, hrd, hdrop, decode_trailing freq ie pad ma0 0 false hf hie hl8 (by omega), hdec,
      bind, Except.bind, pure, Except.pure]
    rw [if_neg (by decide), if_neg (by omega), if_neg (by decide), if_neg (by omega), hst, hlen', hb]
    rfl
  refine ⟨hrender, ?_⟩
  have hbl := (band_facts pcs freq ie).1
  have hht := htonsLoop_ok (band pcs freq ie) [] (ma0.drop (decoded freq ie).length) [] (List.replicate 128 0)
    rfl (by simp only [List.length_replicate]; omega)
  simp only [List.nil_append, List.length_nil, List.drop_replicate] at hht
  have hu8 : HopChain.u8 (decoded freq ie).length = (band pcs freq ie).length := by simp only [HopChain.u8]; omega
  have hoc : l1ctlOctets = 128 := tree_constants.2.2.1
  simp only [msPath, hrender, l1ctlTxDmEstReqH1, hu8, hoc, hht, bind, Except.bind, pure, Except.pure]
  rw [if_neg (by decide)]
  have e1 : HopChain.u8 hsn = hsn := by simp only [HopChain.u8]; omega
  have e2 : HopChain.u8 maio = maio := by simp only [HopChain.u8]; omega
  simp only [l1ctlMsg, e1, e2, ← hbl, List.take_left']

/-- **layer23 refuses** a list with a channel the phone's frequency map does not list: RR cause
"frequency not implemented", no L1CTL message (so the domain predicate asks for support). -/
theorem chain_unsupported (freq ie pad : List Nat) (pcs : Bool) (freqMap ma0 : List Nat) (hsn maio : Nat)
    (xs : List Nat) (b : Nat) (ys : List Nat)
    (hf : freq.length = 1024) (hl1 : 1 ≤ ie.length) (hl8 : ie.length ≤ 8) (h0 : ma0.length = 64)
    (hsplit : decoded freq ie = xs ++ b :: ys)
    (hsup : ∀ a ∈ xs, freqSupported freqMap (arfcn2index (toBand pcs a)) = .ok true)
    (hb : freqSupported freqMap (arfcn2index (toBand pcs b)) = .ok false) :
    msPath freq (ie.length :: ie ++ pad) pcs freqMap ma0 hsn maio = .ok (.cause causeFreqNotImpl) := by
  obtain ⟨hN', _, _⟩ := decoded_facts freq ie
  have hN := hN' hl8
  have hie : ie ≠ [] := by intro e; rw [e] at hl1; simp at hl1
  obtain ⟨st, hdec, hlist, hlen, _, _, _, hcap, hrest⟩ :=
    C20.decode_ma_spec freq ie ie.length ma0 0 false hf rfl hl8 (by omega)
  have hst : st.hopping = decoded freq ie ++ ma0.drop (decoded freq ie).length := hopping_eq hlist hlen hrest
  have hlen' : st.hoppLen = (decoded freq ie).length := hlen
  have hbl := bandLoop_unsupported pcs freqMap xs [] b (ys ++ ma0.drop (decoded freq ie).length) hsup hb ys.length
  simp only [List.nil_append, List.length_nil] at hbl
  have hrd : rd .mobAllocLv (ie.length :: ie ++ pad) 0 = .ok ie.length := rfl
  have hdrop : (ie.length :: ie ++ pad).drop 1 = ie ++ pad := rfl
  have hcnt : (decoded freq ie).length = xs.length + 1 + ys.length := by
    rw [hsplit]; simp only [List.length_append, List.length_cons]; omega
  have hlist2 : decoded freq ie ++ ma0.drop (decoded freq ie).length
      = xs ++ b :: (ys ++ ma0.drop (decoded freq ie).length) := by rw [hsplit]; simp
  simp only [msPath, renderMa, hrd, hdrop, decode_trailing freq ie pad ma0 0 false hf hie hl8 (by omega), hdec,
    bind, Except.bind, pure, Except.pure]
  rw [if_neg (by decide), if_neg (by omega), if_neg (by decide), if_neg (by omega), hst, hlen', hlist2]
  rw [show (decoded freq ie).length = xs.length + 1 + ys.length from hcnt] at hbl ⊢
  rw [hbl]
  simp only [causeFreqNotImpl]
  rfl

/-- **SI4 CBCH caller** (sysinfo.c:997 → app_cbch_sniff.c `try_cbch`): the decoded list goes into the
L1CTL message as it is — same channels, same order, `n = N` — WITHOUT the PCS conversion of
`gsm48_rr_render_ma`: in a cell that refers to PCS 1900 the channels 512..810 of a hopping CBCH reach
trxcon and the firmware as DCS 1800 numbers (observation; from there on `chain_trxcon_side`,
`chain_fake_trx`, `chain_channel` apply to the list `decoded freq ie`). -/
theorem chain_cbch_side (freq ie hop0 : List Nat) (hl0 hsn maio : Nat)
    (hf : freq.length = 1024) (hl1 : 1 ≤ ie.length) (hl8 : ie.length ≤ 8) (h0 : hop0.length = 64)
    (hh : hsn < 256) (hm : maio < 256) :
    ∃ rest, cbchPath freq ie ie.length hop0 hl0 hsn maio =
      .ok (decoded freq ie ++ rest, (decoded freq ie).length, l1ctlMsg hsn maio (decoded freq ie)) ∧
      rest = hop0.drop (decoded freq ie).length := by
  obtain ⟨hN', _, _⟩ := decoded_facts freq ie
  have hN := hN' hl8
  obtain ⟨st, hdec, hlist, hlen, _, _, _, hcap, hrest⟩ :=
    C20.decode_ma_spec freq ie ie.length hop0 hl0 true hf rfl hl8 (by omega)
  have hst : st.hopping = decoded freq ie ++ hop0.drop (decoded freq ie).length := hopping_eq hlist hlen hrest
  have hlen' : st.hoppLen = (decoded freq ie).length := hlen
  have hht := htonsLoop_ok (decoded freq ie) [] (hop0.drop (decoded freq ie).length) [] (List.replicate 128 0)
    rfl (by simp only [List.length_replicate]; omega)
  simp only [List.nil_append, List.length_nil, List.drop_replicate] at hht
  have hu8 : HopChain.u8 (decoded freq ie).length = (decoded freq ie).length := by simp only [HopChain.u8]; omega
  have hoc : l1ctlOctets = 128 := tree_constants.2.2.1
  have e1 : HopChain.u8 hsn = hsn := by simp only [HopChain.u8]; omega
  have e2 : HopChain.u8 maio = maio := by simp only [HopChain.u8]; omega
  refine ⟨_, ?_, rfl⟩
  simp only [cbchPath, hdec, l1ctlTxDmEstReqH1, hst, hlen', hu8, hoc, hht, e1, e2, bind, Except.bind, pure, Except.pure,
    l1ctlMsg]

/-! ### trxcon: L1CTL message → `CMD SETFH` -/

/-- **trxcon, L1CTL side.** `l1ctl_proc_est_req_h1` on the message of `chain_ms_side`: `n` is neither 0
nor above the array, the `n` channels are copied out in order (`ntohs` of what `htons` stored), the rest
of the request's `ma[64]` is zero. -/
theorem trxconProc_ok (hsn maio : Nat) (chans : List Nat) (hne : chans ≠ []) (hN : chans.length ≤ 64)
    (hu : ∀ b ∈ chans, u16 b = b) :
    trxconProcEstReqH1 (l1ctlMsg hsn maio chans) =
      .ok (.ok ⟨hsn, maio, chans.length, chans ++ List.replicate (64 - chans.length) 0⟩) := by
  have hpos : 0 < chans.length := List.length_pos_iff.mpr hne
  have hnt := ntohsLoop_ok .trxconMa chans [] (List.replicate (128 - 2 * chans.length) 0) [] (List.replicate 64 0)
    rfl (by simp only [List.length_replicate]; omega)
  simp only [List.nil_append, List.length_nil, List.drop_replicate] at hnt
  rw [map_u16_id hu] at hnt
  have hoct : (l1ctlMsg hsn maio chans).maOctets.length = 128 := by
    simp only [l1ctlMsg, List.length_append, List.length_replicate, flatMap_be16_length]; omega
  simp only [trxconProcEstReqH1, bind, Except.bind, pure, Except.pure]
  split
  · rename_i h; simp only [l1ctlMsg] at h; omega
  · split
    · rename_i h; rw [hoct] at h; simp only [l1ctlMsg] at h; omega
    · have hcap : Gen.HopChain.trxconMaCap = 64 := by decide
      simp only [l1ctlMsg, hcap]; rw [hnt]

/-- **`chain_setfh` (trxcon half).** From the L1CTL message of `chain_ms_side` trxcon copies the `n`
channels out (`ntohs`), hands `SETFREQ_H1` to the transceiver interface and — when the text fits its
buffer — passes exactly one datagram to `send()`: `CMD SETFH hsn maio rx1 tx1 … rxN txN\0` with the
frequency pairs of the channels in the order of the list. -/
theorem chain_trxcon_side (hsn maio : Nat) (chans : List Nat) (hh : hsn < 256) (hm : maio < 256)
    (hne : chans ≠ []) (hN : chans.length ≤ 64) (hu : ∀ b ∈ chans, u16 b = b)
    (hv : ∀ b ∈ chans, TrxconIf.ValidArfcn b) (hfit : (TrxconIf.maText chans).length ≤ 999) :
    trxconPath (l1ctlMsg hsn maio chans) = .ok (0, [setfhDatagram hsn maio chans]) ∧
    (setfhDatagram hsn maio chans).length ≤ 1016 := by
  have hpos : 0 < chans.length := List.length_pos_iff.mpr hne
  have hproc := trxconProc_ok hsn maio chans hne hN hu
  have hvalid : TrxconIf.ValidCmd (.setfreqH1 hsn maio chans.length chans) := ⟨rfl, hne, hv, hfit⟩
  obtain ⟨t', hc, _, hsent⟩ := Trxcon.trxcon_cmd_emits
    { state := Gen.Trxcon.stIdle, prevState := Gen.Trxcon.stOffline } _ rfl (by decide) hvalid
  have hsent' := hsent _ [] rfl
  have e1 : TrxconIf.u8 hsn = hsn := by simp only [TrxconIf.u8]; omega
  have e2 : TrxconIf.u8 maio = maio := by simp only [TrxconIf.u8]; omega
  rw [e1, e2, setfh_dgram_eq hsn maio hh hm chans] at hsent'
  refine ⟨?_, ?_⟩
  · simp only [trxconPath, hproc, handleDchEstReq, bind, Except.bind, pure, Except.pure,
      cPhyCmd_setfh_pad _ hsn maio chans _ hne (by omega), hc, hsent']
    rfl
  · have hlen := (Trxcon.setfh_len hsn maio chans hne hv).2.2.2 hfit
    rw [e1, e2] at hlen
    have := congrArg List.length (setfh_dgram_eq hsn maio hh hm chans)
    rw [List.length_append, List.length_singleton] at this
    simp only [setfhDatagram]
    omega

/-- **Where -ENOSPC starts.** When the text does not fit `ma_buf` — 14·(channels below 1 GHz) +
16·(DCS 1800 / PCS 1900 channels) > 999 — trxcon returns `-ENOSPC` and sends NOTHING: the
simulator is never told about the hopping channel. -/
theorem chain_setfh_enospc (hsn maio : Nat) (chans : List Nat)
    (hne : chans ≠ []) (hN : chans.length ≤ 64) (hu : ∀ b ∈ chans, u16 b = b)
    (hv : ∀ b ∈ chans, TrxconIf.ValidArfcn b) (hbig : (TrxconIf.maText chans).length > 999) :
    trxconPath (l1ctlMsg hsn maio chans) = .ok (-Gen.Trxcon.eNOSPC, []) := by
  have hpos : 0 < chans.length := List.length_pos_iff.mpr hne
  have hproc := trxconProc_ok hsn maio chans hne hN hu
  have hno := Trxcon.setfh_enospc { state := Gen.Trxcon.stIdle, prevState := Gen.Trxcon.stOffline } hsn maio chans
    hne hv (by omega) hbig
  simp only [trxconPath, hproc, handleDchEstReq, bind, Except.bind, pure, Except.pure,
    cPhyCmd_setfh_pad _ hsn maio chans _ hne (by omega), hno]

/-- The text always fits for up to 62 channels of any band, and for up to 64 channels (the maximum
of a Mobile Allocation) when every channel lies below 1 GHz (GSM 450 … E-GSM 900: 14 characters
per channel, 64·14 = 896). -/
theorem chain_fits (chans : List Nat) (hv : ∀ b ∈ chans, TrxconIf.ValidArfcn b) :
    (chans.length ≤ 62 → (TrxconIf.maText chans).length ≤ 999) ∧
    (chans.length ≤ 64 → (∀ b ∈ chans, (TrxconIf.pairOf b).length = 14) → (TrxconIf.maText chans).length ≤ 999) := by
  refine ⟨fun h => Trxcon.setfh_fits_62 chans hv h, fun h h14 => ?_⟩
  have := TrxconIf.maText_length_const 14 chans h14
  omega

/-- **The exact limit.** The text of a list with `a` channels below 1 GHz and `b` channels of DCS 1800 /
PCS 1900 has `14·a + 16·b` characters; it fits iff `14·a + 16·b ≤ 999`.  For a pure DCS / PCS
allocation that is `N ≤ 62`: the legal sizes 63 and 64 are refused (`chain_setfh_full_fails`). -/
theorem chain_enospc_limit (chans : List Nat) (hv : ∀ b ∈ chans, TrxconIf.ValidArfcn b) :
    ∃ a b, a + b = chans.length ∧ (TrxconIf.maText chans).length = 14 * a + 16 * b ∧
      a = (chans.filter fun c => (TrxconIf.pairOf c).length == 14).length ∧
      ((TrxconIf.maText chans).length ≤ 999 ↔ 14 * a + 16 * b ≤ 999) ∧
      (a = 0 → ((TrxconIf.maText chans).length ≤ 999 ↔ chans.length ≤ 62)) := by
  induction chans with
  | nil => exact ⟨0, 0, rfl, rfl, rfl, by simp [TrxconIf.maText], fun _ => by simp [TrxconIf.maText]⟩
  | cons c t ih =>
    obtain ⟨a, b, hab, hlen, hcnt, _, _⟩ := ih (fun x hx => hv x (List.mem_cons_of_mem _ hx))
    have hc := (TrxconIf.pairOf_facts c (hv c List.mem_cons_self)).1
    rcases hc with h14 | h16
    · refine ⟨a + 1, b, by simp only [List.length_cons]; omega, ?_, ?_, ?_, ?_⟩
      · rw [TrxconIf.maText_cons, List.length_append, h14, hlen]; omega
      · simp only [List.filter_cons, h14, beq_self_eq_true, if_true, List.length_cons, hcnt]
      · rw [TrxconIf.maText_cons, List.length_append, h14, hlen]; omega
      · intro h; omega
    · refine ⟨a, b + 1, by simp only [List.length_cons]; omega, ?_, ?_, ?_, ?_⟩
      · rw [TrxconIf.maText_cons, List.length_append, h16, hlen]; omega
      · have : ((TrxconIf.pairOf c).length == 14) = false := by rw [h16]; rfl
        simp only [List.filter_cons, this, Bool.false_eq_true, if_false, hcnt]
      · rw [TrxconIf.maText_cons, List.length_append, h16, hlen]; omega
      · intro h
        rw [TrxconIf.maText_cons, List.length_append, h16, hlen]
        simp only [List.length_cons]; omega

/-- **`chain_setfh`.** For every cell allocation and Mobile Allocation IE of the domain whose text
fits, every HSN/MAIO: the MS side ends in exactly one TRXC datagram, `CMD SETFH hsn maio rx1 tx1 … rxN
txN\0`, N = number of decoded channels, (rx_i, tx_i) = 100·gsm_arfcn2freq10(decoded_i) in kHz, in the
decoded order. -/
theorem chain_setfh (freq ie pad : List Nat) (pcs : Bool) (freqMap ma0 : List Nat) (hsn maio : Nat)
    (hd : Dom freq ie pcs freqMap) (h0 : ma0.length = 64) (hh : hsn < 64) (hm : maio < 64)
    (hfit : Fits pcs freq ie) :
    ∃ msg, msPath freq (ie.length :: ie ++ pad) pcs freqMap ma0 hsn maio = .ok (.sent (band pcs freq ie) msg) ∧
      trxconPath msg = .ok (0, [setfhDatagram hsn maio (band pcs freq ie)]) ∧
      (band pcs freq ie).length = (decoded freq ie).length ∧
      (setfhDatagram hsn maio (band pcs freq ie)).length ≤ 1016 := by
  have hms := (chain_ms_side freq ie pad pcs freqMap ma0 hsn maio hd h0 (by omega) (by omega)).2
  obtain ⟨hf, hl1, hl8, hne, hval, hsup⟩ := hd
  obtain ⟨hbl, hbu⟩ := band_facts pcs freq ie
  have hbne : band pcs freq ie ≠ [] := by simpa [band] using hne
  have hbv : ∀ b ∈ band pcs freq ie, TrxconIf.ValidArfcn b := by
    intro b hb; obtain ⟨a, ha, rfl⟩ := List.mem_map.mp hb; exact hval a ha
  obtain ⟨ht, hlen⟩ := chain_trxcon_side hsn maio (band pcs freq ie) (by omega) (by omega) hbne
    (by rw [hbl]; exact (decoded_facts freq ie).1 hl8) (fun b hb => (hbu b hb).2) hbv hfit
  exact ⟨_, hms, ht, hbl, hlen⟩

/-- The statement without the `Fits` premise: every legal allocation (up to 64 channels of the bands
`gsm_arfcn2freq10` defines) reaches the simulator. -/
def chain_setfh_full : Prop :=
  ∀ (freq ie pad : List Nat) (pcs : Bool) (freqMap ma0 : List Nat) (hsn maio : Nat),
    Dom freq ie pcs freqMap → ma0.length = 64 → hsn < 64 → maio < 64 →
    ∃ msg, msPath freq (ie.length :: ie ++ pad) pcs freqMap ma0 hsn maio = .ok (.sent (band pcs freq ie) msg) ∧
      trxconPath msg = .ok (0, [setfhDatagram hsn maio (band pcs freq ie)])

/-- the witness: DCS 1800, cell allocation 512..574, Mobile Allocation selecting all 63 channels -/
def dcs63Freq : List Nat := mkFreq fun a => 512 ≤ a && a ≤ 574
def dcs63Ie : List Nat := [0x7f, 0xff, 0xff, 0xff, 0xff, 0xff, 0xff, 0xff]

theorem dcs63_decoded : decoded dcs63Freq dcs63Ie = List.range' 512 63 := by
  simp only [decoded, dcs63Freq, servAt_mkFreq]
  decide +kernel

/-- **It is false on the current tree**: 63 (or 64) DCS 1800 / PCS 1900 channels are a legal Mobile
Allocation, but their text needs 63·16 = 1008 > 999 characters: trxcon answers `-ENOSPC`, no SETFH is
sent. -/
theorem chain_setfh_full_fails : ¬ chain_setfh_full := by
  intro h
  have hdec := dcs63_decoded
  have hband : band false dcs63Freq dcs63Ie = List.range' 512 63 := by
    simp only [band, hdec]; decide +kernel
  have hval : ∀ b ∈ List.range' 512 63, TrxconIf.ValidArfcn b := by decide +kernel
  have hdom : Dom dcs63Freq dcs63Ie false (List.replicate 166 255) := by
    refine ⟨mkFreq_length _, by decide, by decide, ?_, ?_, ?_⟩
    · rw [hdec]; decide
    · intro a ha
      have hb : toBand false a ∈ band false dcs63Freq dcs63Ie := List.mem_map_of_mem ha
      rw [hband] at hb
      exact hval _ hb
    · rw [hdec]; decide +kernel
  obtain ⟨msg, h1, h2⟩ := h dcs63Freq dcs63Ie [] false (List.replicate 166 255) (List.replicate 64 0) 0 0 hdom
    (by decide) (by decide) (by decide)
  have hms := (chain_ms_side dcs63Freq dcs63Ie [] false (List.replicate 166 255) (List.replicate 64 0) 0 0 hdom
    (by decide) (by decide) (by decide)).2
  rw [hms] at h1
  have hmsg : msg = l1ctlMsg 0 0 (band false dcs63Freq dcs63Ie) := by
    simp only [Except.ok.injEq, MsOut.sent.injEq] at h1; exact h1.2.symm
  rw [hmsg, hband] at h2
  have hno := chain_setfh_enospc 0 0 (List.range' 512 63) (by decide) (by decide) (by decide +kernel) hval
    (by decide +kernel)
  rw [hno] at h2
  simp only [Except.ok.injEq, Prod.mk.injEq] at h2
  exact absurd h2.1 (by decide)

/-! ### fake_trx: the datagram → `HoppingParams` -/

/-- **`chain_fake_trx`.** The world model's handling of that very datagram (sent by the L1 peer of
transceiver `i`): it stores `HoppingParams(hsn, maio, [(rx_i·1000, tx_i·1000)])` — the Hz pairs of the
channels of the list, same number, same order, not sorted, not cut — and answers
`RSP SETFH 0 hsn maio rx1 tx1 …\0` to the sender. -/
theorem chain_fake_trx (w : World.World) (i : Nat) (t : World.Trx) (ht : w.trxs[i]? = some t)
    (hsn maio : Nat) (chans : List Nat) (hh : hsn < 64) (hne : chans ≠ [])
    (hlen : (setfhDatagram hsn maio chans).length ≤ 1016) :
    fakeTrxPath w i (setfhDatagram hsn maio chans) =
      { world := World.setTrx w i (fun t => { t with
          fh := some (Hopping.HoppingParams.mk (hsn : Int) (maio : Int) (chans.map hzPair) (Hopping.powNbinMask chans.length)) }),
        out := [⟨t.ctrlPort, t.addr, t.ctrlRemote, setfhReply hsn maio chans⟩] } := by
  have hrecv : (1016 : Nat) ≤ Gen.World.ctrlRecvSize := by decide
  have hne' : chans.map khzPair ≠ [] := by simpa using hne
  have := handleRx_setfh w i t.addr t.ctrlRemote t ht hsn maio hh (chans.map khzPair) hne'
    (by simp only [setfhDatagram] at hlen; omega)
  simp only [fakeTrxPath, ht, setfhDatagram, this, List.map_map, List.length_map, setfhReply]
  rfl

/-! ### per frame: both sides on the same channel -/

/-- **`chain_channel`.** After the SETFH of `chain_fake_trx`, in every frame `fn` of the hyperframe:
fake_trx's `get_rx_freq(fn)` / `get_tx_freq(fn)` are the Hz pair of the channel `v` that TS 45.002
§6.2.3 selects from the list (`Spec.Hopping.select`: `v = chans[MAI]`), and the firmware, configured
by the same L1CTL message, tunes to ARFCN `v` in that frame. -/
theorem chain_channel (w : World.World) (i : Nat) (t : World.Trx) (ht : w.trxs[i]? = some t)
    (hsn maio : Nat) (chans : List Nat) (hh : hsn < 64) (hm : maio < 64) (hne : chans ≠ [])
    (hN : chans.length ≤ 64) (hu : ∀ b ∈ chans, b < 65536 ∧ u16 b = b)
    (hlen : (setfhDatagram hsn maio chans).length ≤ 1016) (fn : Nat) (hfn : fn < 2715648) :
    ∃ v t', Spec.Hopping.select chans hsn maio fn = some v ∧
      (fakeTrxPath w i (setfhDatagram hsn maio chans)).world.trxs[i]? = some t' ∧
      t'.getRxFreq fn = .ok (some (hzPair v).1) ∧ t'.getTxFreq fn = .ok (some (hzPair v).2) ∧
      fwPath (l1ctlMsg hsn maio chans) fn = .ok (.ok v) := by
  have hpos : 1 ≤ chans.length := List.length_pos_iff.mpr hne
  rw [chain_fake_trx w i t ht hsn maio chans hh hne hlen]
  -- the firmware's copy of the message
  have hcap : Gen.fwMaCapacity = 64 := C07.fw_layout.2
  have hnt := ntohsLoop_ok .fwMa chans [] (List.replicate (128 - 2 * chans.length) 0) [] (List.replicate 64 0)
    rfl (by simp only [List.length_replicate]; omega)
  simp only [List.nil_append, List.length_nil, List.drop_replicate] at hnt
  rw [map_u16_id (fun b hb => (hu b hb).2)] at hnt
  have hfw : fwPath (l1ctlMsg hsn maio chans) fn =
      .ok (Hopping.fwHop hsn maio chans.length (chans ++ List.replicate (64 - chans.length) 0) fn) := by
    simp only [fwPath, fwDmEstReqH1, hcap, l1ctlMsg, hnt, bind, Except.bind, pure, Except.pure, Hopping.fwHop]
  -- simulator and firmware by TS 45.002 (C07)
  have hma : ∀ a ∈ chans ++ List.replicate (64 - chans.length) 0, a < 65536 := by
    intro a ha
    rcases List.mem_append.mp ha with h | h
    · exact (hu a h).1
    · rw [List.mem_replicate] at h; omega
  obtain ⟨v, hs, hfwv⟩ := C07.fw_hop_spec hsn maio fn chans (List.replicate (64 - chans.length) 0) hh hm hpos hN hma hfn
  obtain ⟨v', hfwv', hpy⟩ := C07.py_eq_fw hzPair hsn maio fn chans (List.replicate (64 - chans.length) 0) hh hm hpos hN
    hma hfn
  have hvv : v' = v := by rw [hfwv] at hfwv'; exact (Except.ok.inj hfwv').symm
  subst hvv
  have hn0 : (chans.map hzPair).length ≠ 0 := by simp only [List.length_map]; omega
  simp only [Hopping.pyResolve, Hopping.pyInit_ok hsn (maio : Int) (chans.map hzPair) hh hn0, List.length_map] at hpy
  refine ⟨v', { t with fh := some (Hopping.HoppingParams.mk (hsn : Int) (maio : Int) (chans.map hzPair) (Hopping.powNbinMask chans.length)) },
    hs, ?_, ?_, ?_, ?_⟩
  · simp only [World.setTrx_getElem?, if_true, ht, Option.map_some]
  · simp only [World.Trx.getRxFreq, World.Trx.hop, Hopping.Trx.getRxFreq, hpy]
  · simp only [World.Trx.getTxFreq, World.Trx.hop, Hopping.Trx.getTxFreq, hpy]
  · rw [hfw, hfwv]

/-- the channel TS 45.002 selects from a list mapped channel by channel is the image of the channel
it selects from the list (the MAI depends on the length only) -/
theorem select_map {α β : Type} (f : α → β) (l : List α) (hsn maio fn : Nat) :
    Spec.Hopping.select (l.map f) hsn maio fn = (Spec.Hopping.select l hsn maio fn).map f := by
  simp only [Spec.Hopping.select, List.length_map]
  cases Spec.Hopping.mai hsn maio l.length fn with
  | none => rfl
  | some i => simp only [List.getElem?_map]

/-- **End to end.** For every cell allocation and Mobile Allocation IE of the domain (text fitting
trxcon's buffer), every HSN/MAIO 0..63 and every frame of the hyperframe: the MS side sends one
L1CTL message and trxcon one `CMD SETFH` datagram; fake_trx answers `RSP SETFH 0 …` and from then on
its Rx/Tx frequency in frame `fn` is the pair of the channel `v` = decoded[MAI] that TS 45.002 §6.2.3
selects from the DECODED list (order of TS 44.018), while the firmware, fed with the same L1CTL message,
tunes to that very ARFCN: MS and simulated BTS meet on the same channel in every frame. -/
theorem chain_end_to_end (freq ie pad : List Nat) (pcs : Bool) (freqMap ma0 : List Nat) (hsn maio : Nat)
    (hd : Dom freq ie pcs freqMap) (h0 : ma0.length = 64) (hh : hsn < 64) (hm : maio < 64)
    (hfit : Fits pcs freq ie)
    (w : World.World) (i : Nat) (t : World.Trx) (ht : w.trxs[i]? = some t) (fn : Nat) (hfn : fn < 2715648) :
    ∃ msg dgram v t',
      msPath freq (ie.length :: ie ++ pad) pcs freqMap ma0 hsn maio = .ok (.sent (band pcs freq ie) msg) ∧
      trxconPath msg = .ok (0, [dgram]) ∧ dgram = setfhDatagram hsn maio (band pcs freq ie) ∧
      (fakeTrxPath w i dgram).out = [⟨t.ctrlPort, t.addr, t.ctrlRemote, setfhReply hsn maio (band pcs freq ie)⟩] ∧
      (fakeTrxPath w i dgram).world.trxs[i]? = some t' ∧
      Spec.Hopping.select (decoded freq ie) hsn maio fn = some v ∧
      t'.getRxFreq fn = .ok (some (hzPair (toBand pcs v)).1) ∧
      t'.getTxFreq fn = .ok (some (hzPair (toBand pcs v)).2) ∧
      fwPath msg fn = .ok (.ok (toBand pcs v)) := by
  have hms := (chain_ms_side freq ie pad pcs freqMap ma0 hsn maio hd h0 (by omega) (by omega)).2
  obtain ⟨msg, h1, h2, hbl, hlen⟩ := chain_setfh freq ie pad pcs freqMap ma0 hsn maio hd h0 hh hm hfit
  have hmsg : msg = l1ctlMsg hsn maio (band pcs freq ie) := by
    rw [hms] at h1
    simp only [Except.ok.injEq, MsOut.sent.injEq] at h1; exact h1.2.symm
  obtain ⟨hf, hl1, hl8, hne, hval, hsup⟩ := hd
  obtain ⟨_, hbu⟩ := band_facts pcs freq ie
  have hbne : band pcs freq ie ≠ [] := by simpa [band] using hne
  have hN : (band pcs freq ie).length ≤ 64 := by rw [hbl]; exact (decoded_facts freq ie).1 hl8
  obtain ⟨vb, t', hs, htr, hrx, htx, hfw⟩ := chain_channel w i t ht hsn maio (band pcs freq ie) hh hm hbne hN hbu hlen fn hfn
  have hsel : Spec.Hopping.select (band pcs freq ie) hsn maio fn
      = (Spec.Hopping.select (decoded freq ie) hsn maio fn).map (toBand pcs) := select_map _ _ _ _ _
  rw [hsel] at hs
  cases hv : Spec.Hopping.select (decoded freq ie) hsn maio fn with
  | none => rw [hv] at hs; cases hs
  | some v =>
    rw [hv] at hs
    simp only [Option.map_some, Option.some.injEq] at hs
    subst hs
    refine ⟨msg, _, v, t', h1, h2, rfl, ?_, htr, rfl, hrx, htx, ?_⟩
    · rw [chain_fake_trx w i t ht hsn maio (band pcs freq ie) hh hbne hlen]
    · rw [hmsg]; exact hfw

/-- **`chain_injective`.** Distinct channels of the decoded list have distinct frequency pairs
(already distinct Rx frequencies), so on the simulated air interface "same frequency" is "same
channel": entries `j`, `k` of the stored mobile allocation are equal iff `j = k`. -/
theorem chain_injective (freq ie : List Nat) (pcs : Bool)
    (hval : ∀ a ∈ decoded freq ie, TrxconIf.ValidArfcn (toBand pcs a)) (j k : Nat)
    (hj : j < (band pcs freq ie).length) (hk : k < (band pcs freq ie).length) :
    (hzPair (band pcs freq ie)[j] = hzPair (band pcs freq ie)[k] ↔ j = k) ∧
    ((hzPair (band pcs freq ie)[j]).1 = (hzPair (band pcs freq ie)[k]).1 ↔ j = k) := by
  obtain ⟨_, hord, hlt⟩ := decoded_facts freq ie
  have hjl : j < (decoded freq ie).length := by simpa only [band, List.length_map] using hj
  have hkl : k < (decoded freq ie).length := by simpa only [band, List.length_map] using hk
  have key : (hzPair (band pcs freq ie)[j]).1 = (hzPair (band pcs freq ie)[k]).1 → j = k := by
    intro h
    have ej : (band pcs freq ie)[j] = toBand pcs (decoded freq ie)[j] := by simp only [band, List.getElem_map]
    have ek : (band pcs freq ie)[k] = toBand pcs (decoded freq ie)[k] := by simp only [band, List.getElem_map]
    have haj := List.getElem_mem hjl
    have hak := List.getElem_mem hkl
    have h10 : TrxconIf.arfcn2freq10 (band pcs freq ie)[j] false = TrxconIf.arfcn2freq10 (band pcs freq ie)[k] false := by
      simp only [hzPair, khzPair] at h; omega
    rw [ej, ek] at h10
    have hb := rx_inj _ _ (inRanges_toBand pcs _ (hlt _ haj) (hval _ haj)) (inRanges_toBand pcs _ (hlt _ hak) (hval _ hak)) h10
    have hd := toBand_inj pcs _ _ (hlt _ haj) (hlt _ hak) hb
    -- the decoded list has no repetitions (strictly ordered by the rank of the standard)
    have hpw := List.pairwise_iff_getElem.mp hord
    rcases Nat.lt_trichotomy j k with hlt' | heq | hgt
    · have := hpw j k hjl hkl hlt'; rw [hd] at this; exact absurd this (Nat.lt_irrefl _)
    · exact heq
    · have := hpw k j hkl hjl hgt; rw [hd] at this; exact absurd this (Nat.lt_irrefl _)
  refine ⟨⟨fun h => key (congrArg Prod.fst h), fun h => by subst h; rfl⟩, ⟨key, fun h => by subst h; rfl⟩⟩

/-! ### the order is the order of TS 44.018, not the order of the frequencies -/

/-- **Order.** The list the simulator hops over is the decoded list itself: ascending ARFCN with ARFCN 0
LAST (TS 44.018 §10.5.2.21), mapped channel by channel to frequency pairs.  Nobody on the way sorts
it — and nobody may: the comment "expected to be sorted in ascending order" in trx_if.c cannot mean
frequency order, see the example below. -/
theorem chain_order (freq ie : List Nat) (pcs : Bool) :
    Ordered (decoded freq ie) ∧ band pcs freq ie = (decoded freq ie).map (toBand pcs) ∧
    (band pcs freq ie).map hzPair = (decoded freq ie).map (fun a => hzPair (toBand pcs a)) :=
  ⟨(decoded_facts freq ie).2.1, rfl, by simp only [band, List.map_map]; rfl⟩

/-! ### non-vacuity and the pinned examples -/

/-- E-GSM cell allocation {0, 10, 975}, all three selected: the decoded list is [10, 975, 0] — ARFCN 0
is LAST although it is neither the lowest nor the highest frequency — and the Rx frequencies in list
order are 937.0, 925.2, 935.0 MHz: list order ≠ frequency order; a simulator that sorted the list
would hop over [925.2, 935.0, 937.0] and meet the phone in one frame out of three at best. -/
example :
    decoded (mkFreq [0, 10, 975].contains) [0x07] = [10, 975, 0] ∧
    (band false (mkFreq [0, 10, 975].contains) [0x07]).map hzPair =
      [(937000000, 892000000), (925200000, 880200000), (935000000, 890000000)] ∧
    ¬ ((band false (mkFreq [0, 10, 975].contains) [0x07]).map (fun b => (hzPair b).1)).Pairwise (· < ·) := by
  have h : decoded (mkFreq [0, 10, 975].contains) [0x07] = [10, 975, 0] := by
    simp only [decoded, servAt_mkFreq]; decide +kernel
  refine ⟨h, ?_, ?_⟩
  · simp only [band, h]; decide +kernel
  · simp only [band, h]; decide +kernel

/-- the hypotheses are satisfiable, and the whole chain evaluates (kernel) on that input: the datagram
text, the reply, one frame -/
example : Dom (mkFreq [0, 10, 975].contains) [0x07] false (List.replicate 166 255) ∧ Fits false (mkFreq [0, 10, 975].contains) [0x07] := by
  have h : decoded (mkFreq [0, 10, 975].contains) [0x07] = [10, 975, 0] := by
    simp only [decoded, servAt_mkFreq]; decide +kernel
  refine ⟨⟨mkFreq_length _, by decide, by decide, ?_, ?_, ?_⟩, ?_⟩
  · rw [h]; decide
  · rw [h]; decide +kernel
  · rw [h]; decide +kernel
  · simp only [Fits, band, h]; decide +kernel

example : setfhDatagram 5 1 [10, 975, 0] =
    PyStr.lit "CMD SETFH 5 1 937000 892000 925200 880200 935000 890000" ++ [0] := by decide +kernel

example : trxconPath (l1ctlMsg 5 1 [10, 975, 0]) = .ok (0, [setfhDatagram 5 1 [10, 975, 0]]) := by decide +kernel

/-- 64 E-GSM channels (975..1023, 0, 1..14) fit; PCS 1900: the flag is set on 512..810 only when the
cell refers to PCS, and 62 channels fit, 63 do not -/
example : (TrxconIf.maText ((List.range' 1 14 ++ List.range' 975 49 ++ [0]).map (toBand false))).length = 896 ∧
    (List.range' 512 3).map (toBand true) = [33280, 33281, 33282] ∧
    (List.range' 512 3).map (toBand false) = [512, 513, 514] ∧
    (TrxconIf.maText ((List.range' 512 62).map (toBand true))).length = 992 ∧
    (TrxconIf.maText ((List.range' 512 63).map (toBand true))).length = 1008 := by decide +kernel

/-- the faults of the glue are reachable when a premise is dropped: a `ma_len` above the array on the
sending side, an `n` above the array accepted by the firmware's copy loop (trxcon checks it) -/
example :
    l1ctlTxDmEstReqH1 0 0 (List.replicate 64 7) 65 = .error (.oobRead .ma 64) ∧
    trxconProcEstReqH1 ⟨0, 0, 65, List.replicate 128 0⟩ = .ok (.error (-22)) ∧
    trxconProcEstReqH1 ⟨0, 0, 0, List.replicate 128 0⟩ = .ok (.error (-22)) ∧
    (match fwDmEstReqH1 ⟨0, 0, 65, List.replicate 128 0⟩ (List.replicate 64 0) with
      | .error e => some e | .ok _ => none) = some (.oobRead .l1ctlMa 128) := by
  decide +kernel

end OsmoVerif.Props.C20Chain
