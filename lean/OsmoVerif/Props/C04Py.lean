/-
C04, Python half — TRXD octets follow the protocol layout (toolkit side):
  gen_eq_layout_*   the octets produced for any valid message are exactly `Spec.TrxdLayout.layoutTx/Rx`
                    of its protocol-level fields (`fields?`, characterised by `fields_*_spec`);
  parse_inv_layout_* any datagram the parser accepts is interpreted per the same layout
                    (`Spec.TrxdLayout.readTx/readRx`).
The trxcon (C) half is stated against the same Spec files in `Props/Trxcon.lean`; `Props/C04.lean` composes
the two halves (`trxcon_decodes_py`, `py_parses_trxcon`).
-/
import OsmoVerif.Lemmas.TrxdLayout

namespace OsmoVerif.Props.C04Py
open OsmoVerif OsmoVerif.Trxd OsmoVerif.Spec.TrxdRanges OsmoVerif.Spec.TrxdLayout

/-- the protocol-level fields of a Tx message are its attributes -/
theorem fields_tx_spec (m : TxMsg) (f : TxFields) (h : m.fields? = some f) :
    m.ver = f.ver ∧ m.fn = some (f.fn : Int) ∧ m.tn = some (f.tn : Int) ∧ m.pwr = some (f.pwr : Int) ∧
    m.burst = some f.bits := by
  rw [TxMsg.eq_of_fields? m f h]
  exact ⟨rfl, rfl, rfl, rfl, rfl⟩

/-- Tx: the octets produced for any valid message (legacy padding on/off) are exactly the layout's -/
theorem gen_eq_layout_tx (m : TxMsg) (legacy : Bool) (h : m.validate = .ok ()) :
    ∃ f, m.fields? = some f ∧ m.genMsg legacy = .ok (layoutTx f legacy) :=
  TxMsg.genMsg_layout m legacy ((TxMsg.validate_iff m).mp h)

/-- Rx: the octets produced for any valid message (soft bits: any `array('b')` content) are exactly
the layout's: -RSSI, ToA256 and C/I big-endian two's complement, MTS octet, soft bits as 127 - s -/
theorem gen_eq_layout_rx (m : RxMsg) (legacy : Bool) (h : m.validate = .ok ()) (hw : m.WellTyped) :
    ∃ f, m.fields? = some f ∧ m.genMsg legacy = .ok (layoutRx f legacy) :=
  RxMsg.genMsg_layout m legacy ((RxMsg.validate_iff m).mp h) hw

/-- the protocol-level fields of a valid Rx message are its attributes (those its version transports) -/
theorem fields_rx_spec (m : RxMsg) (f : RxFields) (h : m.fields? = some f) :
    m.ver = f.ver ∧ m.fn = some (f.fn : Int) ∧ m.tn = some (f.tn : Int) ∧ m.rssi = some f.rssi ∧
    m.toa256 = some f.toa256 ∧ m.burst = f.soft ∧
    (m.ver = 1 → m.ci = some f.ci ∧ m.nopeInd = f.nope ∧
      (f.nope = false → ∃ (mod : Modulation) (set : Nat), m.modType = some mod ∧ m.tscSet = some (set : Int) ∧
        modOf mod.coding set = some f.mod ∧ m.tsc = some (f.tsc : Int))) := by
  unfold RxMsg.fields? at h
  split at h
  · rename_i fn tn rssi toa efn etn ers eto
    split at h
    · cases h
    · rename_i hc
      simp only [Decidable.not_not] at hc
      have e1 := Int.toNat_of_nonneg hc.2.1
      have e2 := Int.toNat_of_nonneg hc.2.2
      split at h
      · rename_i hv
        split at h
        · cases h
        · rename_i ci eci
          split at h
          · rename_i hn
            cases h
            exact ⟨hv, by rw [efn, e1], by rw [etn, e2], ers, eto, rfl, fun _ => ⟨eci, hn, fun h => by cases h⟩⟩
          · rename_i hn
            split at h
            · rename_i mod set tsc emod eset etsc
              split at h
              · rename_i hst
                cases hmd : modOf mod.coding set.toNat with
                | none => rw [hmd] at h; cases h
                | some md =>
                  rw [hmd] at h
                  cases h
                  exact ⟨hv, by rw [efn, e1], by rw [etn, e2], ers, eto, rfl, fun _ => ⟨eci, by simpa using hn,
                    fun _ => ⟨mod, set.toNat, emod, by rw [eset, Int.toNat_of_nonneg hst.1], hmd,
                      by rw [etsc, Int.toNat_of_nonneg hst.2]⟩⟩⟩
              · cases h
            · cases h
      · rename_i hv
        cases h
        exact ⟨(Int.toNat_of_nonneg hc.1).symm, by rw [efn, e1], by rw [etn, e2], ers, eto, rfl,
          fun h1 => absurd h1 hv⟩
  · cases h

/-- Tx: any datagram `TxMsg().parse_msg` accepts is interpreted per the layout (version nibble, TN,
big-endian FN, attenuation; the hard bits are the received octets, cut to 444 / 148 if longer) -/
theorem parse_inv_layout_tx (b : Bytes) (m : TxMsg) (h : TxMsg.parseMsg b = .ok m) :
    ∃ f, readTx b = some f ∧ m.ver = f.ver ∧ m.fn = some (f.fn : Int) ∧ m.tn = some (f.tn : Int) ∧
      m.pwr = some (f.pwr : Int) ∧ (f.ver = 0 ∨ f.ver = 1) ∧
      m.burst = (if f.bits = [] then none else some (f.bits.take (txKeep f.bits.length))) :=
  TxMsg.parse_inv_layout b m h

/-- Rx: any datagram (octets) `RxMsg().parse_msg` accepts is interpreted per the layout: version, TN,
FN, RSSI = -octet 5, ToA256 and C/I two's complement, MTS bits (NOPE, modulation + TSC set, TSC),
soft bits 127 - u; version 0: the burst is the first `bl` soft-bit octets of a message with `bl` or
`bl + 2` of them -/
theorem parse_inv_layout_rx (b : Bytes) (hb : ∀ x ∈ b, x < 256) (m : RxMsg) (h : RxMsg.parseMsg b = .ok m) :
    ∃ f, readRx b = some f ∧ m.ver = f.ver ∧ (f.ver = 0 ∨ f.ver = 1) ∧
      m.fn = some (f.fn : Int) ∧ m.tn = some (f.tn : Int) ∧ m.rssi = some f.rssi ∧ m.toa256 = some f.toa256 ∧
      (f.ver = 1 → ∃ mts, f.mts = some mts ∧ m.ci = f.ci ∧ m.nopeInd = decide (mts / 128 = 1) ∧
        (m.nopeInd = false → m.tsc = some ((mts % 8 : Nat) : Int) ∧ MtsModOk mts m.modType m.tscSet) ∧
        m.burst = (if f.soft = [] then none else some (f.soft.map softVal))) ∧
      (f.ver = 0 →
        (f.soft = [] ∧ m.burst = none) ∨
        (∃ mod, (f.soft.length = mod.bl ∨ f.soft.length = mod.bl + 2) ∧ m.modType = some mod ∧
          m.burst = some ((f.soft.take mod.bl).map softVal))) :=
  RxMsg.parse_inv_layout b hb m h

/-! ### non-vacuity -/

example : TxMsg.parseMsg ([0x17, 0, 0, 0, 100, 10] ++ List.replicate 150 1) =
    .ok ⟨1, some 100, some 7, some 10, some (List.replicate 148 1)⟩ := by decide +kernel

example : RxMsg.parseMsg ([0x13, 0, 0, 0, 5, 50, 0xff, 0xff, 0x2f, 0xfb, 0] ++ List.replicate 444 254) =
    .ok ⟨1, some 5, some 3, some (-50), some (-1), Modulation.ofName? "Mod8PSK", false, some 1, some 7,
      some (-1280), some (List.replicate 444 (-127))⟩ := by
  decide +kernel

end OsmoVerif.Props.C04Py
