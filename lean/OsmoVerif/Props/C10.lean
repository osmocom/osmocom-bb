/-
C10 — Forwarded bursts carry faithful bits and correct simulated radio metadata.

One forwarding call `handleDataMsg w k j (fwdInput src s) rx` of the validated world model in an
ARBITRARY world `w` (bundled as `FwdCall`: recipient `r` = transceiver `k`, sender `src` =
transceiver `j`, the sender's message `s` with frame `fn` and burst octets `bits`, `rx` its
`trans(ver = r.hdrVer)`, the call returns `(w', dk)`), for a burst that is not suppressed
(`Spec.suppressed src r fn = false`; the suppressed case is C18).  Then `dk` is what
`DATAInterface.send_msg(cm, legacy = True)` emits (`dgramsOf r (cm.genMsg true)`: one datagram, or
nothing when `cm` fails validation — C13) for a message `cm` with the properties below.
Windows are written `base − thr ≤ v ∧ v ≤ base + thr` (i.e. |v − base| ≤ thr).
No hypothesis on the thresholds is needed: a negative threshold makes the draw raise (F12), and
then the call does not return normally, which `FwdCall.h` excludes (`draw_window`).
-/
import OsmoVerif.Lemmas.WorldFwd

namespace OsmoVerif.Props.C10
open OsmoVerif OsmoVerif.World OsmoVerif.Spec OsmoVerif.World.Examples

variable {w : World} {k j : Nat} {s : Trxd.TxMsg} {r src : Trx} {fn : Int} {bits : List Nat}
  {rx : Trxd.RxMsg} {w' : World} {dk : List Dgram}

/-- window lemma for the draw function: a successful `random.randint(lo, hi)` lies in `[lo, hi]` -/
theorem draw_window (seed n : Nat) (lo hi v : Int) (h : draw seed n lo hi = .ok v) :
    lo ≤ v ∧ v ≤ hi :=
  World.draw_window seed n lo hi v h

/-- master statement: the message handed to the recipient's DATA interface -/
theorem fwd_message (c : FwdCall w k j s r src fn bits rx w' dk) (hns : suppressed src r fn = false) :
    ∃ cm, FwdMeta src r s.fn s.tn s.pwr bits cm ∧ V1Meta r bits cm ∧
      dk = dgramsOf r (cm.genMsg true) :=
  c.spec.1.fwd hns

/-- exactly one datagram (to the recipient's own DATA peer) iff that message validates, else none -/
theorem fwd_single (c : FwdCall w k j s r src fn bits rx w' dk) (hns : suppressed src r fn = false) :
    ∃ cm, FwdMeta src r s.fn s.tn s.pwr bits cm ∧
      ((cm.validate = .ok () ∧ ∃ b, cm.genMsg true = .ok b ∧ dk = [dataDgram r b]) ∨
       (cm.validate ≠ .ok () ∧ dk = [])) := by
  obtain ⟨cm, h1, _, h3⟩ := fwd_message c hns
  refine ⟨cm, h1, ?_⟩
  rcases dgramsOf_genMsg r cm true with ⟨hv, b, hb, e⟩ | ⟨hv, e⟩
  · exact .inl ⟨hv, b, hb, by rw [h3, e]⟩
  · exact .inr ⟨hv, by rw [h3, e]⟩

/-- frame and timeslot number of the sender's message; one full-confidence soft bit of the
matching sign per transmitted octet (`softOf`: 0 ↦ +127, anything else ↦ −127) -/
theorem fwd_bits (c : FwdCall w k j s r src fn bits rx w' dk) (hns : suppressed src r fn = false) :
    ∃ cm : Trxd.RxMsg, dk = dgramsOf r (cm.genMsg true) ∧
      cm.fn = s.fn ∧ cm.tn = s.tn ∧ cm.nopeInd = false ∧ cm.burst = some (bits.map softOf) := by
  obtain ⟨cm, h1, _, h3⟩ := fwd_message c hns
  exact ⟨cm, h3, h1.fn_eq, h1.tn_eq, h1.nope_eq, h1.bits_eq⟩

/-- … for hard bits: bit 0 arrives as +127, bit 1 as −127 -/
theorem fwd_bits01 (c : FwdCall w k j s r src fn bits rx w' dk) (hns : suppressed src r fn = false)
    (h01 : ∀ b ∈ bits, b = 0 ∨ b = 1) :
    ∃ cm : Trxd.RxMsg, dk = dgramsOf r (cm.genMsg true) ∧
      cm.burst = some (bits.map (fun b => if b = 1 then -127 else 127)) := by
  obtain ⟨cm, h3, _, _, _, hb⟩ := fwd_bits c hns
  refine ⟨cm, h3, ?_⟩
  rw [hb]
  congr 1
  apply List.map_congr_left
  intro b hb
  rcases h01 b hb with e | e <;> rw [e] <;> rfl

/-- the regenerated `ubit2sbit` table behind it: octet 0 ↦ +127, EVERY other octet ↦ −127 -/
theorem ubit2sbit_table :
    Gen.Trxd.tabUbit2sbit.length = 256 ∧
    ∀ b : Fin 256, Gen.Trxd.tabUbit2sbit[b.val]? = some (if b.val = 0 then 127 else -127) :=
  ⟨Trxd.tabUbit2sbit_length, fun b => by
    rw [tabUbit2sbit_eq, List.getElem?_map, List.getElem?_range b.isLt, Option.map_some]; rfl⟩

/-- header version negotiated by the recipient; legacy mode: on version 0 the octets are those of
the plain message followed by two zero padding octets, on other versions nothing is appended -/
theorem fwd_version (c : FwdCall w k j s r src fn bits rx w' dk) (hns : suppressed src r fn = false) :
    ∃ cm : Trxd.RxMsg, dk = dgramsOf r (cm.genMsg true) ∧ cm.ver = r.hdrVer ∧
      cm.genMsg true = (match cm.genMsg false with
        | .ok b => .ok (if r.hdrVer = 0 then b ++ [0, 0] else b)
        | .error e => .error e) := by
  obtain ⟨cm, h1, _, h3⟩ := fwd_message c hns
  refine ⟨cm, h3, h1.ver_eq, ?_⟩
  rw [genMsg_legacy, h1.ver_eq]
  cases cm.genMsg false <;> rfl

/-- RSSI = sender nominal power − sender attenuation − burst attenuation − path loss (110 dB),
or, with FAKE_RSSI enabled, a value inside the configured window -/
theorem fwd_rssi (c : FwdCall w k j s r src fn bits rx w' dk) (hns : suppressed src r fn = false) :
    ∃ (cm : Trxd.RxMsg) (v : Int), dk = dgramsOf r (cm.genMsg true) ∧ cm.rssi = some v ∧
      (r.fakeRssi = false → ∃ pwr, s.pwr = some pwr ∧
        v = src.txPowerBase - src.txAttBase - pwr - Gen.World.pathLoss ∧
        v = src.txPowerBase - src.txAttBase - pwr - 110) ∧
      (r.fakeRssi = true → r.rssiBase - r.rssiThr ≤ v ∧ v ≤ r.rssiBase + r.rssiThr) := by
  obtain ⟨cm, h1, _, h3⟩ := fwd_message c hns
  obtain ⟨v, hv, ha, hb⟩ := h1.rssi_ok
  refine ⟨cm, v, h3, hv, fun hf => ?_, hb⟩
  obtain ⟨a, h1, h2⟩ := ha hf
  exact ⟨a, h1, h2, h2⟩

/-- ToA256 = d − 256 × sender timing advance with d inside the FAKE_TOA window (d = base when the
threshold is 0) -/
theorem fwd_toa (c : FwdCall w k j s r src fn bits rx w' dk) (hns : suppressed src r fn = false) :
    ∃ (cm : Trxd.RxMsg) (d : Int), dk = dgramsOf r (cm.genMsg true) ∧ cm.toa256 = some (d - 256 * src.ta) ∧
      r.toaBase - r.toaThr ≤ d ∧ d ≤ r.toaBase + r.toaThr ∧ (r.toaThr = 0 → d = r.toaBase) := by
  obtain ⟨cm, h1, _, h3⟩ := fwd_message c hns
  obtain ⟨d, hd, ha, hb⟩ := h1.toa_ok
  exact ⟨cm, d, h3, hd, ha, hb, fun h0 => by rw [h0] at ha hb; omega⟩

/-- version 1: C/I inside its configured window -/
theorem fwd_ci (c : FwdCall w k j s r src fn bits rx w' dk) (hns : suppressed src r fn = false)
    (hv : 1 ≤ r.hdrVer) :
    ∃ (cm : Trxd.RxMsg) (ci : Int), dk = dgramsOf r (cm.genMsg true) ∧ cm.ci = some ci ∧
      r.ciBase - r.ciThr ≤ ci ∧ ci ≤ r.ciBase + r.ciThr := by
  obtain ⟨cm, h1, _, h3⟩ := fwd_message c hns
  obtain ⟨ci, hc, ha, hb⟩ := h1.ci_ok hv
  exact ⟨cm, ci, h3, hc, ha, hb⟩

/-- version 1: the modulation is the FIRST member of the `Modulation` enum whose burst length is
the number of transmitted octets (none if there is no such member); TSC and TSC set are those of
`TrainingSeqGMSK.pick` for GMSK bursts (0, 0 when nothing matches), and 0, 0 otherwise -/
theorem fwd_mod (c : FwdCall w k j s r src fn bits rx w' dk) (hns : suppressed src r fn = false)
    (hv : 1 ≤ r.hdrVer) :
    ∃ cm : Trxd.RxMsg, dk = dgramsOf r (cm.genMsg true) ∧
      cm.modType = Trxd.Modulation.pickByBl bits.length ∧
      (∀ mod, cm.modType = some mod → mod.bl = bits.length ∧
        ∀ m' : Trxd.Modulation, m'.val < mod.val → m'.bl ≠ bits.length) ∧
      (cm.modType = none → ∀ m : Trxd.Modulation, m.bl ≠ bits.length) ∧
      cm.tsc = some (tscOf (Trxd.Modulation.pickByBl bits.length) bits).1 ∧
      cm.tscSet = some (tscOf (Trxd.Modulation.pickByBl bits.length) bits).2 := by
  obtain ⟨cm, _, h2, h3⟩ := fwd_message c hns
  obtain ⟨a, b, d⟩ := h2 hv
  refine ⟨cm, h3, a, fun mod hm => ?_, fun hn m => ?_, b, d⟩
  · rw [a] at hm
    obtain ⟨e1, e2⟩ := pickByBl_first _ _ hm
    exact ⟨by exact_mod_cast e1, fun m' hlt => by have := e2 m' hlt; exact_mod_cast this⟩
  · rw [a] at hn
    have := pickByBl_none _ hn m
    exact_mod_cast this

/-- 148 octets: GMSK, 444 octets: 8-PSK; for a GMSK burst the reported (TSC, TSC set) is what
`trainSeqPick` returns -/
theorem fwd_mod_values :
    Trxd.Modulation.pickByBl 148 = some Trxd.Modulation.gmsk ∧
    (Trxd.Modulation.pickByBl 148).map Trxd.Modulation.name = some "ModGMSK" ∧
    (Trxd.Modulation.pickByBl 444).map Trxd.Modulation.name = some "Mod8PSK" ∧
    (∀ bits : List Nat, tscOf (some Trxd.Modulation.gmsk) bits =
      match trainSeqPick bits with
      | some (t, s) => ((t : Int), (s : Int))
      | none => (0, 0)) := by
  refine ⟨pickByBl_values.1, pickByBl_values.2.1, pickByBl_values.2.2, fun bits => ?_⟩
  simp only [tscOf, if_true]
  cases trainSeqPick bits with
  | none => rfl
  | some p => rfl

/-- whatever `TrainingSeqGMSK.pick` returns is a table sequence present at its position -/
theorem tsc_detect_present (burst : List Nat) (t st : Nat) (h : trainSeqPick burst = some (t, st)) :
    ∃ e ∈ Gen.World.trainSeqs, e.2.1 = t ∧ e.2.2.2.2 = st ∧ presentAt e burst :=
  trainSeqPick_present burst t st h

/-- normal burst as `gen_nb` builds it (3 tail, 57 data, stealing flag, 26 TS, stealing flag,
57 data, 3 tail) with a NORMAL table sequence `e`: `pick` returns a sequence that is present at
its position, and exactly (e.tsc, e.tsc_set) if `e` is the only table sequence present at its
own position -/
theorem tsc_detect_nb (e : TsEntry) (he : e ∈ Gen.World.trainSeqs) (hbt : e.2.2.1 = "NORMAL")
    (d1 : List Nat) (s1 s2 : Nat) (d2 : List Nat) (hd1 : d1.length = 57) :
    let burst := nbLayout d1 s1 e.2.2.2.1 s2 d2
    (∃ e' ∈ Gen.World.trainSeqs, presentAt e' burst ∧
      trainSeqPick burst = some (e'.2.1, e'.2.2.2.2)) ∧
    ((∀ e' ∈ Gen.World.trainSeqs, presentAt e' burst → e' = e) →
      trainSeqPick burst = some (e.2.1, e.2.2.2.2)) := by
  have := presentAt_append he (pos := 61) (by rw [hbt]; rfl) ([0, 0, 0] ++ d1 ++ [s1]) ([s2] ++ d2 ++ [0, 0, 0])
    (by simp [hd1])
  exact trainSeqPick_of_present _ e he (by simpa only [nbLayout, List.append_assoc] using this)

/-- synchronisation burst as `gen_sb` builds it (3 tail, 39 data, 64 TS, 39 data, 3 tail) -/
theorem tsc_detect_sb (e : TsEntry) (he : e ∈ Gen.World.trainSeqs) (hbt : e.2.2.1 = "SYNC")
    (d1 d2 : List Nat) (hd1 : d1.length = 39) :
    let burst := sbLayout d1 e.2.2.2.1 d2
    (∃ e' ∈ Gen.World.trainSeqs, presentAt e' burst ∧
      trainSeqPick burst = some (e'.2.1, e'.2.2.2.2)) ∧
    ((∀ e' ∈ Gen.World.trainSeqs, presentAt e' burst → e' = e) →
      trainSeqPick burst = some (e.2.1, e.2.2.2.2)) := by
  have := presentAt_append he (pos := 42) (by rw [hbt]; rfl) ([0, 0, 0] ++ d1) (d2 ++ [0, 0, 0]) (by simp [hd1])
  exact trainSeqPick_of_present _ e he (by simpa only [sbLayout, List.append_assoc] using this)

/-- access burst as `gen_ab` builds it (8 tail, 41 TS, 36 data, 3 tail, 60 guard) -/
theorem tsc_detect_ab (e : TsEntry) (he : e ∈ Gen.World.trainSeqs) (hbt : e.2.2.1 = "ACCESS")
    (d : List Nat) :
    let burst := abLayout e.2.2.2.1 d
    (∃ e' ∈ Gen.World.trainSeqs, presentAt e' burst ∧
      trainSeqPick burst = some (e'.2.1, e'.2.2.2.2)) ∧
    ((∀ e' ∈ Gen.World.trainSeqs, presentAt e' burst → e' = e) →
      trainSeqPick burst = some (e.2.1, e.2.2.2.2)) := by
  have := presentAt_append he (pos := 8) (by rw [hbt]; rfl) (List.replicate 8 0)
    (d ++ [0, 0, 0] ++ List.replicate 60 0) (by simp)
  exact trainSeqPick_of_present _ e he (by simpa only [abLayout, List.append_assoc] using this)

/-- the generated sequences of one burst type are pairwise distinct, and so are their
(TSC, TSC set) pairs: within a burst type the reported pair identifies the sequence -/
theorem seqs_distinct :
    Gen.World.trainSeqs.Pairwise (fun a b => a.2.2.1 = b.2.2.1 →
      a.2.2.2.1 ≠ b.2.2.2.1 ∧ (a.2.1, a.2.2.2.2) ≠ (b.2.1, b.2.2.2.2)) := by decide +kernel

/-- every table entry is a NORMAL / SYNC / ACCESS sequence of the standard length with TSC 0..7
and TSC set 0 (so the reported values always pass the TSC / TSC-set range checks) -/
theorem seqs_ranges : ∀ e ∈ Gen.World.trainSeqs,
    ((e.2.2.1 = "NORMAL" ∧ e.2.2.2.1.length = 26) ∨ (e.2.2.1 = "SYNC" ∧ e.2.2.2.1.length = 64) ∨
     (e.2.2.1 = "ACCESS" ∧ e.2.2.2.1.length = 41)) ∧ e.2.1 ≤ 7 ∧ e.2.2.2.2 = 0 := by
  decide +kernel

/-! ### non-vacuity (`World.Examples`): the BTS (0) transmits a normal burst with NB_TS3 in frame 52
to transceiver 6 (`msFake`: version 1, FAKE_RSSI −80 ± 5, FAKE_TOA 100 ± 20, FAKE_CI 100 ± 10) -/

/-- the hypotheses (`FwdCall`, not suppressed) are satisfiable -/
example : ∃ rx w' dk, FwdCall world 6 0 (burst 52) msFake bts 52 nbBits rx w' dk ∧
    suppressed bts msFake 52 = false := by
  have hrx := trans_burst (fwdInput bts (burst 52)) msFake.hdrVer nbBits rfl (by decide +kernel)
  obtain ⟨⟨w', dk⟩, h⟩ := exists_of_isOk (handleDataMsg world 6 0 (fwdInput bts (burst 52))
      { Trxd.RxMsg.fresh with fn := (fwdInput bts (burst 52)).fn, tn := (fwdInput bts (burst 52)).tn,
                              ver := msFake.hdrVer, burst := some (nbBits.map softOf) })
    (by decide +kernel)
  exact ⟨_, w', dk, ⟨rfl, rfl, by decide, rfl, rfl, by decide +kernel, hrx, h⟩, by decide⟩

/-- what the model emits there: one datagram of 11 + 148 octets to the peer of transceiver 6 with
version 1 / TN 2, FN 52, RSSI −79 (inside −80 ± 5), ToA256 87 (inside 100 ± 20), MTS = GMSK, set 0,
TSC 3, C/I 101 (inside 100 ± 10), first soft bits +127 (octet 0) … -/
example : ((outOf (forwardMsg world 0 (burst 52))).filter (toDataPeer msFake)).map
    (fun d => (d.data.length, d.data.take 14)) =
    [(159, [18, 0, 0, 0, 52, 79, 0, 87, 3, 0, 101, 0, 0, 0])] := by decide +kernel

/-- a version-0 recipient (transceiver 4, frame 51 is odd: no loss): 8 + 148 + 2 octets, RSSI
50 − 0 − 10 − 110 = −70, ToA256 0, the last soft bits (tail 0 ↦ +127 = octet 0) and two padding octets -/
example : ((outOf (forwardMsg world 0 (burst 51))).filter (toDataPeer msDrop)).map
    (fun d => (d.data.length, d.data.take 8, d.data.drop 153)) =
    [(158, [2, 0, 0, 0, 51, 70, 0, 0], [0, 0, 0, 0, 0])] := by decide +kernel

/-- training sequence detection on that burst: NB_TS3 is the only table sequence present -/
example : trainSeqPick nbBits = some (3, 0) ∧
    (∀ e' ∈ Gen.World.trainSeqs, presentAt e' nbBits →
      e' = ("NB_TS3", 3, "NORMAL", [0,1,0,0,0,1,1,1,1,0,1,1,0,1,0,0,0,1,0,0,0,1,1,1,1,0], 0)) := by
  constructor <;> decide +kernel

/-- the "only one present" hypothesis of `tsc_detect_*` is forced: a normal burst with NB_TS3 whose
payload happens to carry AB_TS0 at bits 8..48 is reported as TSC 0 (access-burst sequences come
first in the enumeration) -/
example : trainSeqPick (nbLayout
    ([0,0,0,0,0] ++ [0,1,0,0,1,0,1,1,0,1,1,1,1,1,1,1,1,0,0,1,1,0,0,1,1,0,1,0,1,0,1,0,0,0,1,1,1,1,0,0,0] ++
      List.replicate 11 0) 0
    [0,1,0,0,0,1,1,1,1,0,1,1,0,1,0,0,0,1,0,0,0,1,1,1,1,0] 1 (List.replicate 57 0)) = some (0, 0) := by
  decide +kernel

end OsmoVerif.Props.C10
