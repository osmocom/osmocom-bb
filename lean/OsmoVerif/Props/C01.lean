/-
C01 — TRXD messages survive encode/decode unchanged.
Property theorems only.  Model: `OsmoVerif.Model.Trxd`, lemmas: `OsmoVerif.Lemmas.Trxd`; what the protocol-level
fields of an Rx message are is said by `C04Py.fields_rx_spec`.
Validity is definitionally `validate m = .ok ()` (characterised by C13 as the protocol ranges).
-/
import OsmoVerif.Props.C04Py

namespace OsmoVerif.Props.C01
open OsmoVerif OsmoVerif.Trxd OsmoVerif.Spec.TrxdRanges OsmoVerif.Spec.TrxdLayout

/-- the toolkit accepts the message as valid -/
def TxValid (m : TxMsg) : Prop := m.validate = .ok ()
def RxValid (m : RxMsg) : Prop := m.validate = .ok ()

instance (m : TxMsg) : Decidable (TxValid m) := by unfold TxValid; infer_instance
instance (m : RxMsg) : Decidable (RxValid m) := by unfold RxValid; infer_instance

/-- every soft bit of the burst lies in -127..127 (the domain the property quantifies over) -/
def SoftRange (m : RxMsg) : Prop := ∀ b ∈ m.burst, ∀ s ∈ b, -127 ≤ s ∧ s ≤ 127

instance (m : RxMsg) : Decidable (SoftRange m) := by unfold SoftRange; infer_instance

/-- What an Rx message looks like after a trip through its own header version: the fields the version
does not transport are those of a fresh `RxMsg()` (version 0: TSC set, TSC, C/I unset, no NOPE flag, the
modulation is the first one with the burst's length; NOPE indication: modulation, TSC set, TSC unset);
every transported field, including every soft bit, is unchanged. -/
def carried (m : RxMsg) : RxMsg :=
  if m.ver = 0 then
    { m with modType := m.burst.bind (fun b => Modulation.pickByBl b.length),
             nopeInd := false, tscSet := none, tsc := none, ci := none }
  else if m.nopeInd then
    { m with modType := none, tscSet := none, tsc := none }
  else m

/-- Every valid Tx message (both versions, both burst lengths, all field values and bits, legacy
padding on or off) decodes from its own encoding to itself. -/
theorem tx_roundtrip (m : TxMsg) (legacy : Bool) (h : TxValid m) :
    (m.genMsg legacy >>= TxMsg.parseMsg) = .ok m := by
  have hr := (TxMsg.validate_iff m).mp h
  obtain ⟨f, hf, hg⟩ := TxMsg.genMsg_layout m legacy hr
  rw [hg]
  simp only [bind, Except.bind]
  -- `m` consists of the fields its octets were laid out from
  have hm := TxMsg.eq_of_fields? m f hf
  subst hm
  obtain ⟨hv, hfn, htn, -, hb⟩ := hr
  simp only [knownVersion, within, burstLen148or444] at hv hfn htn hb
  exact TxMsg.parse_layout f legacy (by omega) (by omega) (by omega) hb

/-- Every valid Rx message with soft bits in -127..127 (both versions, all six modulations, every TSC
set / TSC, NOPE indications, legacy padding on or off) decodes from its own encoding to a message equal
in every field its header version transports. -/
theorem rx_roundtrip (m : RxMsg) (legacy : Bool) (h : RxValid m) (hs : SoftRange m) :
    (m.genMsg legacy >>= RxMsg.parseMsg) = .ok (carried m) := by
  have hr := (RxMsg.validate_iff m).mp h
  have hw : m.WellTyped := fun b hb s hsb => by have := hs b hb s hsb; omega
  obtain ⟨f, hf, hg⟩ := RxMsg.genMsg_layout m legacy hr hw
  rw [hg]
  simp only [bind, Except.bind, RxMsg.parseMsg]
  -- the attributes of `m` in terms of the fields its octets were laid out from
  obtain ⟨ev, efn, etn, ers, eto, eb, e1⟩ := C04Py.fields_rx_spec m f hf
  obtain ⟨hv, hfn, htn, hrs, hto, h0, h1⟩ := hr
  rw [efn] at hfn; rw [etn] at htn; rw [ers] at hrs; rw [eto] at hto
  simp only [within] at hfn htn hrs hto
  have bfn : f.fn < 4294967296 := by omega
  have btn : f.tn < 8 := by omega
  have brs : -255 ≤ f.rssi ∧ f.rssi ≤ 0 := by omega
  rcases hv with hv | hv
  · -- version 0
    have hfv : f.ver = 0 := by omega
    have hb := h0 hv
    rw [eb] at hb
    cases hsoft : f.soft with
    | none => rw [hsoft] at hb; exact hb.elim
    | some b =>
      rw [hsoft] at hb eb
      have hl : layoutRx f legacy
          = hdr 0 f.tn f.fn ++ [(-f.rssi).toNat] ++ s16be f.toa256 ++ b.map softOctet ++ pad 0 legacy := by
        simp only [layoutRx, hfv, hsoft, show ¬ ((0 : Nat) = 1) by omega, if_false, List.append_nil]
      rw [hl, RxMsg.parse_v0_raw RxMsg.fresh f.fn f.tn f.rssi f.toa256 _ legacy btn bfn brs hto
        (by rw [List.length_map]; exact hb) (softOctet_lt b (hs b eb)), map_softVal_softOctet b (hs b eb),
        List.length_map]
      simp only [carried, hv, if_true, efn, etn, ers, eto, eb, Option.bind_some]
      rfl
  · -- version 1
    have hfv : f.ver = 1 := by omega
    obtain ⟨hci, hrest⟩ := h1 hv
    obtain ⟨eci, enope, emts⟩ := e1 hv
    rw [eci] at hci
    simp only [within] at hci
    have hpad : pad 1 legacy = [] := by cases legacy <;> rfl
    cases hn : f.nope with
    | true =>
      rw [enope, hn, if_pos rfl, eb] at hrest
      have hl : layoutRx f legacy
          = hdr 1 f.tn f.fn ++ [(-f.rssi).toNat] ++ s16be f.toa256 ++ ([128] ++ s16be f.ci) := by
        simp only [layoutRx, hfv, hrest, hn, mtsOctet, if_true, hpad, List.append_nil]
      rw [hl, RxMsg.parse_v1_nope RxMsg.fresh f.fn f.tn f.rssi f.toa256 f.ci btn bfn brs hto (by omega)]
      rw [hn] at enope
      simp only [carried, hv, show ¬ ((1 : Int) = 0) by omega, if_false, enope, if_true, efn, etn, ers, eto, eci, eb, hrest]
    | false =>
      rw [enope, hn, if_neg (by decide)] at hrest
      obtain ⟨mod, set, emod, eset, hmd, etsc⟩ := emts hn
      obtain ⟨mod', emod', hset, htsc, hbl⟩ := (inRangeMts_iff m).mp hrest
      rw [emod] at emod'
      cases emod'
      rw [etsc] at htsc
      rw [eset] at hset
      simp only [within] at htsc
      have hset' : set < 4 ∧ (mod.coding = 0 ∨ set ≤ 1) := by
        split at hset <;> simp only [within] at hset
        · exact ⟨by omega, Or.inl (by assumption)⟩
        · exact ⟨by omega, Or.inr (by omega)⟩
      cases hsoft : f.soft with
      | none => rw [eb, hsoft] at hbl; exact hbl.elim
      | some b =>
        rw [eb, hsoft] at hbl
        rw [hsoft] at eb
        simp only [burstLenOfMod, modLen_coding, Option.some.injEq] at hbl
        have hbne : b ≠ [] := by
          intro hb; have := bl_pos mod; rw [hbl, hb] at this; exact Nat.lt_irrefl 0 this
        have hl : layoutRx f legacy = hdr 1 f.tn f.fn ++ [(-f.rssi).toNat] ++ s16be f.toa256
            ++ ([8 * f.mod.bits + f.tsc] ++ s16be f.ci) ++ b.map softOctet := by
          simp only [layoutRx, hfv, hsoft, hn, mtsOctet, if_true, Bool.false_eq_true, if_false, hpad,
            List.append_nil]
        rw [hl, RxMsg.parse_v1_burst RxMsg.fresh f.fn f.tn f.rssi f.toa256 f.ci mod set f.tsc f.mod b btn bfn brs hto
          (by omega) hset'.1 (by omega) hset'.2 hmd hbne (hs b eb)]
        rw [hn] at enope
        simp only [carried, hv, show ¬ ((1 : Int) = 0) by omega, if_false, enope, Bool.false_eq_true]
        cases m
        simp only at efn etn ers eto eb hv eci enope emod eset etsc
        simp only [efn, etn, ers, eto, eb, hv, eci, enope, emod, eset, etsc]

/-- A version-0 Tx message with the two legacy padding octets decodes to the same message as without. -/
theorem legacy_same_tx (m : TxMsg) (h : TxValid m) (_hv : m.ver = 0) :
    (m.genMsg true >>= TxMsg.parseMsg) = (m.genMsg false >>= TxMsg.parseMsg) := by
  rw [tx_roundtrip m true h, tx_roundtrip m false h]

/-- A version-0 Rx message with the two legacy padding octets decodes to the same message as without —
for every burst content (no restriction on the soft bits). -/
theorem legacy_same_rx (m : RxMsg) (h : RxValid m) (hv : m.ver = 0) :
    (m.genMsg true >>= RxMsg.parseMsg) = (m.genMsg false >>= RxMsg.parseMsg) := by
  have hr := (RxMsg.validate_iff m).mp h
  obtain ⟨f, hf, -, hg⟩ := RxMsg.genMsg_split m true hr
  obtain ⟨f', hf', -, hg'⟩ := RxMsg.genMsg_split m false hr
  cases hf.symm.trans hf'
  rw [hg, hg']
  obtain ⟨ev, efn, etn, ers, eto, -, -⟩ := C04Py.fields_rx_spec m f hf
  obtain ⟨-, hfn, htn, hrs, hto, h0, -⟩ := hr
  rw [efn] at hfn; rw [etn] at htn; rw [ers] at hrs; rw [eto] at hto
  simp only [within] at hfn htn hrs hto
  have hfv : f.ver = 0 := by omega
  have hb := h0 hv
  cases eb : m.burst with
  | none => rw [eb] at hb; exact hb.elim
  | some b =>
    rw [eb] at hb
    simp only [burstLen148or444] at hb
    simp only [Option.map_some, Option.getD_some]
    -- the burst octets `append_burst_to` writes, whatever the soft bits are
    have hu : ∀ x ∈ b.map (fun s => softOctet (ubyte2s (sbyte s))), x < 256 := by
      intro x hx
      obtain ⟨s, -, rfl⟩ := List.mem_map.mp hx
      unfold softOctet ubyte2s sbyte
      split <;> omega
    have hul : (b.map fun s => softOctet (ubyte2s (sbyte s))).length = 148 ∨
        (b.map fun s => softOctet (ubyte2s (sbyte s))).length = 444 := by rw [List.length_map]; exact hb
    generalize b.map (fun s => softOctet (ubyte2s (sbyte s))) = u at hu hul ⊢
    have hl : ∀ l, rxHdrLayout f ++ u ++ pad f.ver l
        = hdr 0 f.tn f.fn ++ [(-f.rssi).toNat] ++ s16be f.toa256 ++ u ++ pad 0 l := by
      intro l
      simp only [rxHdrLayout, hfv, show ¬ ((0 : Nat) = 1) by omega, if_false, List.append_nil]
    simp only [bind, Except.bind, RxMsg.parseMsg]
    rw [hl true, hl false,
      RxMsg.parse_v0_raw RxMsg.fresh f.fn f.tn f.rssi f.toa256 u true (by omega) (by omega) (by omega) hto hul hu,
      RxMsg.parse_v0_raw RxMsg.fresh f.fn f.tn f.rssi f.toa256 u false (by omega) (by omega) (by omega) hto hul hu]

/-- the modulation a version-0 message carries after the trip: GMSK for 148, 8-PSK for 444 soft bits -/
theorem carried_v0_mod (m : RxMsg) (h : RxValid m) (hv : m.ver = 0) :
    ∃ b, m.burst = some b ∧
      ((b.length = 148 ∧ (carried m).modType = Modulation.ofName? "ModGMSK") ∨
       (b.length = 444 ∧ (carried m).modType = Modulation.ofName? "Mod8PSK")) := by
  have hr := (RxMsg.validate_iff m).mp h
  have hb := hr.2.2.2.2.2.1 hv
  cases hbm : m.burst with
  | none => simp only [hbm, burstLen148or444] at hb
  | some b =>
    simp only [hbm, burstLen148or444] at hb
    refine ⟨b, rfl, ?_⟩
    rcases hb with hb | hb
    · exact Or.inl ⟨hb, by simp only [carried, hv, if_true, hbm, Option.bind_some, hb]; decide⟩
    · exact Or.inr ⟨hb, by simp only [carried, hv, if_true, hbm, Option.bind_some, hb]; decide⟩

/-! ### non-vacuity and the boundary of the soft-bit domain -/

/-- a valid version-1 32QAM message with soft bits at both ends of the range -/
example : RxValid ⟨1, some 2715647, some 7, some (-120), some (-32768), Modulation.ofName? "Mod32QAM", false,
    some 1, some 7, some 1280, some (List.replicate 370 (-127) ++ List.replicate 370 127)⟩ ∧
    SoftRange ⟨1, some 2715647, some 7, some (-120), some (-32768), Modulation.ofName? "Mod32QAM", false,
    some 1, some 7, some 1280, some (List.replicate 370 (-127) ++ List.replicate 370 127)⟩ := by
  decide +kernel

/-- a valid version-0 EDGE-length Tx message -/
example : TxValid ⟨0, some 0, some 0, some 255, some (List.replicate 444 1)⟩ := by decide +kernel

/-- a valid NOPE indication and what it carries -/
example : RxValid ⟨1, some 5, some 3, some (-47), some 32767, some Modulation.gmsk, true, some 9, some 9,
      some (-1280), none⟩ ∧
    carried ⟨1, some 5, some 3, some (-47), some 32767, some Modulation.gmsk, true, some 9, some 9,
      some (-1280), none⟩ =
      ⟨1, some 5, some 3, some (-47), some 32767, none, true, none, none, some (-1280), none⟩ := by
  decide +kernel

/-- -128 is outside the quantifier's domain for a reason: it is a legal `array('b')` element and the
message validates, but it comes back as -127 -/
example : RxValid ⟨0, some 1, some 2, some (-60), some 0, some Modulation.gmsk, false, none, none, none,
      some (List.replicate 148 (-128))⟩ ∧
    (((⟨0, some 1, some 2, some (-60), some 0, some Modulation.gmsk, false, none, none, none,
        some (List.replicate 148 (-128))⟩ : RxMsg).genMsg false >>= RxMsg.parseMsg) =
      .ok ⟨0, some 1, some 2, some (-60), some 0, some Modulation.gmsk, false, none, none, none,
        some (List.replicate 148 (-127))⟩) := by
  decide +kernel

end OsmoVerif.Props.C01
