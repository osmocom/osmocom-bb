/-
C19, part "sch" — the Synchronisation-Burst decoders of the firmware (`l1s_decode_sb`, prim_fbsb.c) and of trxcon
(`decode_sb`, sched_lchan_sch.c) agree and invert the standard's coding of (BSIC, frame number).
Property theorems only; models: `OsmoVerif.Model.SchDecode` (+ `Model.GsmTime`), spec: `OsmoVerif.Spec.SchCoding`
(TS 44.018 §9.1.30, TS 45.002 §3.3.2.2.1), lemmas: `OsmoVerif.Lemmas.SchDecode`.
-/
import OsmoVerif.Lemmas.SchDecode
import OsmoVerif.Props.C19

namespace OsmoVerif.Props.C19Sch
open OsmoVerif OsmoVerif.GsmTime OsmoVerif.SchDecode OsmoVerif.Spec.SchCoding

/-- the word whose byte `k` is octet `k` (what trxcon assembles; bit `k` = d(k)) -/
def wordOf (o0 o1 o2 o3 : Nat) : Nat := o0 + 256 * o1 + 65536 * o2 + 16777216 * o3

/-! ### the spec: octet figure = bit table -/

/-- Figure 9.1.30.1 evaluated octet by octet is the 25-entry bit table `Spec.SchCoding.layout`. -/
theorem spec_layout (f : Fields) (h : f.InWidth) : encodeByLayout f = encodeFields f := by
  obtain ⟨h0, h1, h2, h3⟩ := h
  have e := encodeFields_parts f 0
  rw [encodeByLayout_eq, Nat.mod_eq_of_lt h0, Nat.mod_eq_of_lt h2,
    Nat.mod_eq_of_lt (Nat.div_lt_of_lt_mul h1 : f.t1 / 512 < 4), Nat.mod_eq_of_lt (Nat.div_lt_of_lt_mul h3 : f.t3p / 2 < 4)]
  omega

/-- Reading the table backwards recovers the fields of an encoded word, which has 25 bits. -/
theorem spec_layout_inverse (f : Fields) (h : f.InWidth) :
    decodeByLayout (encodeFields f) = f ∧ encodeFields f < 2 ^ 25 := by
  obtain ⟨e0, e1, e2, e3, _⟩ := fields_of_encode f h 0
  rw [Nat.mul_zero, Nat.add_zero] at e0 e1 e2 e3
  refine ⟨?_, encodeFields_lt f h⟩
  rw [decodeByLayout_eq, e0, e1, e2, e3]

/-- The encoder is defined exactly on BSIC 0..63 and the SCH frames of the hyperframe. -/
theorem encode_defined (bsic fn : Nat) :
    (bsic < 64 ∧ fn < 2715648 ∧ isSchFrame fn = true) ↔ ∃ w, encodeSb bsic fn = some w :=
  ⟨fun c => ⟨_, (encodeSb_eq_some bsic fn _).2 ⟨c, rfl⟩⟩, fun ⟨w, hw⟩ => ((encodeSb_eq_some bsic fn w).1 hw).1⟩

/-- The fields it encodes are in the standard's ranges (T1 ≤ 2047, T2 ≤ 25, T3' ≤ 4) and T3 = 10·T3' + 1 on SCH frames. -/
theorem encode_fields_valid (bsic fn : Nat) (f : Fields) (h : rfn? bsic fn = some f) :
    f.Valid ∧ f.bsic = bsic ∧ f.t1 = fn / 1326 ∧ f.t2 = fn % 26 ∧ 10 * f.t3p + 1 = fn % 51 := by
  obtain ⟨⟨hb, hf, hs⟩, rfl⟩ := (rfn?_eq_some bsic fn f).1 h
  obtain ⟨t3, v⟩ := rfn_valid bsic fn hb hf hs
  exact ⟨v, rfl, rfl, rfl, t3⟩

/-! ### the two decoders agree on every input -/

/-- For all four octets (incl. the 7 indeterminate bits of `sb_info[3]`): trxcon's decoder is defined (no `int` shift
overflows: the `(uint32_t)` cast) and yields the same BSIC, T1, T2, T3 and FN as the firmware's on the same word; it
leaves `tc` alone. -/
theorem decoders_agree (t : GsmTime) (o0 o1 o2 o3 : Nat)
    (h0 : o0 < 256) (h1 : o1 < 256) (h2 : o2 < 256) (h3 : o3 < 256) :
    trxDecodeSb t o0 o1 o2 o3 =
      .ok ⟨(fwDecodeSb (wordOf o0 o1 o2 o3)).bsic, { (fwDecodeSb (wordOf o0 o1 o2 o3)).time with tc := t.tc }⟩ := by
  rw [trx_nf t o0 o1 o2 o3 h0 h1 h2 h3, fw_nf, wordOf]

/-- The same, quantified over the 32-bit word the firmware gets. -/
theorem decoders_agree_word (t : GsmTime) (sb : Nat) (h : sb < 4294967296) :
    trxDecodeSb t (sb % 256) (sb / 256 % 256) (sb / 65536 % 256) (sb / 16777216) =
      .ok ⟨(fwDecodeSb sb).bsic, { (fwDecodeSb sb).time with tc := t.tc }⟩ := by
  rw [decoders_agree t _ _ _ _ (by omega) (by omega) (by omega) (by omega)]
  have : wordOf (sb % 256) (sb / 256 % 256) (sb / 65536 % 256) (sb / 16777216) = sb := by
    simp only [wordOf]; omega
  rw [this]

/-! ### every word: what is read, what is ignored, what can wrap -/

/-- Both decoders read exactly the 25 bits of the standard's table, whatever the word: BSIC, T1, T2 are the table's
fields, T3 = 10·T3' + 1 (no store wraps: T1 ≤ 2047 in `uint16_t`, T3 ≤ 71 in `uint8_t`), FN is `gsm_gsmtime2fn` of them,
the firmware's TC is (FN div 51) mod 8. -/
theorem decode_reads_layout (sb : Nat) :
    let f := decodeByLayout (sb % 2 ^ 25)
    let r := fwDecodeSb sb
    f.InWidth ∧ r.bsic = f.bsic ∧ r.time.t1 = f.t1 ∧ r.time.t2 = f.t2 ∧ r.time.t3 = 10 * f.t3p + 1
      ∧ r.time.fn = cGsmTime2Fn ⟨0, f.t1, f.t2, 10 * f.t3p + 1, 0⟩ ∧ r.time.tc = r.time.fn / 51 % 8 := by
  obtain ⟨m0, m1, m2, m3⟩ := fields_mod sb
  simp only [decodeByLayout_eq, Nat.reducePow, fw_nf, nfTime, m0, m1, m2, m3, Fields.InWidth, fnOf, and_self, and_true]
  exact ⟨fBsic_lt sb, fT1_lt sb, fT2_lt sb, fT3p_lt sb⟩

/-- Bits 25..31 (unused in the firmware's word; indeterminate stack content of `sb_info[3]` in trxcon) are ignored. -/
theorem decode_ignores_high_bits (sb : Nat) : fwDecodeSb sb = fwDecodeSb (sb % 2 ^ 25) := by
  obtain ⟨m0, m1, m2, m3⟩ := fields_mod sb
  simp only [fw_nf, nfTime, Nat.reducePow, m0, m1, m2, m3]

/-- The frame number when T2 ≤ T3 + 26 (every word except T3' = 0 with T2 ≥ 28): the `int` value of the recomposition
is non-negative and below 2^32, so the conversion to `uint32_t` keeps it; it may exceed the hyperframe by at most 20. -/
theorem fn_exact (sb : Nat) (h : (fwDecodeSb sb).time.t2 ≤ (fwDecodeSb sb).time.t3 + 26) :
    let r := fwDecodeSb sb
    r.time.fn = 51 * ((r.time.t3 + 26 - r.time.t2) % 26) + r.time.t3 + 1326 * r.time.t1 ∧ r.time.fn ≤ 2715668 := by
  have b1 := fT1_lt sb
  have b3 := fT3p_lt sb
  simp only [fw_nf, nfTime] at h ⊢
  rw [fnOf_nonneg _ _ _ h b1 (by omega)]
  omega

/-- The one silent wrap: the `int` recomposition is negative exactly for T1 = 0, T3' = 0, T2 ∈ 28..31 (not a valid T2);
`gsm_gsmtime2fn` then returns 2^32 − (51·(T2 − 27) − 1), a number far outside the hyperframe. -/
theorem fn_wraps_iff (sb : Nat) :
    let r := fwDecodeSb sb
    (recompInt r.time.t1 r.time.t2 r.time.t3 < 0 ↔ (r.time.t1 = 0 ∧ r.time.t3 = 1 ∧ 28 ≤ r.time.t2))
      ∧ (recompInt r.time.t1 r.time.t2 r.time.t3 < 0 → r.time.fn + (51 * (r.time.t2 - 27) - 1) = 4294967296) := by
  have b2 := fT2_lt sb
  simp only [fw_nf, nfTime]
  generalize fT1 sb = t1
  generalize fT2 sb = t2 at *
  generalize fT3p sb = p
  have key := recompInt_neg_iff t1 t2 (10 * p + 1) (by omega)
  -- T2 ≤ 31 leaves T3 + 26 < T2 to T3 = 1, and 51 · (T2 − 27) ≤ 204 < 1326 leaves T1 = 0
  have hz : (10 * p + 1 + 26 < t2 ∧ 1326 * t1 + (10 * p + 1) < 51 * (t2 - (10 * p + 1) - 26))
      ↔ (t1 = 0 ∧ 10 * p + 1 = 1 ∧ 28 ≤ t2) := by omega
  refine ⟨key.trans hz, fun h => ?_⟩
  obtain ⟨z, hp, _⟩ := hz.1 (key.1 h)
  obtain ⟨c, hn⟩ := key.1 h
  have := fnOf_neg t1 t2 (10 * p + 1) c (by omega) hn
  rw [hp, z] at this ⊢
  omega

/-- exhibit: T2 field all ones, everything else zero -/
example : fwDecodeSb 0x7c0000 = ⟨0, ⟨4294967093, 0, 31, 1, 1⟩⟩ := by decide +kernel
/-- exhibit: T1 = 2047, T2 = 20, T3' = 7 (T3 = 71): FN 2715668 is beyond the hyperframe (no wrap) -/
example : (fwDecodeSb 0x1d3ff03).time = ⟨2715668, 2047, 20, 71, 0⟩ := by decide +kernel

/-- T3' ∈ 5..7 with a valid T2: T3 = 51, 61, 71 is stored as it is, FN mod 51 is 0, 10, 20 (an FCCH position): the
result is never an SCH frame and the struct is not the GSM time of its own `fn`. -/
theorem t3p_invalid_not_sch (sb : Nat) (h2 : (fwDecodeSb sb).time.t2 < 26) (h3 : 51 ≤ (fwDecodeSb sb).time.t3) :
    let r := fwDecodeSb sb
    r.time.fn % 51 = r.time.t3 - 51 ∧ isSchFrame r.time.fn = false ∧ r.time ≠ cFn2GsmTime r.time.fn := by
  have b1 := fT1_lt sb
  have b3 := fT3p_lt sb
  simp only [fw_nf, nfTime] at h2 h3 ⊢
  rw [fnOf_nonneg _ _ _ (by omega) b1 (by omega)]
  generalize fT1 sb = t1
  generalize (10 * fT3p sb + 1 + 26 - fT2 sb) % 26 = d
  generalize fT3p sb = p at *
  have e : (51 * d + (10 * p + 1) + 1326 * t1) % 51 = 10 * p + 1 - 51 := by omega
  generalize 51 * d + (10 * p + 1) + 1326 * t1 = F at *
  refine ⟨e, Bool.eq_false_iff.2 fun hh => ?_, fun hh => ?_⟩
  · have := (isSchFrame_iff F).1 hh
    omega
  · have e3 : 10 * p + 1 = (cFn2GsmTime F).t3 := congrArg GsmTime.t3 hh
    have lt : (cFn2GsmTime F).t3 < 51 := Nat.lt_of_le_of_lt (Nat.mod_le _ _) (Nat.mod_lt _ (by decide))
    omega

/-! ### the decoders invert the standard's encoder -/

/-- The reduced frame number of an SCH frame recomposes to its GSM time: T3 = 10·T3' + 1 on SCH frames, then
`C19.decomp_recomp` (CRT) and `C19.decomp_components`. -/
theorem rfn_recomposes (fn : Nat) (h : fn < 2715648) (hs : isSchFrame fn = true) (s : Nat)
    (e1 : fT1 s = fn / 1326) (e2 : fT2 s = fn % 26) (e3 : fT3p s = (fn % 51 - 1) / 10) :
    nfTime s = cFn2GsmTime fn := by
  have hr := C19.decomp_recomp fn h
  rw [C19.decomp_components fn h] at hr ⊢
  simp only [nfTime, e1, e2, e3, (rfn_valid 0 fn (by decide) h hs).1, fnOf]
  rw [show cGsmTime2Fn ⟨0, fn / 1326, fn % 26, fn % 51, 0⟩ = fn from hr]

set_option linter.unusedVariables false in -- `hg`: the firmware's decoder reads nothing above bit 24, whatever `g`
/-- Firmware: for every BSIC 0..63 and every SCH frame of the hyperframe, decoding the standard's word — with any
content of the unused bits 25..31 — returns the BSIC and exactly `gsm_fn2gsmtime(fn)`: fn, T1, T2, T3 and TC. -/
theorem decode_encode_fw (bsic fn w g : Nat) (h : encodeSb bsic fn = some w) (hg : g < 128) :
    fwDecodeSb (w + 2 ^ 25 * g) = ⟨bsic, cFn2GsmTime fn⟩ := by
  obtain ⟨⟨hb, hf, hs⟩, h⟩ := (encodeSb_eq_some bsic fn w).1 h
  obtain ⟨e0, e1, e2, e3, _⟩ := fields_of_encode _ (rfn_valid bsic fn hb hf hs).2.inWidth g
  rw [h] at e0 e1 e2 e3
  rw [fw_nf]
  exact congr (congrArg SbOut.mk e0) (rfn_recomposes fn hf hs _ e1 e2 e3)

/-- an encoded word has 25 bits -/
theorem encode_lt (bsic fn w : Nat) (h : encodeSb bsic fn = some w) : w < 2 ^ 25 := by
  obtain ⟨⟨hb, hf, hs⟩, rfl⟩ := (encodeSb_eq_some bsic fn w).1 h
  exact encodeFields_lt _ (rfn_valid bsic fn hb hf hs).2.inWidth

/-- trxcon: the same for the four octets of the word, `sb_info[3]` carrying any 7 extra bits; `tc` of the caller's
struct is not written. -/
theorem decode_encode_trx (t : GsmTime) (bsic fn w g : Nat) (h : encodeSb bsic fn = some w) (hg : g < 128) :
    trxDecodeSb t (w % 256) (w / 256 % 256) (w / 65536 % 256) (w / 16777216 + 2 * g) =
      .ok ⟨bsic, { cFn2GsmTime fn with tc := t.tc }⟩ := by
  have hw25 : w < 33554432 := encode_lt bsic fn w h
  rw [decoders_agree t _ _ _ _ (by omega) (by omega) (by omega) (by omega)]
  have : wordOf (w % 256) (w / 256 % 256) (w / 65536 % 256) (w / 16777216 + 2 * g) = w + 2 ^ 25 * g := by
    simp only [wordOf]; omega
  rw [this, decode_encode_fw bsic fn w g h hg]

/-- A word decodes to a consistent GSM time of the hyperframe (the struct is `gsm_fn2gsmtime` of its own `fn`)
exactly when its T2 and T3' fields are in the standard's ranges. -/
theorem decode_consistent_iff (sb : Nat) :
    let r := fwDecodeSb sb
    (r.time = cFn2GsmTime r.time.fn ∧ r.time.fn < 2715648) ↔ (r.time.t2 < 26 ∧ r.time.t3 < 51) := by
  have b1 := fT1_lt sb
  simp only [fw_nf, nfTime]
  generalize fT1 sb = t1 at *
  generalize fT2 sb = t2
  generalize 10 * fT3p sb + 1 = t3
  constructor
  · intro ⟨hh, hlt⟩
    have wf := C19.decomp_wf _ hlt
    rw [← hh] at wf
    exact wf.2
  · intro ⟨h2, h3⟩
    obtain ⟨p1, p2, p3⟩ := recomp_parts t1 t2 t3 h2 h3
    rw [fnOf_nonneg _ _ _ (by omega) b1 (by omega)]
    generalize 51 * ((t3 + 26 - t2) % 26) + t3 + 1326 * t1 = F at *
    have hlt : F < 2715648 := by omega
    rw [C19.decomp_components F hlt, p1, p2, p3]
    exact ⟨rfl, hlt⟩

/-- Conversely the encoder inverts the decoders: a 25-bit word with T2 ≤ 25 and T3' ≤ 4 is the standard's encoding of
the (BSIC, FN) it decodes to, and that FN is an SCH frame of the hyperframe.  Together with `decode_encode_fw`:
encoder and decoders are mutually inverse bijections between {0..63} × {SCH frames} and the valid 25-bit words. -/
theorem encode_decode (sb : Nat) (h : sb < 2 ^ 25)
    (h2 : (fwDecodeSb sb).time.t2 < 26) (h3 : (fwDecodeSb sb).time.t3 < 51) :
    encodeSb (fwDecodeSb sb).bsic (fwDecodeSb sb).time.fn = some sb := by
  obtain ⟨hc, hlt⟩ := (decode_consistent_iff sb).2 ⟨h2, h3⟩
  rw [C19.decomp_components _ hlt] at hc
  simp only [fw_nf, nfTime, GsmTime.mk.injEq, true_and] at h3 hc hlt ⊢
  generalize fnOf (fT1 sb) (fT2 sb) (10 * fT3p sb + 1) = F at *
  obtain ⟨e1, e2, e3, _⟩ := hc
  have hp : (F % 51 - 1) / 10 = fT3p sb := by omega
  refine (encodeSb_eq_some _ F sb).2 ⟨⟨fBsic_lt sb, hlt, (isSchFrame_iff F).2 (by omega)⟩, ?_⟩
  rw [← e1, ← e2, hp]
  exact encode_of_fields sb h

/-! ### non-vacuity -/

/-- first and last SCH frame of the hyperframe, BSIC 63; a mid-hyperframe frame with garbage in the unused bits -/
example : encodeSb 63 1 = some 0x400fc ∧ fwDecodeSb 0x400fc = ⟨63, cFn2GsmTime 1⟩ ∧
    encodeSb 63 2715638 = some 0xc2ffff ∧ fwDecodeSb 0xc2ffff = ⟨63, ⟨2715638, 2047, 16, 41, 7⟩⟩ ∧
    isSchFrame 1234568 = true ∧ encodeSb 37 1234568 = some 0x1a8d195 ∧
    fwDecodeSb (0x1a8d195 + 2 ^ 25 * 127) = ⟨37, ⟨1234568, 931, 10, 11, 7⟩⟩ ∧
    trxDecodeSb ⟨9, 9, 9, 9, 5⟩ 0x95 0xd1 0xa8 0xff = .ok ⟨37, ⟨1234568, 931, 10, 11, 5⟩⟩ := by decide +kernel

/-- hypotheses of `encode_decode` / `decode_consistent_iff` (valid fields) and of `t3p_invalid_not_sch` (T3' = 7, T2 = 20)
are satisfiable -/
example : (0x1a8d195 < 2 ^ 25 ∧ (fwDecodeSb 0x1a8d195).time.t2 < 26 ∧ (fwDecodeSb 0x1a8d195).time.t3 < 51) ∧
    ((fwDecodeSb 0x1d3ff03).time.t2 < 26 ∧ 51 ≤ (fwDecodeSb 0x1d3ff03).time.t3) := by decide +kernel

/-- without the `(uint32_t)` cast the model's `int` shift of `sb_info[3] ≥ 128` has no value -/
example : shlInt 0x80 24 = .error (.shlInt 0x80 24) := rfl
example : shlInt 0xff 16 = .ok 0xff0000 := rfl

end OsmoVerif.Props.C19Sch
