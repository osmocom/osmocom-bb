-- Root of the `OsmoVerif` library: every property module, so that a plain `lake build` checks them all in one environment.
-- The checks themselves build per property (`lake build OsmoVerif.Props.Cxx OsmoVerif.Driver...`, see /verif/lib/vf.py and /verif/setup):
-- a proof of one property that no longer checks must not stand in the way of the check of another.
import OsmoVerif.Props.C01
import OsmoVerif.Props.C02
import OsmoVerif.Props.C03
import OsmoVerif.Props.C04
import OsmoVerif.Props.C04Py
import OsmoVerif.Props.C05
import OsmoVerif.Props.C06
import OsmoVerif.Props.C06Msgb
import OsmoVerif.Props.C06Osmocon
import OsmoVerif.Props.C07
import OsmoVerif.Props.C08
import OsmoVerif.Props.C08Gsmtime
import OsmoVerif.Props.C09
import OsmoVerif.Props.C10
import OsmoVerif.Props.C10Burst
import OsmoVerif.Props.C11
import OsmoVerif.Props.C11Fw
import OsmoVerif.Props.C11Trx
import OsmoVerif.Props.C12
import OsmoVerif.Props.C13
import OsmoVerif.Props.C13Rand
import OsmoVerif.Props.C14
import OsmoVerif.Props.C14Parsers
import OsmoVerif.Props.C15
import OsmoVerif.Props.C16
import OsmoVerif.Props.C17
import OsmoVerif.Props.C18
import OsmoVerif.Props.C19
import OsmoVerif.Props.C19Sch
import OsmoVerif.Props.C20
import OsmoVerif.Props.C20Chain
import OsmoVerif.Props.Trxcon
